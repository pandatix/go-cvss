import Cvss.Proofs.Parse3Canon
import Cvss.Proofs.Parse3Read
import Cvss.Proofs.Parse3Inst
/-!
# C08 (v3.0 / v3.1): parse then serialise gives the canonical form

`parse s = ok c → vector c = canonical (reading of s)`; the canonical form is grammatical; canonicalisation is
idempotent (Spec level, and parse-then-serialise level); a canonical string comes back unchanged.
Generic in the header, the `Contract` and the `VecContract`.
-/
namespace C08.V3
open Proofs Proofs.Parse3
open Spec (Bytes Pair canonPairs)

variable {O : Type} (K : Contract O Spec.V3.metrics) (hdr : Bytes)
  (VK : VecContract O Spec.V3.metrics K (Spec.V3.canonical hdr))

/-- **C08**: the serialisation of the parser's result is the Spec's canonical spelling of the Spec's reading -/
theorem vector_parse (s : Bytes) (c : O) (h : Model.parse3 (hdr ++ [47]) K.zero K.set s = .ok c) :
    ∀ w, Spec.V3.Witness hdr s w → VK.vector c = Spec.V3.canonical hdr w := by
  intro w hw
  obtain ⟨hs, hw'⟩ := (witness_iff _ _ _).mp hw
  subst hs
  have hp := parse3_witness K hdr w hw'
  rw [show hdr ++ [47] = hdr ++ [Spec.SLASH] from rfl, hp] at h
  cases h
  rw [VK.vector_eq _ (K.wf_setAll w K.zero K.wf_zero)]
  apply canonical_congr
  intro m hm
  rw [K.valueOf_pairs good.nodup _ hm, K.get_setAll_zero good hw'.complete hm]

/-- the canonical spelling of a reading is grammatical, read as `canonPairs` -/
theorem canonical_grammatical (s : Bytes) (w : List Pair) (hw : Spec.V3.Witness hdr s w) :
    Spec.V3.Witness hdr (Spec.V3.canonical hdr w) (canonPairs Spec.V3.metrics w) :=
  canonical_witness hdr w (good_of_isWit w ((witness_iff _ _ _).mp hw).2)

theorem canonical_G (s : Bytes) (w : List Pair) (hw : Spec.V3.Witness hdr s w) :
    Spec.V3.G hdr (Spec.V3.canonical hdr w) := ⟨_, canonical_grammatical hdr s w hw⟩

/-- idempotence, Spec level: canonicalising the canonical reading changes nothing (for every pair list) -/
theorem canonical_idem (w : List Pair) :
    Spec.V3.canonical hdr (canonPairs Spec.V3.metrics w) = Spec.V3.canonical hdr w := by
  unfold Spec.V3.canonical
  rw [Table.canonPairs_idem good.nodup]

/-- idempotence, implementation level: parse-then-serialise twice = once -/
theorem parse_vector_idem (s : Bytes) (c : O) (h : Model.parse3 (hdr ++ [47]) K.zero K.set s = .ok c) :
    Model.parse3 (hdr ++ [47]) K.zero K.set (VK.vector c) = .ok c := by
  obtain ⟨w, _, rfl⟩ := parse3_sound K hdr s c h
  rw [VK.vector_eq _ (K.wf_setAll w K.zero K.wf_zero)]
  exact parse3_canonical_pairs K hdr _ (K.wf_setAll w K.zero K.wf_zero)

/-- a canonical string comes back unchanged -/
theorem canonical_fixed (s : Bytes) (c : O) (h : Model.parse3 (hdr ++ [47]) K.zero K.set s = .ok c)
    (w : List Pair) (hw : Spec.V3.Witness hdr s w) (hcan : s = Spec.V3.canonical hdr w) : VK.vector c = s := by
  rw [vector_parse K hdr VK s c h w hw, ← hcan]

/-- … and every canonical spelling of a grammatical vector *is* accepted and comes back unchanged -/
theorem canonical_roundtrip (s₀ : Bytes) (w : List Pair) (hw : Spec.V3.Witness hdr s₀ w) :
    ∃ c, Model.parse3 (hdr ++ [47]) K.zero K.set (Spec.V3.canonical hdr w) = .ok c ∧
      VK.vector c = Spec.V3.canonical hdr w := by
  have hcw := canonical_grammatical hdr s₀ w hw
  have hp := parse3_witness K hdr _ ((witness_iff _ _ _).mp hcw).2
  refine ⟨_, hp, ?_⟩
  have := vector_parse K hdr VK _ _ hp _ hcw
  rw [this, canonical_idem]

/-- example of a canonical form computed by the Spec: shuffled input with explicit `X` -/
example : Spec.V3.canonical Spec.V3.header31
      [(Spec.b "S", Spec.b "U"), (Spec.b "C", Spec.b "H"), (Spec.b "I", Spec.b "H"), (Spec.b "A", Spec.b "H"),
       (Spec.b "AV", Spec.b "N"), (Spec.b "AC", Spec.b "L"), (Spec.b "PR", Spec.b "N"), (Spec.b "UI", Spec.b "N"),
       (Spec.b "MAV", Spec.b "X"), (Spec.b "E", Spec.b "F")]
    = Spec.b "CVSS:3.1/AV:N/AC:L/PR:N/UI:N/S:U/C:H/I:H/A:H/E:F" := by decide +kernel

/-! ## Instances. **Final instantiation**: supply `contract30/31` and `vecContract30/31`; the equations are `rfl`. -/
section Instances
open Model (O30 O31)
variable (K30 : Contract O30 Spec.V3.metrics) (hz30 : K30.zero = O30.zero) (hs30 : K30.set = O30.set)
  (VK30 : VecContract O30 Spec.V3.metrics K30 (Spec.V3.canonical Spec.V3.header30)) (hv30 : VK30.vector = O30.vector)
variable (K31 : Contract O31 Spec.V3.metrics) (hz31 : K31.zero = O31.zero) (hs31 : K31.set = O31.set)
  (VK31 : VecContract O31 Spec.V3.metrics K31 (Spec.V3.canonical Spec.V3.header31)) (hv31 : VK31.vector = O31.vector)

include hz30 hs30 hv30 in
theorem vector_parse_30 (s : Bytes) (c : O30) (h : Model.parse30 s = .ok c) :
    ∀ w, Spec.V3.Witness Spec.V3.header30 s w → c.vector = Spec.V3.canonical Spec.V3.header30 w := by
  rw [parse30_eq_K K30 hz30 hs30] at h
  rw [← hv30]; exact vector_parse K30 _ VK30 s c h
include hz31 hs31 hv31 in
theorem vector_parse_31 (s : Bytes) (c : O31) (h : Model.parse31 s = .ok c) :
    ∀ w, Spec.V3.Witness Spec.V3.header31 s w → c.vector = Spec.V3.canonical Spec.V3.header31 w := by
  rw [parse31_eq_K K31 hz31 hs31] at h
  rw [← hv31]; exact vector_parse K31 _ VK31 s c h
include hz30 hs30 hv30 in
theorem parse_vector_idem_30 (s : Bytes) (c : O30) (h : Model.parse30 s = .ok c) : Model.parse30 c.vector = .ok c := by
  rw [parse30_eq_K K30 hz30 hs30] at h ⊢
  rw [← hv30]; exact parse_vector_idem K30 _ VK30 s c h
include hz31 hs31 hv31 in
theorem parse_vector_idem_31 (s : Bytes) (c : O31) (h : Model.parse31 s = .ok c) : Model.parse31 c.vector = .ok c := by
  rw [parse31_eq_K K31 hz31 hs31] at h ⊢
  rw [← hv31]; exact parse_vector_idem K31 _ VK31 s c h
end Instances

end C08.V3
