import Cvss.Proofs.BitsCommon
import Cvss.Proofs.BitField
/-!
# CVSS v2.0: the generated bit-field `Get`/`Set` satisfy the contract (C07, C09)

`codes` and `upd` transcribe the field extraction of `GenV20.Get` and the byte updates of `GenV20.Set`;
`get_core`/`set_known` tie them to the generated definitions (by unfolding those), so any change of a mask,
shift, literal or value list in the Go source breaks a proof below.  The bit facts are proved for ALL
`Nat`-valued fields (in particular all byte states): writing a field and reading the codes back is an instance of
the lemmas of `BitField.lean` per arm; only the converse, that the codes determine the bytes, enumerates a byte.
-/
namespace Bits20
open Bits Model BitField
open Spec (Metric legal isMetric)

abbrev ms : List Metric := Spec.V2.metrics

theorem tableOK : TableOK ms where
  nodup := by decide +kernel
  vne := by decide +kernel

/-- field codes in Spec table order, as `GenV20.Get` extracts them -/
def codes : O20 → List Nat
  | ⟨u0, u1, u2, u3⟩ =>
    [ Nat.shiftRight (Nat.land u0 192) 6,
      Nat.shiftRight (Nat.land u0 48) 4,
      Nat.shiftRight (Nat.land u0 12) 2,
      Nat.land u0 3,
      Nat.shiftRight (Nat.land u1 192) 6,
      Nat.shiftRight (Nat.land u1 48) 4,
      Nat.shiftRight (Nat.land u1 14) 1,
      Nat.lor (Nat.mod (Nat.shiftLeft (Nat.land u1 1) 2) 256) (Nat.shiftRight (Nat.land u2 192) 6),
      Nat.shiftRight (Nat.land u2 48) 4,
      Nat.shiftRight (Nat.land u2 14) 1,
      Nat.lor (Nat.mod (Nat.shiftLeft (Nat.land u2 1) 2) 256) (Nat.shiftRight (Nat.land u3 192) 6),
      Nat.shiftRight (Nat.land u3 48) 4,
      Nat.shiftRight (Nat.land u3 12) 2,
      Nat.land u3 3 ]

def upd : Nat → O20 → Nat → O20
  | 0, ⟨u0, u1, u2, u3⟩, k => ⟨Nat.lor (Nat.land u0 63) (Nat.mod (Nat.shiftLeft k 6) 256), u1, u2, u3⟩  -- AV
  | 1, ⟨u0, u1, u2, u3⟩, k => ⟨Nat.lor (Nat.land u0 207) (Nat.mod (Nat.shiftLeft k 4) 256), u1, u2, u3⟩  -- AC
  | 2, ⟨u0, u1, u2, u3⟩, k => ⟨Nat.lor (Nat.land u0 243) (Nat.mod (Nat.shiftLeft k 2) 256), u1, u2, u3⟩  -- Au
  | 3, ⟨u0, u1, u2, u3⟩, k => ⟨Nat.lor (Nat.land u0 252) k, u1, u2, u3⟩  -- C
  | 4, ⟨u0, u1, u2, u3⟩, k => ⟨u0, Nat.lor (Nat.land u1 63) (Nat.mod (Nat.shiftLeft k 6) 256), u2, u3⟩  -- I
  | 5, ⟨u0, u1, u2, u3⟩, k => ⟨u0, Nat.lor (Nat.land u1 207) (Nat.mod (Nat.shiftLeft k 4) 256), u2, u3⟩  -- A
  | 6, ⟨u0, u1, u2, u3⟩, k => ⟨u0, Nat.lor (Nat.land u1 241) (Nat.mod (Nat.shiftLeft k 1) 256), u2, u3⟩  -- E
  | 7, ⟨u0, u1, u2, u3⟩, k => ⟨u0, Nat.lor (Nat.land u1 254) (Nat.shiftRight (Nat.land k 4) 2), Nat.lor (Nat.land u2 63) (Nat.mod (Nat.shiftLeft (Nat.land k 3) 6) 256), u3⟩  -- RL
  | 8, ⟨u0, u1, u2, u3⟩, k => ⟨u0, u1, Nat.lor (Nat.land u2 207) (Nat.mod (Nat.shiftLeft k 4) 256), u3⟩  -- RC
  | 9, ⟨u0, u1, u2, u3⟩, k => ⟨u0, u1, Nat.lor (Nat.land u2 241) (Nat.mod (Nat.shiftLeft k 1) 256), u3⟩  -- CDP
  | 10, ⟨u0, u1, u2, u3⟩, k => ⟨u0, u1, Nat.lor (Nat.land u2 254) (Nat.shiftRight (Nat.land k 4) 2), Nat.lor (Nat.land u3 63) (Nat.mod (Nat.shiftLeft (Nat.land k 3) 6) 256)⟩  -- TD
  | 11, ⟨u0, u1, u2, u3⟩, k => ⟨u0, u1, u2, Nat.lor (Nat.land u3 207) (Nat.mod (Nat.shiftLeft k 4) 256)⟩  -- CR
  | 12, ⟨u0, u1, u2, u3⟩, k => ⟨u0, u1, u2, Nat.lor (Nat.land u3 243) (Nat.mod (Nat.shiftLeft k 2) 256)⟩  -- IR
  | 13, ⟨u0, u1, u2, u3⟩, k => ⟨u0, u1, u2, Nat.lor (Nat.land u3 252) k⟩  -- AR
  | _, c, _ => c

def core (rs : List Nat) (abv : Bytes) : Bytes × Go.Err :=
  GenV20.Get_core (rs.getD 0 0) (rs.getD 1 0) (rs.getD 2 0) (rs.getD 3 0) (rs.getD 4 0) (rs.getD 5 0) (rs.getD 6 0)
    (rs.getD 7 0) (rs.getD 8 0) (rs.getD 9 0) (rs.getD 10 0) (rs.getD 11 0) (rs.getD 12 0) (rs.getD 13 0) abv

theorem get_core (c : O20) (abv : Bytes) : c.get abv = core (codes c) abv := by
  obtain ⟨u0, u1, u2, u3⟩ := c; rfl

theorem codes_len (c : O20) : (codes c).length = ms.length := by
  obtain ⟨u0, u1, u2, u3⟩ := c; rfl

/-- the value strings of metric `j` in the code's numbering, read off the generated `Get_core`
    (decode codes 0, 1, … until the empty string) -/
def vals (j : Nat) : List Bytes :=
  ((List.range 8).map fun x => (core (List.replicate 14 x) (mAt ms j).abv).1).takeWhile (fun v => !v.isEmpty)

theorem vals_nodup : ∀ j, j < 14 → (vals j).Nodup := by decide +kernel
theorem vals_len : ∀ j, j < 14 → (vals j).length ≤ 256 := by decide +kernel
/-- the code's value strings are exactly the Spec's (the code numbers v2 `AC` as L,M,H; the guide lists H,M,L) -/
theorem vals_spec : ∀ j, j < 14 → ∀ v, v ∈ vals j ↔ v ∈ (mAt ms j).values := by
  have h : ∀ j, j < 14 → sameMembers (vals j) (mAt ms j).values = true := by decide +kernel
  exact fun j hj => sameMembers_iff (h j hj)

theorem core_known : ∀ j, j < 14 → ∀ rs : List Nat,
    core rs (mAt ms j).abv = ((vals j).getD (rs.getD j 0) [], Go.errNil) := by
  split_lt <;> (
    intro rs
    simp only [core, GenV20.Get_core, flet_eq, reduceStrEq, cond_true, cond_false]
    generalize rs.getD _ 0 = x
    match x with
    | 0 | 1 | 2 | 3 | 4 | 5 | 6 | 7 => rfl
    | n+8 => rfl)

theorem get_known (j : Nat) (hj : j < ms.length) (c : O20) :
    c.get (mAt ms j).abv = ((vals j).getD ((codes c).getD j 0) [], Go.errNil) := by
  rw [get_core]; exact core_known j hj _

theorem get_default (c : O20) (a : Bytes) (h : a ∉ ms.map (·.abv)) : c.get a = ([], eInvalidMetric a) := by
  obtain ⟨u0, u1, u2, u3⟩ := c
  simp (disch := exact ne_of_not_mem h (by decide)) only
    [O20.get, GenV20.Get, GenV20.Get_core, cond_strEq_ne]
  rfl

theorem set_default (c : O20) (a v : Bytes) (h : a ∉ ms.map (·.abv)) : c.set a v = (c, eInvalidMetric a) := by
  obtain ⟨u0, u1, u2, u3⟩ := c
  simp (disch := exact ne_of_not_mem h (by decide)) only
    [O20.set, GenV20.Set, cond_strEq_ne]
  rfl

theorem set_known : ∀ j, j < 14 → ∀ (c : O20) (v : Bytes), c.set (mAt ms j).abv v =
    (match validate v (vals j) with
     | (k, err) => cond (!(Go.Err.beq err Go.errNil)) (c, err) (upd j c k, Go.errNil)) := by
  split_lt <;> (
    rintro ⟨u0, u1, u2, u3⟩ v
    generalize hp : validate v (vals _) = p
    simp only [O20.set, GenV20.Set, flet_eq, reduceStrEq, cond_true, cond_false]
    generalize hq : GenV20.validate v _ = q
    obtain rfl : q = p := hq.symm.trans hp
    obtain ⟨k, err⟩ := q
    cases Go.Err.beq err Go.errNil <;> rfl)

def width (j : Nat) : Nat := [2, 2, 2, 2, 2, 2, 3, 3, 2, 3, 3, 2, 2, 2].getD j 0

theorem vals_fit : ∀ j, j < 14 → (vals j).length ≤ 2 ^ width j := by decide +kernel

/-- `RL` and `TD` straddle two bytes: bit 2 of the index is stored in bit 0 of one byte, bits 1–0 in bits 7–6 of the next -/
theorem join : ∀ k, k < 2 ^ 3 →
    Nat.lor (Nat.mod (Nat.shiftLeft (Nat.shiftRight (Nat.land k 4) 2) 2) 256) (Nat.land k 3) = k := by decide

/-- `codes` reads the written field back, and every other field of the same byte through a mask that the clear mask
    keeps -/
theorem upd_codes : ∀ j, j < 14 → ∀ (c : O20) (k : Nat), k < (vals j).length →
    codes (upd j c k) = (codes c).set j k := by
  intro j hj ⟨u0, u1, u2, u3⟩ k hk
  replace hk : k < 2 ^ width j := Nat.lt_of_lt_of_le hk (vals_fit j hj)
  match j with
  | 7 | 10 =>
    have hi : Nat.shiftRight (Nat.land k 4) 2 < 2 ^ 1 := shr_land_lt k 4 2 1 (by decide)
    have lo : Nat.land k 3 < 2 ^ 2 := shr_land_lt k 3 0 2 (by decide)
    -- `show` lets the unifier compute arm `j` of `upd`; `simp only [upd]` would try its equations one after the other
    show codes (O20.mk _ _ _ _) = _
    simp (disch := decide) only [codes, List.set_cons_zero, List.set_cons_succ, get_wr0 (hi := hi), get_wr (hi := lo),
      keep_wr0 (hi := hi), keep_wr (hi := lo), join k hk]
  | 0 | 1 | 2 | 3 | 4 | 5 | 6 | 8 | 9 | 11 | 12 | 13 =>
    show codes (O20.mk _ _ _ _) = _
    simp (disch := decide) only [codes, List.set_cons_zero, List.set_cons_succ, get_wr (hi := hk), get_wr0 (hi := hk),
      keep_wr (hi := hk), keep_wr0 (hi := hk)]
  | n + 14 => omega

theorem upd_isB : ∀ j, j < 14 → ∀ (c : O20) (k : Nat), k < (vals j).length →
    c.IsBytes → (upd j c k).IsBytes := by
  intro j hj ⟨u0, u1, u2, u3⟩ k hk ⟨h0, h1, h2, h3⟩
  replace hk : k < 256 := Nat.lt_of_lt_of_le hk (vals_len j hj)
  have hi : Nat.shiftRight (Nat.land k 4) 2 < 256 := Nat.lt_trans (shr_land_lt k 4 2 1 (by decide)) (by decide)
  match j with
  | 0 | 1 | 2 | 3 | 4 | 5 | 6 | 7 | 8 | 9 | 10 | 11 | 12 | 13 =>
    show O20.IsBytes (O20.mk _ _ _ _)
    simp (disch := decide) only [O20.IsBytes, h0, h1, h2, h3, and_self, wr_lt, wr0_lt (hx := hk), wr0_lt (hx := hi)]
  | n + 14 => exact ⟨h0, h1, h2, h3⟩

/-- the bytes are determined by the codes -/
def recon (rs : List Nat) : O20 :=
  ⟨rs.getD 0 0 * 64 + rs.getD 1 0 * 16 + rs.getD 2 0 * 4 + rs.getD 3 0,
   rs.getD 4 0 * 64 + rs.getD 5 0 * 16 + rs.getD 6 0 * 2 + rs.getD 7 0 / 4,
   rs.getD 7 0 % 4 * 64 + rs.getD 8 0 * 16 + rs.getD 9 0 * 2 + rs.getD 10 0 / 4,
   rs.getD 10 0 % 4 * 64 + rs.getD 11 0 * 16 + rs.getD 12 0 * 4 + rs.getD 13 0⟩

theorem recon_codes (c : O20) (h : c.IsBytes) : recon (codes c) = c := by
  obtain ⟨u0, u1, u2, u3⟩ := c
  obtain ⟨h0, h1, h2, h3⟩ := h
  have lo : ∀ u, u < 256 → Nat.shiftRight (Nat.land u 192) 6 < 4 := by decide +kernel
  have hi : ∀ u, u < 256 → Nat.mod (Nat.shiftLeft (Nat.land u 1) 2) 256 = 0 ∨
      Nat.mod (Nat.shiftLeft (Nat.land u 1) 2) 256 = 4 := by decide +kernel
  have e0 : ∀ u, u < 256 → Nat.shiftRight (Nat.land u 192) 6 * 64 + Nat.shiftRight (Nat.land u 48) 4 * 16 +
      Nat.shiftRight (Nat.land u 12) 2 * 4 + Nat.land u 3 = u := by decide +kernel
  have e1 : ∀ u, u < 256 → ∀ x, x < 4 → Nat.shiftRight (Nat.land u 192) 6 * 64 + Nat.shiftRight (Nat.land u 48) 4 * 16 +
      Nat.shiftRight (Nat.land u 14) 1 * 2 + Nat.lor (Nat.mod (Nat.shiftLeft (Nat.land u 1) 2) 256) x / 4 = u := by
    decide +kernel
  have e2 : ∀ u, u < 256 → ∀ y, y < 5 → (y = 0 ∨ y = 4) → ∀ x, x < 4 →
      Nat.lor y (Nat.shiftRight (Nat.land u 192) 6) % 4 * 64 + Nat.shiftRight (Nat.land u 48) 4 * 16 +
      Nat.shiftRight (Nat.land u 14) 1 * 2 + Nat.lor (Nat.mod (Nat.shiftLeft (Nat.land u 1) 2) 256) x / 4 = u := by
    decide +kernel
  have e3 : ∀ u, u < 256 → ∀ y, y < 5 → (y = 0 ∨ y = 4) →
      Nat.lor y (Nat.shiftRight (Nat.land u 192) 6) % 4 * 64 + Nat.shiftRight (Nat.land u 48) 4 * 16 +
      Nat.shiftRight (Nat.land u 12) 2 * 4 + Nat.land u 3 = u := by
    decide +kernel
  have lt5 : ∀ {y}, (y = 0 ∨ y = 4) → y < 5 := by rintro y (rfl | rfl) <;> decide
  show O20.mk _ _ _ _ = _
  congr 1
  · exact e0 u0 h0
  · exact e1 u1 h1 _ (lo u2 h2)
  · exact e2 u2 h2 _ (lt5 (hi u1 h1)) (hi u1 h1) _ (lo u3 h3)
  · exact e3 u3 h3 _ (lt5 (hi u2 h2)) (hi u2 h2)

theorem codes_inj (c c' : O20) (h : c.IsBytes) (h' : c'.IsBytes) (_ : True) (_ : True)
    (e : codes c = codes c') : c = c' := by
  rw [← recon_codes c h, ← recon_codes c' h', e]

theorem wfB_iff (c : O20) : c.wf = true ↔ c.IsBytes ∧ True ∧ legalGets ms c.get = true := by
  obtain ⟨u0, u1, u2, u3⟩ := c
  simp [O20.wf, O20.bytes, O20.IsBytes, and_assoc]

def layout : Layout O20 ms where
  zero := O20.zero
  get := O20.get
  set := O20.set
  wfB := O20.wf
  IsB := O20.IsBytes
  Spare := fun _ => True
  codes := codes
  upd := upd
  vals := vals
  vals_nodup := vals_nodup
  vals_len := vals_len
  vals_spec := vals_spec
  codes_len := codes_len
  get_known := get_known
  get_default := get_default
  set_known := set_known
  set_default := set_default
  upd_codes := upd_codes
  upd_isB := upd_isB
  upd_spare := fun _ _ _ _ _ _ => trivial
  codes_inj := codes_inj
  wfB_iff := wfB_iff
  wf_zero := by decide
  zero_opt := by decide

/-- **the v2.0 Get/Set contract**, with `WF c := c.wf = true` -/
def contract20 : Proofs.Contract O20 Spec.V2.metrics := layout.contract tableOK

theorem set_other (c : O20) (a v a' : Bytes) (h : legal ms a v = true) (hm : isMetric ms a' = true)
    (hne : a' ≠ a) : (c.set a v).1.get a' = c.get a' := contract20.get_set_other c a v a' h hm hne

theorem get_ok_iff (c : O20) (a : Bytes) : (c.get a).2 = Go.errNil ↔ isMetric ms a = true := layout.get_ok_iff c a

theorem wf_set (c : O20) (a v : Bytes) (h : c.wf = true) : (c.set a v).1.wf = true := contract20.wf_set c a v h

/-- **reachable = well-formed**: `→` by induction over the history of `Set` calls; `←` by `Set`ting every
    metric of the Spec table, in order, on the zero value (`Bits.rebuild`) -/
theorem reachable_iff_wf (c : O20) : O20.Reachable c ↔ c.wf = true := by
  constructor
  · intro h
    show contract20.WF c  -- the contract's fields then apply as they are; against `_.wf = true` the zero case is evaluated
    induction h with
    | zero => exact contract20.wf_zero
    | set c a v _ ih => exact contract20.wf_set c a v ih
  · exact fun h => closed_of_wf contract20 tableOK h .zero fun c a v => .set c a v

theorem rebuild_eq (c : O20) (h : c.wf = true) : rebuild contract20 c ms O20.zero = c :=
  Bits.rebuild_eq contract20 tableOK c h

end Bits20
