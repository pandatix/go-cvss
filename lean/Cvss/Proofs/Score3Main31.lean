import Cvss.Proofs.Score3Env31_0
import Cvss.Proofs.Score3Env31_1
import Cvss.Proofs.Score3Env31_2
import Cvss.Proofs.Score3Env31_3
import Cvss.Proofs.Score3T31
import Cvss.Proofs.Score3Base31
import Cvss.Proofs.Score3Codes31
import Cvss.Proofs.NoPanic3Common
/-!
# C03: composition — the three scores of every well-formed object are the Spec's tenths

enumerations (a) `base_all`, (b) `okT_all`, (c) `okInner_all` + shape lemmas (d) + codes/strings (e).
The two versions differ in `BaseScore_core`, `TemporalScore_core`, `EnvironmentalScore_core` and `Inner`, and the
argument uses of these only the shape lemmas and the tables (a), (c): it is given once, for a `Version`. The temporal
step (b), the weight functions and `Get` are common. Then v3.1.
-/
namespace Proofs.Score3
open Spec Spec.V3 GenV31 V31

/-! ## (b) the Temporal step -/

theorem okT_all {k e rl rc : Nat} (hk : k ≤ 100) (he : e < 5) (hrl : rl < 5) (hrc : rc < 4) : okT k e rl rc = true := by
  have hX : ∀ c n, c < n + 2 → ∃ i, i < n + 1 ∧ nX c = Nat.succ i := by
    intro c n h
    rcases nX_cases c with ⟨rfl, h1⟩ | ⟨h0, h1⟩
    · exact ⟨0, by omega, h1⟩
    · exact ⟨c - 1, by omega, by omega⟩
  obtain ⟨e', he', ee⟩ := hX e 3 he
  obtain ⟨rl', hrl', erl⟩ := hX rl 3 hrl
  obtain ⟨rc', hrc', erc⟩ := hX rc 2 hrc
  rw [okT_nX, ee, erl, erc]
  exact all_range (all_range (all_range (all_range t_all (i := k) (by omega)) he') hrl') hrc'

/-- (b) the Temporal step on a tenth -/
theorem t_ok {k e rl rc : Nat} (hk : k ≤ 100) (he : e < 5) (hrl : rl < 5) (hrc : rc < 4) :
    ∃ K : Nat, specT (Int.ofNat k) e rl rc = Int.ofNat K ∧
      T (F64.tenth k) (exploitCodeMaturity e) (remediationLevel rl) (reportConfidence rc) = F64.tenth K ∧ K ≤ 100 := by
  have h := okT_all hk he hrl hrc
  simp only [okT, Bool.and_eq_true] at h
  exact isTenth_elim h.1

/-! ## The Spec on the strings that `Get` returns = the Spec on codes -/
section spec
variable {r : Nat → Nat} (v : Bool) (R : InRange r)
include R

theorem spec_base : baseK v (vec r) = (specBase (r 0) (r 1) (r 2) (r 3) (r 4) (r 5) (r 6) (r 7)).toNat := by
  simp only [vec, baseK, specBase, spec_impact R.h4 R.h5 R.h6 R.h7, spec_expl R.h0 R.h1 R.h2 R.h3 R.h4, w_S R.h4]
theorem spec_temporal : temporalK v (vec r) = (specT (Int.ofNat (baseK v (vec r))) (r 8) (r 9) (r 10)).toNat := by
  simp only [vec, temporalK, specT, w_E R.h8, w_RL R.h9, w_RC R.h10]; rfl
theorem spec_env :
    environmentalK v (vec r) = (specT (specInner v (mod_ (r 0) (r 14)) (mod_ (r 1) (r 15)) (mod_ (r 2) (r 16))
      (mod_ (r 3) (r 17)) (mod_ (r 4) (r 18)) (mod_ (r 5) (r 19)) (mod_ (r 6) (r 20)) (mod_ (r 7) (r 21)) (r 11) (r 12)
      (r 13)) (r 8) (r 9) (r 10)).toNat := by
  simp only [vec, environmentalK, modifiedImpactD, modifiedExploitabilityD, specT, specInner, specMImpact, specExpl,
    EnvironmentalScore_eq, w_MS R.h4 R.h18, w_MAV R.h0 R.h14, w_MAC R.h1 R.h15, w_MPR R.h2 R.h16, w_MUI R.h3 R.h17,
    w_MC R.h5 R.h19, w_MI R.h6 R.h20, w_MA R.h7 R.h21, w_CR R.h11, w_IR R.h12, w_AR R.h13, w_E R.h8, w_RL R.h9,
    w_RC R.h10]
end spec

/-! ## Requirement code `X` -/

theorem nR_rng : ∀ r, r < 4 → 1 ≤ nR r ∧ nR r ≤ 3 := by decide

theorem specMImpact_nR (v : Bool) (ms mc mi ma cr ir ar : Nat) :
    specMImpact v ms mc mi ma cr ir ar = specMImpact v ms mc mi ma (nR cr) (nR ir) (nR ar) := by
  simp only [specMImpact, ← cReq_nR]

theorem specInner_nR (v : Bool) (mav mac mpr mui ms mc mi ma cr ir ar : Nat) :
    specInner v mav mac mpr mui ms mc mi ma cr ir ar =
    specInner v mav mac mpr mui ms mc mi ma (nR cr) (nR ir) (nR ar) := by
  simp only [specInner, ← specMImpact_nR]

theorem agree_of {p : Prop} [Decidable p] {x : Dec} (h : (decide p || agreeA x) = true) :
    p ∨ (Roundup x = RoundupA x ∧ noTie x = true) := by
  simp only [Bool.or_eq_true, Bool.and_eq_true, decide_eq_true_eq, agreeA] at h; exact h

theorem allBaseOn_elim {base : Nat → Nat → Nat → Nat → Nat → Nat → Nat → Nat → Nat → Nat} (h : allBaseOn base = true)
    {av ac pr ui s c i a : Nat} (hav : av < 4) (hac : ac < 2) (hpr : pr < 3) (hui : ui < 2) (hs : s < 2)
    (hc : c < 3) (hi : i < 3) (ha : a < 3) : okBaseOn base av ac pr ui s c i a = true :=
  all_range (all_range (all_range (all_range (all_range (all_range (all_range (all_range h hs) hc) hi) ha) hav) hac) hpr) hui

/-! ## One version -/

section version
variable (v : Bool) (base : Nat → Nat → Nat → Nat → Nat → Nat → Nat → Nat → Nat → Nat)
  (temporal : Nat → Nat → Nat → Nat → Nat → Nat → Nat → Nat → Nat → Nat → Nat → Nat → Nat)
  (env : Nat → Nat → Nat → Nat → Nat → Nat → Nat → Nat → Nat → Nat → Nat → Nat → Nat → Nat → Nat → Nat → Nat → Nat → Nat → Nat → Nat → Nat → Nat)
  (inner : Nat → Nat → Nat → Nat → Nat → Nat → Nat → Nat → Nat → Nat → Nat → Nat)

/-- `base`, `temporal`, `env` are the `BaseScore_core`, `TemporalScore_core`, `EnvironmentalScore_core` of one package,
    `inner` its `Inner`, `v` selects its ModifiedImpact formula in the Spec: what the composition uses of them -/
structure Version : Prop where
  base_scope : ∀ c i a su av ac pr s ui, Nat.beq su 0 = Nat.beq s 0 →
    base c i a su av ac pr s ui = base c i a s av ac pr s ui
  temporal_shape : ∀ r0 r1 r2 r3 r4 r5 r6 r7 r8 r9 r10 r11, temporal r0 r1 r2 r3 r4 r5 r6 r7 r8 r9 r10 r11 =
    T (base r3 r4 r5 r6 r7 r8 r9 r10 r11) (exploitCodeMaturity r0) (remediationLevel r1) (reportConfidence r2)
  env_shape : ∀ r0 r1 r2 r3 r4 r5 r6 r7 r8 r9 r10 r11 r12 r13 r14 r15 r16 r17 r18 r19 r20 r21, r19 < 5 → r20 < 5 → r21 < 4 →
    env r0 r1 r2 r3 r4 r5 r6 r7 r8 r9 r10 r11 r12 r13 r14 r15 r16 r17 r18 r19 r20 r21 =
    T (inner (mod_ r0 r1) (mod_ r2 r3) (mod_ r4 r5) (mod_ r6 r7) (mod_ r8 r9) (mod_ r10 r11) (mod_ r12 r13) (mod_ r14 r15)
        r16 r17 r18) (exploitCodeMaturity r19) (remediationLevel r20) (reportConfidence r21)
  inner_nR : ∀ mav mac mpr mui ms mc mi ma cr ir ar, cr < 4 → ir < 4 → ar < 4 →
    inner mav mac mpr mui ms mc mi ma cr ir ar = inner mav mac mpr mui ms mc mi ma (nR cr) (nR ir) (nR ar)
  base_tab : allBaseOn base = true
  inner_tab : ∀ {ms mav mac mpr mui mc mi ma cr ir ar}, ms < 2 → mav < 4 → mac < 2 → mpr < 3 → mui < 2 → mc < 3 →
    mi < 3 → ma < 3 → 1 ≤ cr ∧ cr ≤ 3 → 1 ≤ ir ∧ ir ≤ 3 → 1 ≤ ar ∧ ar ≤ 3 →
    okInnerOn v inner mav mac mpr mui ms mc mi ma cr ir ar = true

namespace Version
variable {v base temporal env inner} (M : Version v base temporal env inner) {r : Nat → Nat} (R : InRange r)
include M

/-- (a) Base -/
theorem base_ok {av ac pr ui s c i a : Nat} (hav : av < 4) (hac : ac < 2) (hpr : pr < 3) (hui : ui < 2) (hs : s < 2)
    (hc : c < 3) (hi : i < 3) (ha : a < 3) :
    ∃ K : Nat, specBase av ac pr ui s c i a = Int.ofNat K ∧ base c i a s av ac pr s ui = F64.tenth K ∧ K ≤ 100 := by
  have h := allBaseOn_elim M.base_tab hav hac hpr hui hs hc hi ha
  simp only [okBaseOn, Bool.and_eq_true] at h
  exact isTenth_elim h.1

/-- (c) on every effective code tuple: the modified base score is the Spec's, a tenth `K/10 ≤ 10` -/
theorem inner_ok {mav mac mpr mui ms mc mi ma cr ir ar : Nat} (hmav : mav < 4) (hmac : mac < 2) (hmpr : mpr < 3)
    (hmui : mui < 2) (hms : ms < 2) (hmc : mc < 3) (hmi : mi < 3) (hma : ma < 3) (hcr : cr < 4) (hir : ir < 4) (har : ar < 4) :
    ∃ K : Nat, specInner v mav mac mpr mui ms mc mi ma cr ir ar = Int.ofNat K ∧
      inner mav mac mpr mui ms mc mi ma cr ir ar = F64.tenth K ∧ K ≤ 100 := by
  have h := M.inner_tab hms hmav hmac hmpr hmui hmc hmi hma (nR_rng cr hcr) (nR_rng ir hir) (nR_rng ar har)
  simp only [okInnerOn, Bool.and_eq_true] at h
  rw [M.inner_nR _ _ _ _ _ _ _ _ _ _ _ hcr hir har, specInner_nR]
  exact isTenth_elim h.1

/-- Appendix A on the arguments of the Environmental equation's inner `Roundup` (same enumeration; no code in the statement) -/
theorem appendixA_inner {mav mac mpr mui ms mc mi ma cr ir ar : Nat} (hmav : mav < 4) (hmac : mac < 2) (hmpr : mpr < 3)
    (hmui : mui < 2) (hms : ms < 2) (hmc : mc < 3) (hmi : mi < 3) (hma : ma < 3) (hcr : cr < 4) (hir : ir < 4) (har : ar < 4) :
    specMImpact v ms mc mi ma cr ir ar ≤ 0 ∨
    (Roundup (baseArg (Nat.beq ms 1) (specMImpact v ms mc mi ma cr ir ar) (specExpl mav mac mpr mui ms)) =
      RoundupA (baseArg (Nat.beq ms 1) (specMImpact v ms mc mi ma cr ir ar) (specExpl mav mac mpr mui ms)) ∧
     noTie (baseArg (Nat.beq ms 1) (specMImpact v ms mc mi ma cr ir ar) (specExpl mav mac mpr mui ms)) = true) := by
  have h := M.inner_tab hms hmav hmac hmpr hmui hmc hmi hma (nR_rng cr hcr) (nR_rng ir hir) (nR_rng ar har)
  simp only [okInnerOn, Bool.and_eq_true] at h
  rw [specMImpact_nR]
  exact agree_of h.2

/-! On a code vector in range; `kS` is the scope field as `BaseScore` reads it, tested for zero only -/
include R

theorem base_codes {kS : Nat} (hS : Nat.beq kS 0 = Nat.beq (r 4) 0) :
    base (r 5) (r 6) (r 7) kS (r 0) (r 1) (r 2) (r 4) (r 3) = F64.tenth (baseK v (vec r)) ∧ baseK v (vec r) ≤ 100 := by
  obtain ⟨K, hs, hm, hK⟩ := M.base_ok R.h0 R.h1 R.h2 R.h3 R.h4 R.h5 R.h6 R.h7
  rw [M.base_scope _ _ _ _ _ _ _ _ _ hS, spec_base v R, hs]
  exact ⟨hm, hK⟩

theorem temporal_codes {kS : Nat} (hS : Nat.beq kS 0 = Nat.beq (r 4) 0) :
    temporal (r 8) (r 9) (r 10) (r 5) (r 6) (r 7) kS (r 0) (r 1) (r 2) (r 4) (r 3) = F64.tenth (temporalK v (vec r)) ∧
      temporalK v (vec r) ≤ 100 := by
  obtain ⟨hb, hK⟩ := M.base_codes R hS
  obtain ⟨K', hs', hm', hK'⟩ := t_ok hK R.h8 R.h9 R.h10
  rw [M.temporal_shape, hb, spec_temporal v R, hs']
  exact ⟨hm', hK'⟩

theorem env_codes :
    env (r 0) (r 14) (r 1) (r 15) (r 2) (r 16) (r 3) (r 17) (r 4) (r 18) (r 5) (r 19) (r 6) (r 20) (r 7) (r 21) (r 11)
      (r 12) (r 13) (r 8) (r 9) (r 10) = F64.tenth (environmentalK v (vec r)) ∧ environmentalK v (vec r) ≤ 100 := by
  -- effective codes stay in the Base metric's range
  have lt := @NoPanic3.IsMod.lt mod_ (fun _ _ => rfl)
  obtain ⟨K, hs, hm, hK⟩ := M.inner_ok (lt (by decide) R.h0 R.h14) (lt (by decide) R.h1 R.h15) (lt (by decide) R.h2 R.h16)
    (lt (by decide) R.h3 R.h17) (lt (by decide) R.h4 R.h18) (lt (by decide) R.h5 R.h19) (lt (by decide) R.h6 R.h20)
    (lt (by decide) R.h7 R.h21) R.h11 R.h12 R.h13
  obtain ⟨K', hs', hm', hK'⟩ := t_ok hK R.h8 R.h9 R.h10
  rw [M.env_shape _ _ _ _ _ _ _ _ _ _ _ _ _ _ _ _ _ _ _ _ _ _ R.h8 R.h9 R.h10, hm, spec_env v R, hs, hs']
  exact ⟨hm', hK'⟩

end Version
end version

/-! ## v3.1 -/
namespace V31

theorem env_all {ms mav mac : Nat} (hms : ms < 2) (hmav : mav < 4) (hmac : mac < 2) : chunkEnv ms mav mac = true := by
  have : ms = 0 ∨ ms = 1 := by omega
  have : mav = 0 ∨ mav = 1 ∨ mav = 2 ∨ mav = 3 := by omega
  have : mac = 0 ∨ mac = 1 := by omega
  rcases ‹ms = 0 ∨ _› with rfl | rfl <;> rcases ‹mav = 0 ∨ _› with rfl | rfl | rfl | rfl <;>
    rcases ‹mac = 0 ∨ _› with rfl | rfl
  · exact env_0_0_0
  · exact env_0_0_1
  · exact env_0_1_0
  · exact env_0_1_1
  · exact env_0_2_0
  · exact env_0_2_1
  · exact env_0_3_0
  · exact env_0_3_1
  · exact env_1_0_0
  · exact env_1_0_1
  · exact env_1_1_0
  · exact env_1_1_1
  · exact env_1_2_0
  · exact env_1_2_1
  · exact env_1_3_0
  · exact env_1_3_1

/-- (c) every inner tuple with requirement codes other than `X` -/
theorem okInner_all {ms mav mac mpr mui mc mi ma cr ir ar : Nat} (hms : ms < 2) (hmav : mav < 4) (hmac : mac < 2)
    (hmpr : mpr < 3) (hmui : mui < 2) (hmc : mc < 3) (hmi : mi < 3) (hma : ma < 3)
    (hcr : 1 ≤ cr ∧ cr ≤ 3) (hir : 1 ≤ ir ∧ ir ≤ 3) (har : 1 ≤ ar ∧ ar ≤ 3) :
    okInner mav mac mpr mui ms mc mi ma cr ir ar = true :=
  chunkEnvOn_elim (env_all hms hmav hmac) hmpr hmui hmc hmi hma hcr hir har

theorem version : Version ver BaseScore_core TemporalScore_core EnvironmentalScore_core Inner :=
  ⟨base_scope, temporal_shape, env_shape, Inner_nR, base_all, @okInner_all⟩

/-! On well-formed objects -/
theorem base_obj (c : Model.O31) (h : c.wf = true) :
    c.baseScore = F64.tenth (baseK ver (val c)) ∧ baseK ver (val c) ≤ 100 := by
  rw [baseScore_eq, val_eq]
  exact version.base_codes (inRange_of_wf c h) (scope_beq c.u0)

theorem temporal_obj (c : Model.O31) (h : c.wf = true) :
    c.temporalScore = F64.tenth (temporalK ver (val c)) ∧ temporalK ver (val c) ≤ 100 := by
  rw [temporalScore_eq, val_eq]
  exact version.temporal_codes (inRange_of_wf c h) (scope_beq c.u0)

theorem env_obj (c : Model.O31) (h : c.wf = true) :
    c.environmentalScore = F64.tenth (environmentalK ver (val c)) ∧ environmentalK ver (val c) ≤ 100 := by
  rw [environmentalScore_eq, val_eq]
  exact version.env_codes (inRange_of_wf c h)

/-! ## Appendix A: the integer-based `Roundup` agrees with the real-number `Roundup` on every argument the
    equations produce, and its `round_to_nearest_integer` step never meets a tie (same enumerations; no code involved in the statements) -/
theorem appendixA_base {av ac pr ui s c i a : Nat} (hav : av < 4) (hac : ac < 2) (hpr : pr < 3) (hui : ui < 2) (hs : s < 2)
    (hc : c < 3) (hi : i < 3) (ha : a < 3) :
    specImpact s c i a ≤ 0 ∨
    (Roundup (baseArg (Nat.beq s 1) (specImpact s c i a) (specExpl av ac pr ui s)) =
      RoundupA (baseArg (Nat.beq s 1) (specImpact s c i a) (specExpl av ac pr ui s)) ∧
     noTie (baseArg (Nat.beq s 1) (specImpact s c i a) (specExpl av ac pr ui s)) = true) := by
  have h := allBaseOn_elim base_all hav hac hpr hui hs hc hi ha
  simp only [okBaseOn, Bool.and_eq_true] at h
  exact agree_of h.2

theorem appendixA_temporal {k e rl rc : Nat} (hk : k ≤ 100) (he : e < 5) (hrl : rl < 5) (hrc : rc < 4) :
    Roundup (tenths (Int.ofNat k) * cE e * cRL rl * cRC rc) = RoundupA (tenths (Int.ofNat k) * cE e * cRL rl * cRC rc) ∧
    noTie (tenths (Int.ofNat k) * cE e * cRL rl * cRC rc) = true := by
  have h := okT_all hk he hrl hrc
  simp only [okT, Bool.and_eq_true, agreeA, decide_eq_true_eq] at h
  exact h.2

theorem appendixA_inner {mav mac mpr mui ms mc mi ma cr ir ar : Nat} (hmav : mav < 4) (hmac : mac < 2) (hmpr : mpr < 3)
    (hmui : mui < 2) (hms : ms < 2) (hmc : mc < 3) (hmi : mi < 3) (hma : ma < 3) (hcr : cr < 4) (hir : ir < 4) (har : ar < 4) :
    specMImpact ver ms mc mi ma cr ir ar ≤ 0 ∨
    (Roundup (baseArg (Nat.beq ms 1) (specMImpact ver ms mc mi ma cr ir ar) (specExpl mav mac mpr mui ms)) =
      RoundupA (baseArg (Nat.beq ms 1) (specMImpact ver ms mc mi ma cr ir ar) (specExpl mav mac mpr mui ms)) ∧
     noTie (baseArg (Nat.beq ms 1) (specMImpact ver ms mc mi ma cr ir ar) (specExpl mav mac mpr mui ms)) = true) :=
  version.appendixA_inner hmav hmac hmpr hmui hms hmc hmi hma hcr hir har

end V31
end Proofs.Score3
