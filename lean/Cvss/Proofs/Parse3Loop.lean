import Cvss.Proofs.Parse3Basic
/-!
# v3 parser proofs: the element loop `Model.loop3` and `Model.parse3`

Generic in a `Contract O Spec.V3.metrics` (nothing here looks at the generated `Get`/`Set`). The workhorse is
`loop3_legal`: on the rendering of a list of *legal* pairs followed by anything, the loop stops with `ErrDefinedN` at
the first repeated abbreviation, otherwise it stores all pairs and continues with the rest; completeness, C06, C02
and every C18 case are read off it. Soundness (`loop3_ok`) is an induction on the elements.
-/
namespace Proofs.Parse3
open Spec (Bytes Pair Metric render joinSlash legal isMetric findMetric abvs valueOf allLegal SLASH COLON)
open Model (Res)
open Proofs.Table

variable {O : Type}

/-- the fold of `Set`s over a pair list (errors ignored: on legal pairs there are none) -/
def setAll (K : Contract O Spec.V3.metrics) (c : O) (w : List Pair) : O :=
  w.foldl (fun c p => (K.set c p.1 p.2).1) c

@[simp] theorem setAll_nil (K : Contract O Spec.V3.metrics) (c : O) : setAll K c [] = c := rfl

/-- first name that is in `seen` or repeats an earlier one -/
def firstDup : List Bytes → List Bytes → Option Bytes
  | _, [] => none
  | seen, x :: xs => if seen.contains x then some x else firstDup (x :: seen) xs

theorem firstDup_none_iff (names seen : List Bytes) :
    firstDup seen names = none ↔ names.Nodup ∧ ∀ x ∈ names, x ∉ seen := by
  induction names generalizing seen with
  | nil => simp [firstDup]
  | cons x xs ih =>
    simp only [firstDup]
    by_cases hx : seen.contains x = true
    · simp only [hx, if_true, reduceCtorEq, false_iff, not_and]
      intro _ h
      exact h x (by simp) (List.contains_iff_mem.mp hx)
    · have hx' : x ∉ seen := fun h => hx (List.contains_iff_mem.mpr h)
      simp only [hx, if_false, Bool.false_eq_true, ih, List.nodup_cons, List.mem_cons, not_or]
      constructor
      · rintro ⟨h1, h2⟩
        refine ⟨⟨fun hin => (h2 x hin).1 rfl, h1⟩, ?_⟩
        rintro y (rfl | hy)
        · exact hx'
        · exact (h2 y hy).2
      · rintro ⟨⟨h1, h2⟩, h3⟩
        refine ⟨h2, fun y hy => ⟨?_, h3 y (Or.inr hy)⟩⟩
        rintro rfl; exact h1 hy

theorem firstDup_eq_some (pre post seen : List Bytes) (a : Bytes) (hn : pre.Nodup)
    (hs : ∀ x ∈ pre, x ∉ seen) (ha : a ∈ pre ∨ a ∈ seen) :
    firstDup seen (pre ++ a :: post) = some a := by
  induction pre generalizing seen with
  | nil =>
    have : a ∈ seen := by simpa using ha
    simp [firstDup, this]
  | cons x xs ih =>
    have hx : ¬ seen.contains x = true := fun h => hs x (by simp) (List.contains_iff_mem.mp h)
    simp only [List.cons_append, firstDup, hx, if_false, Bool.false_eq_true]
    rw [List.nodup_cons] at hn
    apply ih _ hn.2
    · intro y hy
      simp only [List.mem_cons, not_or]
      exact ⟨fun h => hn.1 (h ▸ hy), hs y (by simp [hy])⟩
    · rcases ha with ha | ha
      · rcases List.mem_cons.mp ha with rfl | ha
        · right; simp
        · left; exact ha
      · right; simp [ha]

theorem loop3_nil (set : O → Bytes → Bytes → O × Go.Err) (c : O) (seen : List Bytes) :
    Model.loop3 set [] c seen =
      match Model.firstMissing seen with
      | some a => .err (Model.eMissing a)
      | none => .ok c := by
  cases h : Model.firstMissing seen <;> simp [Model.loop3, h]

theorem loop3_cons (set : O → Bytes → Bytes → O × Go.Err) (el : Bytes) (rest : List Bytes) (c : O)
    (seen : List Bytes) :
    Model.loop3 set (el :: rest) c seen =
      match Model.kvmSet seen (Model.cutColon el).1 with
      | .error e => .err e
      | .ok seen' =>
        if (set c (Model.cutColon el).1 (Model.cutColon el).2).2 = Go.errNil
        then Model.loop3 set rest (set c (Model.cutColon el).1 (Model.cutColon el).2).1 seen'
        else .err (set c (Model.cutColon el).1 (Model.cutColon el).2).2 := by
  rw [Model.loop3]
  cases Model.kvmSet seen (Model.cutColon el).1 <;> rfl

theorem kvmSet_unknown (seen : List Bytes) (a : Bytes) (h : isMetric Spec.V3.metrics a = false) :
    Model.kvmSet seen a = .error (Model.eInvalidMetric a) := by
  have : a ∉ Model.kvmNames := by
    rw [← List.contains_iff_mem, contains_kvmNames_iff]; simp [h]
  simp [Model.kvmSet, this]

theorem kvmSet_seen (seen : List Bytes) (a : Bytes) (h : isMetric Spec.V3.metrics a = true)
    (hs : a ∈ seen) : Model.kvmSet seen a = .error (Model.eDefinedN a) := by
  have h1 := List.contains_iff_mem.mp ((contains_kvmNames_iff a).mpr h)
  simp [Model.kvmSet, h1, hs]

theorem kvmSet_fresh (seen : List Bytes) (a : Bytes) (h : isMetric Spec.V3.metrics a = true)
    (hs : a ∉ seen) : Model.kvmSet seen a = .ok (a :: seen) := by
  have h1 := List.contains_iff_mem.mp ((contains_kvmNames_iff a).mpr h)
  simp [Model.kvmSet, h1, hs]

theorem kvmSet_ok {seen seen' : List Bytes} {a : Bytes} (h : Model.kvmSet seen a = .ok seen') :
    isMetric Spec.V3.metrics a = true ∧ a ∉ seen ∧ seen' = a :: seen := by
  cases hm : isMetric Spec.V3.metrics a with
  | false => rw [kvmSet_unknown seen a hm] at h; cases h
  | true =>
    by_cases hs : a ∈ seen
    · rw [kvmSet_seen seen a hm hs] at h; cases h
    · rw [kvmSet_fresh seen a hm hs] at h
      cases h
      exact ⟨rfl, hs, rfl⟩

theorem loop3_legal (K : Contract O Spec.V3.metrics) (w : List Pair) (hl : allLegal Spec.V3.metrics w)
    (rest : List Bytes) (c : O) (seen : List Bytes) :
    Model.loop3 K.set (w.map render ++ rest) c seen =
      match firstDup seen (w.map (·.1)) with
      | some a => .err (Model.eDefinedN a)
      | none => Model.loop3 K.set rest (K.setAll c w) ((w.map (·.1)).reverse ++ seen) := by
  induction w generalizing c seen with
  | nil => simp [firstDup]
  | cons p w ih =>
    have hp : legal Spec.V3.metrics p.1 p.2 = true := hl p (by simp)
    have hcut : Model.cutColon (render p) = p := Lex.cutColon_render (good.legal_clean hp).1
    have hm := isMetric_of_legal hp
    rw [List.map_cons, List.cons_append, loop3_cons, hcut]
    simp only [List.map_cons, firstDup]
    by_cases hs : p.1 ∈ seen
    · rw [kvmSet_seen seen p.1 hm hs, List.contains_iff_mem.mpr hs]
      rfl
    · have hs' : ¬ seen.contains p.1 = true := fun h => hs (List.contains_iff_mem.mp h)
      rw [kvmSet_fresh seen p.1 hm hs]
      simp only [hs', if_false, Bool.false_eq_true, K.set_ok c p.1 p.2 hp, if_true]
      rw [ih (fun q hq => hl q (by simp [hq]))]
      simp [List.reverse_cons, List.append_assoc]

theorem loop3_ok (K : Contract O Spec.V3.metrics) (els : List Bytes) (c : O) (seen : List Bytes) (c' : O)
    (h : Model.loop3 K.set els c seen = .ok c') :
    ∃ w : List Pair, els = w.map render ∧ allLegal Spec.V3.metrics w ∧ firstDup seen (w.map (·.1)) = none ∧
      c' = K.setAll c w ∧ Model.firstMissing ((w.map (·.1)).reverse ++ seen) = none := by
  induction els generalizing c seen with
  | nil =>
    rw [loop3_nil] at h
    refine ⟨[], rfl, by simp [allLegal], rfl, ?_, ?_⟩
    · cases hf : Model.firstMissing seen with
      | some a => simp [hf] at h
      | none => simp only [hf] at h; cases h; rfl
    · cases hf : Model.firstMissing seen with
      | some a => simp [hf] at h
      | none => simpa using hf
  | cons el els ih =>
    rw [loop3_cons] at h
    cases hk : Model.kvmSet seen (Model.cutColon el).1 with
    | error e => simp [hk] at h
    | ok seen' =>
      simp only [hk] at h
      obtain ⟨hm, hfresh, rfl⟩ := kvmSet_ok hk
      by_cases he : (K.set c (Model.cutColon el).1 (Model.cutColon el).2).2 = Go.errNil
      · rw [if_pos he] at h
        have hleg := (K.set_ok_iff _ _ _).mp he
        have hv := (good.legal_clean hleg).2.2.2
        obtain ⟨w, h1, h2, h3, h4, h5⟩ := ih _ _ h
        refine ⟨Model.cutColon el :: w, ?_, ?_, ?_, ?_, ?_⟩
        · rw [List.map_cons, Lex.render_cutColon (Lex.colon_mem_of_snd_ne_nil hv), h1]
        · intro q hq
          rcases List.mem_cons.mp hq with rfl | hq
          · exact hleg
          · exact h2 q hq
        · have : ¬ seen.contains (Model.cutColon el).1 = true :=
            fun h => hfresh (List.contains_iff_mem.mp h)
          simp only [List.map_cons, firstDup, this, if_false, Bool.false_eq_true]
          exact h3
        · rw [h4]; rfl
        · simpa [List.reverse_cons, List.append_assoc] using h5
      · rw [if_neg he] at h; cases h

/-- which errors the loop returns: its own typed errors, or whatever non-nil error `Set` returned -/
theorem loop3_err (set : O → Bytes → Bytes → O × Go.Err) : ∀ (els : List Bytes) (c : O) (seen : List Bytes) (e : Go.Err),
    Model.loop3 set els c seen = .err e →
    (∃ a, e = Model.eMissing a ∨ e = Model.eInvalidMetric a ∨ e = Model.eDefinedN a) ∨
      ∃ c a v, e = (set c a v).2 ∧ e ≠ Go.errNil
  | [], c, seen, e, h => by
    rw [loop3_nil] at h
    split at h
    · cases h; exact Or.inl ⟨_, Or.inl rfl⟩
    · cases h
  | el :: rest, c, seen, e, h => by
    rw [loop3_cons] at h
    split at h
    · rename_i e' hk
      cases h
      unfold Model.kvmSet at hk
      split at hk
      · cases hk; exact Or.inl ⟨_, Or.inr (Or.inl rfl)⟩
      · split at hk
        · cases hk; exact Or.inl ⟨_, Or.inr (Or.inr rfl)⟩
        · cases hk
    · split at h
      · exact loop3_err set rest _ _ e h
      · rename_i hne; cases h; exact Or.inr ⟨_, _, _, rfl, hne⟩

theorem loop3_no_panic (set : O → Bytes → Bytes → O × Go.Err) (els : List Bytes) (c : O) (seen : List Bytes) :
    Model.loop3 set els c seen ≠ .panic := by
  induction els generalizing c seen with
  | nil =>
    rw [loop3_nil]
    cases Model.firstMissing seen <;> simp
  | cons el els ih =>
    rw [loop3_cons]
    cases Model.kvmSet seen (Model.cutColon el).1 with
    | error e => simp
    | ok seen' =>
      simp only
      split
      · exact ih _ _
      · simp

theorem firstMissing_none_iff (seen : List Bytes) :
    Model.firstMissing seen = none ↔ ∀ m ∈ Spec.V3.base, m.abv ∈ seen := by
  unfold Model.firstMissing
  rw [kvmMandatory_eq, List.find?_eq_none]
  constructor
  · intro h m hm
    have := h m.abv (List.mem_map.mpr ⟨m, hm, rfl⟩)
    simpa using this
  · intro h a ha
    obtain ⟨m, hm, rfl⟩ := List.mem_map.mp ha
    simpa using h m hm

theorem find?_unique {α : Type} (l : List α) (p : α → Bool) (a : α) (ha : a ∈ l) (hp : p a = true)
    (hu : ∀ x ∈ l, x ≠ a → p x = false) : l.find? p = some a := by
  induction l with
  | nil => cases ha
  | cons y l ih =>
    by_cases hy : y = a
    · subst hy; simp [List.find?, hp]
    · have : p y = false := hu y (by simp) hy
      rw [List.find?_cons, this]
      rcases List.mem_cons.mp ha with rfl | ha
      · exact absurd rfl hy
      · exact ih ha (fun x hx => hu x (by simp [hx]))

theorem firstMissing_unique (seen : List Bytes) (a : Bytes) (ha : a ∈ abvs Spec.V3.base) (hs : a ∉ seen)
    (hu : ∀ x ∈ abvs Spec.V3.base, x ≠ a → x ∈ seen) : Model.firstMissing seen = some a := by
  unfold Model.firstMissing
  rw [kvmMandatory_eq]
  apply find?_unique _ _ a ha
  · simpa [List.contains_iff_mem] using hs
  · intro x hx hne
    simpa [List.contains_iff_mem] using hu x hx hne

theorem parse3_of_prefix {header : Bytes} {zero : O} {set : O → Bytes → Bytes → O × Go.Err} {s : Bytes}
    (h : header <+: s) :
    Model.parse3 header zero set s = Model.loop3 set (Spec.splitSlash (s.drop header.length)) zero [] := by
  rw [Model.parse3, if_pos ((hasPrefix_iff s header).mpr h), Lex.model_splitSlash]

theorem parse3_of_not_prefix {header : Bytes} {zero : O} {set : O → Bytes → Bytes → O × Go.Err} {s : Bytes}
    (h : ¬ header <+: s) : Model.parse3 header zero set s = .err Model.eHeader := by
  rw [Model.parse3, if_neg (fun hp => h ((hasPrefix_iff s header).mp hp))]

theorem parse3_prefix (hdr : Bytes) (zero : O) (set : O → Bytes → Bytes → O × Go.Err) (rest : Bytes) :
    Model.parse3 (hdr ++ [SLASH]) zero set (hdr ++ SLASH :: rest) =
      Model.loop3 set (Spec.splitSlash rest) zero [] := by
  have e : hdr ++ SLASH :: rest = (hdr ++ [SLASH]) ++ rest := by simp
  rw [e, parse3_of_prefix (List.prefix_append _ _), List.drop_left]

theorem parse3_join (hdr : Bytes) (zero : O) (set : O → Bytes → Bytes → O × Go.Err) (els : List Bytes)
    (hne : els ≠ []) (hs : ∀ x ∈ els, SLASH ∉ x) :
    Model.parse3 (hdr ++ [SLASH]) zero set (hdr ++ SLASH :: joinSlash els) = Model.loop3 set els zero [] := by
  rw [parse3_prefix, Lex.splitSlash_joinSlash hne hs]

theorem parse3_no_panic (header : Bytes) (zero : O) (set : O → Bytes → Bytes → O × Go.Err) (s : Bytes) :
    Model.parse3 header zero set s ≠ .panic := by
  by_cases hp : header <+: s
  · rw [parse3_of_prefix hp]; exact loop3_no_panic _ _ _ _
  · rw [parse3_of_not_prefix hp]; simp

theorem parse3_ok_prefix (header : Bytes) (zero : O) (set : O → Bytes → Bytes → O × Go.Err) (s : Bytes) (c : O)
    (h : Model.parse3 header zero set s = .ok c) :
    header <+: s ∧ Model.loop3 set (Spec.splitSlash (s.drop header.length)) zero [] = .ok c := by
  by_cases hp : header <+: s
  · exact ⟨hp, parse3_of_prefix hp ▸ h⟩
  · rw [parse3_of_not_prefix hp] at h; cases h

/-- the three side conditions of `Spec.V3.Witness` on the pair list alone -/
def IsWit (w : List Pair) : Prop :=
  allLegal Spec.V3.metrics w ∧ (w.map (·.1)).Nodup ∧ ∀ m ∈ Spec.V3.base, m.abv ∈ w.map (·.1)

theorem witness_iff (hdr s : Bytes) (w : List Pair) :
    Spec.V3.Witness hdr s w ↔ s = hdr ++ SLASH :: joinSlash (w.map render) ∧ IsWit w := Iff.rfl

theorem IsWit.complete {w : List Pair} (h : IsWit w) : Complete Spec.V3.metrics w :=
  ⟨h.1, h.2.1, fun m hm hmand => h.2.2 m (tbl_mandatory_base m hm hmand)⟩

theorem IsWit.of_complete {w : List Pair} (h : Complete Spec.V3.metrics w) : IsWit w :=
  ⟨h.1, h.2.1, fun m hm => h.2.2 m (tbl_base_sub m hm).1 (tbl_base_sub m hm).2⟩

theorem IsWit.ne_nil {w : List Pair} (h : IsWit w) : w ≠ [] := by
  rintro rfl
  have := h.2.2 _ (List.mem_cons_self : _ ∈ Spec.V3.base)
  simp at this

theorem IsWit.no_slash {w : List Pair} (h : IsWit w) : ∀ x ∈ w.map render, SLASH ∉ x := by
  intro x hx
  obtain ⟨p, hp, rfl⟩ := List.mem_map.mp hx
  exact render_no_slash (h.1 p hp)

theorem parse3_witness (K : Contract O Spec.V3.metrics) (hdr : Bytes) (w : List Pair) (hw : IsWit w) :
    Model.parse3 (hdr ++ [SLASH]) K.zero K.set (hdr ++ SLASH :: joinSlash (w.map render)) =
      .ok (K.setAll K.zero w) := by
  rw [parse3_join _ _ _ _ (by simpa using hw.ne_nil) hw.no_slash]
  have := loop3_legal K w hw.1 [] K.zero []
  rw [List.append_nil] at this
  rw [this, (firstDup_none_iff _ _).mpr ⟨hw.2.1, by simp⟩]
  simp only [List.append_nil]
  rw [loop3_nil, (firstMissing_none_iff _).mpr (fun m hm => by simpa using hw.2.2 m hm)]

theorem parse3_sound (K : Contract O Spec.V3.metrics) (hdr s : Bytes) (c : O)
    (h : Model.parse3 (hdr ++ [SLASH]) K.zero K.set s = .ok c) :
    ∃ w, Spec.V3.Witness hdr s w ∧ c = K.setAll K.zero w := by
  obtain ⟨hp, hl⟩ := parse3_ok_prefix _ _ _ _ _ h
  obtain ⟨w, h1, h2, h3, h4, h5⟩ := loop3_ok K _ _ _ _ hl
  obtain ⟨hn, _⟩ := (firstDup_none_iff _ _).mp h3
  refine ⟨w, ⟨?_, h2, hn, ?_⟩, h4⟩
  · have e := eq_append_drop_of_prefix hp
    rw [← h1, Lex.joinSlash_splitSlash]
    rw [List.append_assoc] at e
    exact e
  · intro m hm
    have := (firstMissing_none_iff _).mp h5 m hm
    simpa using this

end Proofs.Parse3
