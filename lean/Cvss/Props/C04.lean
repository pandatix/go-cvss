import Cvss.Props.C11v4
/-!
# C04 — the v4.0 score equals the MacroVector algorithm

For every well-formed `CVSS40` object (≈ 2.67·10¹⁷ metric assignments), `Score` returns the double nearest
to the Spec's score: 0.0 when all six effective impact metrics are `N`, and otherwise the MacroVector lookup
value minus the mean of the proportional severity distances (specification §8.2; EQ1–EQ6 classification,
next-lower MacroVectors, highest severity vectors, depths), computed exactly and rounded half-up to one
decimal. `F64.eq` is IEEE `==`; `F64.tenth k` is the double nearest `k/10`.

The theorem is about the generated model `GenV40.Score` (through `Model.O40.score`); the Spec
(`Spec/V4.lean`) works on the value strings `Get` returns and never looks at the code.

Proof (kernel-checked, no `native_decide`): the generated `Score_core` is cut into pieces by a definitional equation
(`Proofs/Score4Shape`); `Score` and the value strings are functions of the field codes (`Proofs/Score4Reads`); the loop
nest ends on the last (EQ4: first) good highest severity vector of each EQ (`Score4Nest`, `Score4Loops`); levels,
selected vectors and distances are enumerated per EQ against the Spec (`Score4Groups`); the float tail is evaluated on
the 270 MacroVectors × all distance tuples, 52,650 points (`Score4Tail*`). `Proofs/Score4Main.core` composes them bit
for bit, `Props/C11v4.score_bits` goes from the codes to the object, and IEEE `==` follows since the value is finite.
-/
namespace Props
open Model

theorem C04 (c : O40) (h : c.wf = true) :
    F64.eq c.score (F64.tenth (Spec.V4.scoreK (fun a => (c.get a).1))) = true :=
  (C11v4.score_spec c h).2.2.1

/-- the hypothesis is satisfiable by non-trivial objects:
    `CVSS:4.0/AV:N/AC:L/AT:N/PR:N/UI:N/VC:H/VI:H/VA:H/SC:N/SI:N/SA:N` (bytes 28 22 20 00 …) scores 9.3, and with
    `/MSI:S` added (`u5 = 1`) 10.0 -/
example : (⟨0x28, 0x22, 0x20, 0, 0, 0, 0, 0, 0⟩ : O40).wf = true ∧
    Spec.V4.scoreK (fun a => ((⟨0x28, 0x22, 0x20, 0, 0, 0, 0, 0, 0⟩ : O40).get a).1) = 93 ∧
    (⟨0x28, 0x22, 0x20, 0, 0, 0, 0, 0, 0⟩ : O40).score = F64.tenth 93 ∧
    (⟨0x28, 0x22, 0x20, 0, 0, 1, 0, 0, 0⟩ : O40).wf = true ∧
    Spec.V4.scoreK (fun a => ((⟨0x28, 0x22, 0x20, 0, 0, 1, 0, 0, 0⟩ : O40).get a).1) = 100 := by decide +kernel

/-- the second sanity anchor of the test-suite: `…/VC:N/VI:N/VA:N/SC:H/SI:H/SA:H` scores 7.9, all-`N` impacts 0.0 -/
example : Spec.V4.scoreK (Spec.V4.valOfPairs [("AV","N"),("AC","L"),("AT","N"),("PR","N"),("UI","N"),("VC","N"),("VI","N"),
      ("VA","N"),("SC","H"),("SI","H"),("SA","H")]) = 79 ∧
    Spec.V4.scoreK (Spec.V4.valOfPairs [("AV","N"),("AC","L"),("AT","N"),("PR","N"),("UI","N"),("VC","N"),("VI","N"),
      ("VA","N"),("SC","N"),("SI","N"),("SA","N")]) = 0 := by decide +kernel

end Props

