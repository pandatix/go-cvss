import Cvss.Proofs.Bits40
/-!
# Reachable = well formed (v4.0)

`→` by induction over the history of `Set` calls; `←` because a well-formed object is rebuilt from the zero
value by one `Set` per Spec metric (`Bits.closed_of_wf`). On byte states that are not well formed
`Set(m, Get(m))` need not be the identity (`rawU`).
-/
namespace Proofs.B40
open Model (O40)

theorem reachable_iff_wf (c : O40) : O40.Reachable c ↔ c.wf = true := by
  constructor
  · intro h
    show contract40.WF c
    induction h with
    | zero => exact contract40.wf_zero
    | set c a v _ ih => exact contract40.wf_set c a v ih
  · exact fun h => Bits.closed_of_wf contract40 tableOK h O40.Reachable.zero O40.Reachable.set

/-- a byte state that is not well formed: the unused low bits of `u8` are not zero -/
def rawU : O40 := ⟨0, 0, 0, 0, 0, 0, 0, 0, 1⟩

end Proofs.B40
