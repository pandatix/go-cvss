import Cvss.Proofs.F64Tenth
/-!
# F64Facts — what the float constants of the score theorems denote

The score properties (C03, C04, C05, C11*) conclude `score = F64.tenth K`; C05 and C03 bound unrounded
sub-scores with `Proofs.Score2.closeTo` and `Proofs.Score3.within12`; C15 orders floats by the exact values of
`Spec.F64Val.ofBits`.  This file states (on the groundwork of `Proofs/F64Tenth.lean`) the theorems that tie these together:

* `F64.tenth k` (`0 ≤ k ≤ 100`), `F64.negTenth k` and `Proofs.Score2.tenthI k` denote **the** double nearest
  `k/10`, `−k/10`: every other finite double is strictly farther away (`tenth_nearest`, `negTenth_nearest`,
  `tenthI_nearest`, `isNearestTenth_iff`), with neighbour, half-ulp, exactness, sign and order facts;
* `Proofs.Score2.toRat`, `Proofs.Score3.withinPow10` and `Spec.F64Val.ofBits` decode every finite 64-bit pattern
  to the same number (`toRat_eq`, `withinPow10_iff`, `withinPow10_iff_rat`, `within12_eq_closeTo`).

Trusted, not proved: that `Spec.F64Val.ofBits` is the IEEE-754 binary64 decoding.  (That the soft-float operations
round correctly for all finite operands is proved against it in `Props/IEEE.lean`; nothing here rests on that: the
results `F64.tenth k` are evaluated.)
All values below are `num / 2^1075` with `num : Int` and `Spec.F64Val.den = 2^1075`.
-/
namespace F64Facts
open Spec F64Order F64Tenth

/-- `|10·num − k·2^1075|`, i.e. `|num/2^1075 − k/10|` scaled by `10·2^1075` -/
abbrev dist10 := F64Tenth.dist10
/-- `x` denotes the finite double nearest `k/10`, and no other finite double is as near -/
abbrev IsNearestTenth := F64Tenth.IsNearestTenth

/-- the definition, spelled out -/
theorem isNearestTenth_iff (x : Nat) (k : Int) :
    IsNearestTenth x k ↔ ∃ num : Int, F64Val.ofBits x = .fin num ∧
      ∀ (y : Nat) (m : Int), F64Val.ofBits y = .fin m → m ≠ num →
        (10 * num - k * (F64Val.den : Int)).natAbs < (10 * m - k * (F64Val.den : Int)).natAbs :=
  Iff.rfl

/-- **headline**: for `0 ≤ k ≤ 100`, `F64.tenth k` is the unique nearest double of `k/10` -/
theorem tenth_nearest : ∀ k : Nat, k ≤ 100 → IsNearestTenth (F64.tenth k) k := F64Tenth.tenth_nearest

/-- finite, non-negative, sign bit clear (`F64.tenth 0` is `+0.0`) -/
theorem tenth_nonneg {k : Nat} (hk : k ≤ 100) :
    ∃ num : Int, F64Val.ofBits (F64.tenth k) = .fin num ∧ 0 ≤ num ∧ F64.tenth k < 2^63 ∧
      F64.isFin (F64.tenth k) = true := F64Tenth.tenth_nonneg hk
theorem tenth_zero : F64.tenth 0 = 0 := F64Tenth.tenth_zero

/-- the next smaller and next larger double (bit pattern ∓ 1) are finite, bracket `k/10` strictly and are both
    strictly farther from `k/10` -/
theorem tenth_neighbours {k : Nat} (hk : k ≤ 100) (hk0 : k ≠ 0) :
    ∃ a num b : Int,
      F64Val.ofBits (F64.tenth k - 1) = .fin a ∧ F64Val.ofBits (F64.tenth k) = .fin num ∧
      F64Val.ofBits (F64.tenth k + 1) = .fin b ∧
      a < num ∧ num < b ∧ 10 * a < k * (F64Val.den : Int) ∧ k * (F64Val.den : Int) < 10 * b ∧
      dist10 num k < dist10 a k ∧ dist10 num k < dist10 b k := by
  have f := facts hk hk0
  have hp := f.pos
  have hf := f.fin
  have hlo := f.lo
  have hhi := f.hi
  have hdlo := f.dlo
  have hdhi := f.dhi
  refine ⟨_, _, _, ofBits_pos _ (by omega), tenth_val hk, ofBits_pos _ hf, ?_, ?_, ?_, ?_, ?_, ?_⟩
  · have := wp_strict (a := F64.tenth k - 1) (b := F64.tenth k) (by omega); omega
  · have := wp_strict (a := F64.tenth k) (b := F64.tenth k + 1) (by omega); omega
  · rw [natCast_kden]; generalize k * F64Val.den = t at *; omega
  · rw [natCast_kden]; generalize k * F64Val.den = t at *; omega
  · unfold dist10 F64Tenth.dist10; rw [natCast_kden]
    unfold adist at hdlo
    simp only [Nat.add_eq, Nat.sub_eq] at hdlo
    generalize k * F64Val.den = t at *
    omega
  · unfold dist10 F64Tenth.dist10; rw [natCast_kden]
    unfold adist at hdhi
    simp only [Nat.add_eq, Nat.sub_eq] at hdhi
    generalize k * F64Val.den = t at *
    omega

/-- the error is at most half the gap to the next double above (half a unit in the last place) -/
theorem tenth_half_ulp {k : Nat} (hk : k ≤ 100) (hk0 : k ≠ 0) :
    ∃ num b : Int, F64Val.ofBits (F64.tenth k) = .fin num ∧ F64Val.ofBits (F64.tenth k + 1) = .fin b ∧
      2 * dist10 num k ≤ 10 * (b - num) := by
  have f := facts hk hk0
  have hu := f.ulp
  have := wp_strict (a := F64.tenth k) (b := F64.tenth k + 1) (by omega)
  refine ⟨_, _, tenth_val hk, ofBits_pos _ f.fin, ?_⟩
  unfold dist10 F64Tenth.dist10; rw [natCast_kden]
  unfold adist at hu
  simp only [Nat.add_eq, Nat.sub_eq] at hu
  generalize k * F64Val.den = t at *
  omega

/-- `F64.tenth k` is exactly `k/10` iff `k` is a multiple of 5 -/
theorem tenth_exact_iff {k : Nat} (hk : k ≤ 100) :
    ∃ num : Int, F64Val.ofBits (F64.tenth k) = .fin num ∧
      (10 * num = k * (F64Val.den : Int) ↔ k % 5 = 0) := by
  refine ⟨_, tenth_val hk, ?_⟩
  rw [natCast_kden]
  by_cases h0 : k = 0
  · subst h0; rw [tenth_zero, wp_zero]; simp
  · have e := (facts hk h0).exact
    constructor
    · intro h; exact e.mp (by omega)
    · intro h; have := e.mpr h; omega

/-- `F64.negTenth k` is the double nearest `−k/10` (`k = 0`: `−0.0`, which denotes 0) -/
theorem negTenth_nearest : ∀ k : Nat, k ≤ 100 → IsNearestTenth (F64.negTenth k) (-(k : Int)) :=
  F64Tenth.negTenth_nearest
theorem negTenth_one : IsNearestTenth (F64.negTenth 1) (-1) := by
  have h := negTenth_nearest 1 (by omega)
  rw [show (-((1 : Nat) : Int)) = -1 from rfl] at h
  exact h
theorem negTenth_two : IsNearestTenth (F64.negTenth 2) (-2) := by
  have h := negTenth_nearest 2 (by omega)
  rw [show (-((2 : Nat) : Int)) = -2 from rfl] at h
  exact h

/-- the signed tenths of the v2 proofs -/
theorem tenthI_nearest (k : Int) (h1 : -100 ≤ k) (h2 : k ≤ 100) :
    IsNearestTenth (Proofs.Score2.tenthI k) k := by
  cases k with
  | ofNat n => exact tenth_nearest n (Int.ofNat_le.mp h2)
  | negSucc n =>
    have := negTenth_nearest (n + 1) (by rw [Int.negSucc_eq] at h1; omega)
    rw [Int.negSucc_eq, ← Int.natCast_succ]
    exact this
/-- C05's `bitsOK fl k` says that `fl` denotes the double nearest `k/10` -/
theorem bitsOK_nearest (fl : Nat) (k : Int) (h1 : -100 ≤ k) (h2 : k ≤ 100)
    (h : Proofs.Score2.bitsOK fl k = true) : IsNearestTenth fl k := by
  unfold Proofs.Score2.bitsOK at h
  rw [Bool.or_eq_true, Bool.and_eq_true, nbeq, nbeq, decide_eq_true_iff] at h
  rcases h with h | ⟨hk, h⟩
  · rw [h]; exact tenthI_nearest k h1 h2
  · subst hk
    rw [h, ← negTenth_zero]
    exact negTenth_nearest 0 (by omega)

/-- "nearest" determines the number denoted -/
theorem nearest_value_unique {x x' : Nat} {k : Int} (h : IsNearestTenth x k) (h' : IsNearestTenth x' k) :
    F64Val.ofBits x = F64Val.ofBits x' := F64Tenth.IsNearestTenth.value_unique h h'

/-! order: bit patterns, exact values and the model's comparisons follow `k` -/

theorem tenth_strictMono {k₁ k₂ : Nat} (h : k₁ < k₂) (h2 : k₂ ≤ 100) : F64.tenth k₁ < F64.tenth k₂ :=
  F64Tenth.tenth_strictMono h h2
theorem tenth_injective {k₁ k₂ : Nat} (h1 : k₁ ≤ 100) (h2 : k₂ ≤ 100) (h : F64.tenth k₁ = F64.tenth k₂) :
    k₁ = k₂ := by
  rcases Nat.lt_trichotomy k₁ k₂ with a | a | a
  · have := tenth_strictMono a h2; omega
  · exact a
  · have := tenth_strictMono a h1; omega
theorem tenth_val_lt {k₁ k₂ : Nat} (h : k₁ < k₂) (h2 : k₂ ≤ 100) :
    F64Val.lt (F64Val.ofBits (F64.tenth k₁)) (F64Val.ofBits (F64.tenth k₂)) := F64Tenth.tenth_val_lt h h2
theorem tenth_val_le {k₁ k₂ : Nat} (h : k₁ ≤ k₂) (h2 : k₂ ≤ 100) :
    F64Val.le (F64Val.ofBits (F64.tenth k₁)) (F64Val.ofBits (F64.tenth k₂)) := F64Tenth.tenth_val_le h h2
theorem tenth_lt {k₁ k₂ : Nat} (h1 : k₁ ≤ 100) (h2 : k₂ ≤ 100) :
    F64.lt (F64.tenth k₁) (F64.tenth k₂) = decide (k₁ < k₂) := by
  rw [lt_eq_spec _ _ (tenth_lt_P64 h1) (tenth_lt_P64 h2)]
  by_cases h : k₁ < k₂
  · rw [decide_eq_true h, decide_eq_true (tenth_val_lt h h2)]
  · rw [decide_eq_false h, decide_eq_false]
    intro hlt
    have hle := tenth_val_le (k₁ := k₂) (k₂ := k₁) (by omega) h1
    rw [tenth_val h1, tenth_val h2] at hlt hle
    have a : (wp (F64.tenth k₁) : Int) < (wp (F64.tenth k₂) : Int) := hlt
    have b : (wp (F64.tenth k₂) : Int) ≤ (wp (F64.tenth k₁) : Int) := hle
    omega
theorem tenth_le {k₁ k₂ : Nat} (h1 : k₁ ≤ 100) (h2 : k₂ ≤ 100) :
    F64.le (F64.tenth k₁) (F64.tenth k₂) = decide (k₁ ≤ k₂) := F64Tenth.tenth_le h1 h2

/-- the threshold constant of C15 is `F64.tenth 1` -/
theorem tenth_one_eq_TENTH : F64.tenth 1 = F64Order.TENTH := by decide +kernel

/-- `Proofs.Score2.toRat` is the value of `Spec.F64Val.ofBits`, on every finite 64-bit pattern -/
theorem toRat_eq (x : Nat) (hx : x < 2^64) (num : Int) (h : F64Val.ofBits x = .fin num) :
    Proofs.Score2.toRat x = (num : Rat) / ((F64Val.den : Nat) : Rat) := F64Tenth.toRat_eq x hx num h

/-- finite in the model's sense iff the decoder yields a finite value -/
theorem isFin_iff_fin (x : Nat) (hx : x < 2^64) :
    F64.isFin x = true ↔ ∃ num, F64Val.ofBits x = .fin num := F64Tenth.isFin_iff_fin x hx

/-- C05's `closeTo` -/
theorem closeTo_iff (fl : Nat) (hfl : fl < 2^64) (x : Rat) :
    Proofs.Score2.closeTo fl x = true ↔ ∃ num : Int, F64Val.ofBits fl = .fin num ∧
      (num : Rat) / ((F64Val.den : Nat) : Rat) - x ≤ 1 / 1000000000000 ∧
      -((num : Rat) / ((F64Val.den : Nat) : Rat) - x) ≤ 1 / 1000000000000 := F64Tenth.closeTo_iff fl hfl x

/-- C05's `isNearest` (weights): within `2^(E−1076)`, half a unit in the last place -/
theorem isNearest_iff (fl : Nat) (hfl : fl < 2^64) (x : Rat) :
    Proofs.Score2.isNearest fl x = true ↔ ∃ num : Int, F64Val.ofBits fl = .fin num ∧
      (num : Rat) / ((F64Val.den : Nat) : Rat) - x ≤ (2 : Rat) ^ ((F64.exf (F64.ebits fl) : Int) - 1076) ∧
      -((num : Rat) / ((F64Val.den : Nat) : Rat) - x) ≤ (2 : Rat) ^ ((F64.exf (F64.ebits fl) : Int) - 1076) := by
  unfold Proofs.Score2.isNearest
  rw [Proofs.Score2.forceRat_eq, Proofs.Score2.forceRat_eq]
  simp only [Bool.and_eq_true, decide_eq_true_eq]
  constructor
  · rintro ⟨hf, hi⟩
    obtain ⟨num, h⟩ := (isFin_iff_fin fl hfl).mp hf
    rw [toRat_eq fl hfl num h] at hi
    exact ⟨num, h, hi⟩
  · rintro ⟨num, h, hi⟩
    rw [← toRat_eq fl hfl num h] at hi
    exact ⟨(isFin_iff_fin fl hfl).mpr ⟨num, h⟩, hi⟩

/-- C03's `withinPow10`, denominators cleared: `|num/2^1075 − n/10^e| ≤ 10^-d` -/
theorem withinPow10_iff (d x : Nat) (hx : x < 2^64) (n : Int) (e : Nat) :
    Proofs.Score3.withinPow10 d x (n, e) = true ↔ ∃ num : Int, F64Val.ofBits x = .fin num ∧
      (num * ((10^e : Nat) : Int) - n * ((F64Val.den : Nat) : Int)).natAbs * 10^d ≤ F64Val.den * 10^e :=
  F64Tenth.withinPow10_iff d x hx n e

/-- the same with fractions -/
theorem withinPow10_iff_rat (d x : Nat) (hx : x < 2^64) (n : Int) (e : Nat) :
    Proofs.Score3.withinPow10 d x (n, e) = true ↔ ∃ num : Int, F64Val.ofBits x = .fin num ∧
      (num : Rat) / ((F64Val.den : Nat) : Rat) - (n : Rat) / ((10^e : Nat) : Rat) ≤ 1 / ((10^d : Nat) : Rat) ∧
      -((num : Rat) / ((F64Val.den : Nat) : Rat) - (n : Rat) / ((10^e : Nat) : Rat)) ≤ 1 / ((10^d : Nat) : Rat) :=
  F64Tenth.withinPow10_iff_rat d x hx n e

/-- the same through `toRat` -/
theorem withinPow10_iff_toRat (d x : Nat) (hx : x < 2^64) (n : Int) (e : Nat) :
    Proofs.Score3.withinPow10 d x (n, e) = true ↔ F64.isFin x = true ∧
      Proofs.Score2.toRat x - (n : Rat) / ((10^e : Nat) : Rat) ≤ 1 / ((10^d : Nat) : Rat) ∧
      -(Proofs.Score2.toRat x - (n : Rat) / ((10^e : Nat) : Rat)) ≤ 1 / ((10^d : Nat) : Rat) := by
  rw [withinPow10_iff_rat d x hx n e]
  constructor
  · rintro ⟨num, h, hi⟩
    rw [← toRat_eq x hx num h] at hi
    exact ⟨(isFin_iff_fin x hx).mpr ⟨num, h⟩, hi⟩
  · rintro ⟨hf, hi⟩
    obtain ⟨num, h⟩ := (isFin_iff_fin x hx).mp hf
    rw [toRat_eq x hx num h] at hi
    exact ⟨num, h, hi⟩

/-- C03's and C05's closeness predicates are one and the same -/
theorem within12_eq_closeTo (x : Nat) (hx : x < 2^64) (n : Int) (e : Nat) :
    Proofs.Score3.within12 x (n, e) = Proofs.Score2.closeTo x ((n : Rat) / ((10^e : Nat) : Rat)) := by
  rw [Bool.eq_iff_iff]
  show Proofs.Score3.withinPow10 12 x (n, e) = true ↔ _
  rw [withinPow10_iff_rat 12 x hx n e, closeTo_iff x hx]
  have : ((10^12 : Nat) : Rat) = 1000000000000 := by rw [Rat.natCast_pow]; rfl
  rw [this]

-- the bit patterns (they agree with the hardware: 0.1, 9.3, 10.0, −0.1, −0.2)
example : F64.tenth 1 = 0x3fb999999999999a := by decide +kernel
example : F64.tenth 93 = 0x402299999999999a := by decide +kernel
example : F64.tenth 100 = 0x4024000000000000 := by decide +kernel
example : F64.negTenth 1 = 0xbfb999999999999a := by decide +kernel
example : F64.negTenth 2 = 0xbfc999999999999a := by decide +kernel

-- hence 0x3fb999999999999a is the double nearest 1/10 …
example : IsNearestTenth 0x3fb999999999999a 1 := by
  have h := tenth_nearest 1 (by decide)
  rw [show F64.tenth 1 = 0x3fb999999999999a by decide +kernel] at h
  exact h
-- … and its lower neighbour is not (the predicate is not vacuous): it denotes a different number
example : ¬ IsNearestTenth 0x3fb9999999999999 1 := by
  intro h
  have e := nearest_value_unique h (tenth_nearest 1 (by decide))
  rw [show F64.tenth 1 = 0x3fb999999999999a by decide +kernel] at e
  exact absurd e (by decide +kernel)
-- 9.3 is not exact, 9.5 is
example : ∃ num : Int, F64Val.ofBits (F64.tenth 93) = .fin num ∧ 10 * num ≠ 93 * (F64Val.den : Int) := by
  obtain ⟨num, h, e⟩ := tenth_exact_iff (k := 93) (by decide)
  exact ⟨num, h, fun h' => absurd (e.mp h') (by decide)⟩
example : F64Val.ofBits (F64.tenth 95) = .fin (19 * 2^1074) := by decide +kernel
-- the decoders on 1.5 = 3·2^1074 / 2^1075 (hypotheses of `toRat_eq`, `withinPow10_iff` are satisfiable)
example : F64Val.ofBits 0x3ff8000000000000 = .fin (3 * 2^1074) := by decide +kernel
example : Proofs.Score2.toRat 0x3ff8000000000000 = ((3 * 2^1074 : Int) : Rat) / ((F64Val.den : Nat) : Rat) :=
  toRat_eq _ (by decide) _ (by decide +kernel)
example : ∃ num : Int, F64Val.ofBits 0x3ff8000000000000 = .fin num ∧
    (num * ((10^1 : Nat) : Int) - 15 * ((F64Val.den : Nat) : Int)).natAbs * 10^12 ≤ F64Val.den * 10^1 :=
  (withinPow10_iff 12 _ (by decide) 15 1).mp (by decide)

end F64Facts
