import Cvss.Proofs.IEEE.Cmp
import Cvss.Proofs.IEEE.Unique
/-!
# The integer roundings `F64.round/roundToEven/floor/ceil/trunc`

For a finite operand with value `v/den`, each function returns the exactly represented integer `K`
(`ofBits result = fin (K·den)`) that Go's `math.Round/RoundToEven/Floor/Ceil/Trunc` specify, with the
operand's sign bit (so zero results keep the sign, as in Go).  Here: the relations, what they say on an integral and
on a fractional value (`int_all`, `frac_all`), and the common shape of the five functions (`rint_rel`).
-/
namespace IEEE
open Spec F64Order

/-- every integer `0 … 2^53` is a finite double -/
theorem int_pattern (k : Nat) (hk : k ≤ 2 * P52) : ∃ p, p < PINF ∧ wp p = k * den := by
  by_cases h0 : k = 0
  · exact ⟨0, by decide, by rw [h0, Nat.zero_mul]; exact wp_zero⟩
  by_cases hmax : k = 2 * P52
  · subst hmax
    refine ⟨(1075 - 1) * P52 + 2 * P52, by decide, ?_⟩
    rw [wp_pack 1075 (2 * P52) (by decide) (Nat.le_refl _) (Or.inr (by decide)), den_pow]
  · have hlo : 2 ^ Nat.log2 k ≤ k := Nat.log2_self_le h0
    have hhi : k < 2 ^ (Nat.log2 k + 1) := Nat.lt_log2_self
    have hL : Nat.log2 k < 53 := (Nat.log2_lt h0).mpr (by rw [p53]; omega)
    generalize Nat.log2 k = L at *
    have h1 : P52 ≤ k * 2^(52 - L) := by
      have : 2^L * 2^(52 - L) = P52 := by rw [← Nat.pow_add, ← p52]; congr 1; omega
      rw [← this]; exact Nat.mul_le_mul_right _ hlo
    have h2 : k * 2^(52 - L) < 2 * P52 := by
      have : 2^(L+1) * 2^(52 - L) = 2 * P52 := by rw [← Nat.pow_add, ← p53]; congr 1; omega
      rw [← this]; exact Nat.mul_lt_mul_of_pos_right hhi (Nat.two_pow_pos _)
    refine ⟨(1023 + L - 1) * P52 + k * 2^(52 - L), ?_, ?_⟩
    · simp only [P52, PINF] at *; omega
    · rw [wp_pack (1023 + L) _ (by omega) (by omega) (Or.inr h1), den_pow, Nat.mul_assoc, ← Nat.pow_add]
      congr 2; omega

/-- rounding an integer `k ≤ 2^53` at exponent 0 is exact -/
theorem rnd_int (s k : Nat) (hs : s ≤ 1) (hk : k ≤ 2 * P52) :
    F64Val.ofBits (F64.rnd (s * P63) k (4096 + 1075)) = .fin (sv s k * (den : Int)) ∧
    signBit (F64.rnd (s * P63) k (4096 + 1075)) = s ∧ F64.rnd (s * P63) k (4096 + 1075) < 2^64 := by
  obtain ⟨p, hp, hr⟩ := rnd_mag (s * P63) k (4096 + 1075) k 1 (by decide)
    (by rcases Nat.eq_zero_or_pos k with h | h
        · exact Or.inl ⟨h, h⟩
        · exact Or.inr ⟨h, rep_int k⟩)
  obtain ⟨p', hp', hw⟩ := int_pattern k hk
  have hex : IsRNEMag k 1 p' :=
    (IsRNEMag.exact p' (Nat.le_of_lt hp')).congr den_pos (by decide) (by rw [hw, Nat.mul_one])
  rw [hp, hr.unique (by decide) hex, ofBits_pack_fin s p' hs hp', hw, sv_mul]
  exact ⟨rfl, signBit_pack s p' hs (Nat.lt_trans hp' (by decide)), by simp only [P63, PINF] at *; omega⟩


/-- the integer chosen by `rintB`: mode 0 half-to-even, 1 half-away, otherwise toward −∞ (on the magnitude:
    up iff negative and inexact) -/
def rintK (mode s q rem half : Nat) : Nat :=
  if mode = 0 then (if half < rem ∨ (rem = half ∧ q % 2 = 1) then q + 1 else q)
  else if mode = 1 then (if half ≤ rem then q + 1 else q)
  else (if s = 1 ∧ 0 < rem then q + 1 else q)

theorem rintB_eq (mode s q rem half : Nat) (hs : s ≤ 1) :
    F64.rintB mode (s * P63) q rem half = F64.rnd (s * P63) (rintK mode s q rem half) (4096 + 1075) := by
  unfold F64.rintB rintK
  rw [cond_beq, cond_beq, Nat.add_eq, Nat.succ_eq_add_one]
  congr 1
  have e0 : cond (Nat.blt half rem || (Nat.beq rem half && Nat.beq (Nat.mod q 2) 1)) (q + 1) q =
      if half < rem ∨ (rem = half ∧ q % 2 = 1) then q + 1 else q :=
    cond_of_iff (by rw [Bool.or_eq_true, Bool.and_eq_true, Nat.blt_eq, nbeq, nbeq]; rfl) _ _
  have e1 : cond (Nat.ble half rem) (q + 1) q = if half ≤ rem then q + 1 else q := cond_ble _ _ _ _
  have e2 : cond (Nat.blt 0 (s * P63) && Nat.blt 0 rem) (q + 1) q = if s = 1 ∧ 0 < rem then q + 1 else q :=
    cond_of_iff (by
      rw [Bool.and_eq_true, Nat.blt_eq, Nat.blt_eq]
      have : 0 < s * P63 ↔ s = 1 := by simp only [P63]; omega
      rw [this]) _ _
  rw [e0, e1, e2]

/-- the integer chosen by `rintC`: mode 3 toward +∞ (up iff positive and inexact), otherwise toward zero -/
def rintK2 (mode s q rem : Nat) : Nat :=
  if mode = 3 then (if s = 0 ∧ 0 < rem then q + 1 else q) else q

theorem rintC_eq (mode s q rem : Nat) (_hs : s ≤ 1) :
    F64.rintC mode (s * P63) q rem = F64.rnd (s * P63) (rintK2 mode s q rem) (4096 + 1075) := by
  unfold F64.rintC rintK2
  rw [cond_beq, Nat.add_eq, Nat.succ_eq_add_one]
  congr 1
  have e2 : cond (Nat.beq (s * P63) 0 && Nat.blt 0 rem) (q + 1) q = if s = 0 ∧ 0 < rem then q + 1 else q :=
    cond_of_iff (by
      rw [Bool.and_eq_true, Nat.blt_eq, nbeq]
      have : s * P63 = 0 ↔ s = 0 := by simp only [P63]; omega
      rw [this]) _ _
  rw [e2]

theorem rintA_eq (mode x ex : Nat) :
    F64.rintA mode x ex =
      if 1075 ≤ F64.exf ex then x
      else F64.rintB mode (sgn x * P63) (F64.mant x ex / 2^(1075 - F64.exf ex))
        (F64.mant x ex - F64.mant x ex / 2^(1075 - F64.exf ex) * 2^(1075 - F64.exf ex))
        (2^(1075 - F64.exf ex - 1)) := by
  unfold F64.rintA
  simp only [flet_eq, cond_ble, nshr, nshl, Nat.sub_eq, Nat.mul_eq, Nat.one_mul]
  rw [show sgn x = x / 2^63 by unfold sgn; rw [nshr], show P63 = F64.P63 from rfl]

theorem rintD_eq (mode x ex : Nat) :
    F64.rintD mode x ex =
      if 1075 ≤ F64.exf ex then x
      else F64.rintC mode (sgn x * P63) (F64.mant x ex / 2^(1075 - F64.exf ex))
        (F64.mant x ex - F64.mant x ex / 2^(1075 - F64.exf ex) * 2^(1075 - F64.exf ex)) := by
  unfold F64.rintD
  simp only [flet_eq, cond_ble, nshr, nshl, Nat.sub_eq, Nat.mul_eq]
  rw [show sgn x = x / 2^63 by unfold sgn; rw [nshr], show P63 = F64.P63 from rfl]

theorem rint_unfold (mode x : Nat) (hx : F64.ebits x < 2047) : F64.rint mode x = F64.rintA mode x (F64.ebits x) := by
  unfold F64.rint
  rw [flet_eq, flet_eq, cond_blt, if_pos hx]

theorem rint2_unfold (mode x : Nat) (hx : F64.ebits x < 2047) : F64.rint2 mode x = F64.rintD mode x (F64.ebits x) := by
  unfold F64.rint2
  rw [flet_eq, flet_eq, cond_blt, if_pos hx]

/-- the significand split at the binary point: `m·2^E = q·den + ρ`, `ρ = rem·2^E < den`, `half·2^E = den/2` -/
theorem rint_arith (m E : Nat) (h1 : 1 ≤ E) (h2 : E < 1075) :
    m * 2^E = m / 2^(1075 - E) * den + (m - m / 2^(1075 - E) * 2^(1075 - E)) * 2^E ∧
    2 * (2^(1075 - E - 1) * 2^E) = den ∧
    m - m / 2^(1075 - E) * 2^(1075 - E) < 2 * 2^(1075 - E - 1) := by
  have hd : 2^(1075 - E) * 2^E = den := by rw [den_pow, ← Nat.pow_add]; congr 1; omega
  have hh : 2^(1075 - E) = 2 * 2^(1075 - E - 1) := by
    have : 1075 - E = (1075 - E - 1) + 1 := by omega
    rw [this, Nat.pow_succ]; simp only [Nat.add_sub_cancel]; omega
  have hdm := Nat.div_add_mod m (2^(1075 - E))
  have hml := Nat.mod_lt m (Nat.two_pow_pos (1075 - E))
  rw [Nat.mul_comm] at hdm
  refine ⟨?_, ?_, ?_⟩
  · rw [← hd]
    have : m / 2^(1075 - E) * (2^(1075 - E) * 2^E) = m / 2^(1075 - E) * 2^(1075 - E) * 2^E := by ac_rfl
    rw [this, ← Nat.add_mul]
    congr 1
    omega
  · rw [← hd, hh]; ac_rfl
  · omega


/-! ## what Go's `math.Floor/Ceil/Trunc/Round/RoundToEven` return, as relations between the value `v/den`
and the integer `K` -/

/-- `K = ⌊v/den⌋` -/
def IsFloor (v K : Int) : Prop := K * den ≤ v ∧ v < (K + 1) * den
/-- `K = ⌈v/den⌉` -/
def IsCeil (v K : Int) : Prop := (K - 1) * den < v ∧ v ≤ K * den
/-- `K` = `v/den` rounded toward zero -/
def IsTrunc (v K : Int) : Prop :=
  K.natAbs * den ≤ v.natAbs ∧ v.natAbs < (K.natAbs + 1) * den ∧ (0 ≤ v → 0 ≤ K) ∧ (v ≤ 0 → K ≤ 0)
/-- `K` = nearest integer to `v/den`, halfway cases away from zero (`math.Round`) -/
def IsRoundAway (v K : Int) : Prop :=
  2 * (K * den - v).natAbs ≤ den ∧ (2 * (K * den - v).natAbs = den → v.natAbs < K.natAbs * den)
/-- `K` = nearest integer to `v/den`, halfway cases to the even integer (`math.RoundToEven`) -/
def IsRoundEven (v K : Int) : Prop :=
  2 * (K * den - v).natAbs ≤ den ∧ (2 * (K * den - v).natAbs = den → K % 2 = 0)

theorem int_all (K : Int) :
    IsFloor (K * den) K ∧ IsCeil (K * den) K ∧ IsTrunc (K * den) K ∧ IsRoundAway (K * den) K ∧ IsRoundEven (K * den) K := by
  have hD := den_pos
  unfold IsFloor IsCeil IsTrunc IsRoundAway IsRoundEven
  rw [Int.add_mul, Int.sub_mul, Int.one_mul, Int.natAbs_mul, Int.natAbs_natCast, Nat.add_mul, Nat.one_mul,
    Int.sub_self]
  have h1 : 0 ≤ K → 0 ≤ K * (den : Int) := fun h => Int.mul_nonneg h (by omega)
  have h2 : K ≤ 0 → K * (den : Int) ≤ 0 := fun h => Int.mul_nonpos_of_nonpos_of_nonneg h (by omega)
  have h3 : 0 ≤ K * (den : Int) → 0 ≤ K := by
    intro h
    apply Classical.byContradiction; intro hn
    have : K * (den : Int) < 0 := Int.mul_neg_of_neg_of_pos (by omega) (by omega)
    omega
  have h4 : K * (den : Int) ≤ 0 → K ≤ 0 := by
    intro h
    apply Classical.byContradiction; intro hn
    have : 0 < K * (den : Int) := Int.mul_pos (by omega) (by omega)
    omega
  generalize K * (den : Int) = KD at *
  generalize K.natAbs * den = KN at *
  generalize den = D at *
  simp
  omega


theorem mul_cmp (a b G : Nat) (hG : 0 < G) :
    (a * G < b * G ↔ a < b) ∧ (a * G = b * G ↔ a = b) ∧ (a * G ≤ b * G ↔ a ≤ b) := by
  refine ⟨⟨Nat.lt_of_mul_lt_mul_right, fun h => Nat.mul_lt_mul_of_pos_right h hG⟩,
    ⟨Nat.eq_of_mul_eq_mul_right hG, fun h => by rw [h]⟩,
    ⟨fun h => Nat.le_of_mul_le_mul_right h hG, fun h => Nat.mul_le_mul_right _ h⟩⟩

/-- the five rounding rules on a value `σ·(q·den + ρ)` with `0 ≤ ρ = rem·G < den = 2·half·G`: the integers
    that `rintB` and `rintC` choose by comparing `rem` with `half` -/
theorem frac_all (s q rem half G : Nat) (hs : s ≤ 1) (hG : 0 < G) (hD : den = 2 * (half * G))
    (hρ : rem * G < den) :
    IsRoundEven (sv s (q * den + rem * G)) (sv s (rintK 0 s q rem half)) ∧
    IsRoundAway (sv s (q * den + rem * G)) (sv s (rintK 1 s q rem half)) ∧
    IsFloor (sv s (q * den + rem * G)) (sv s (rintK 2 s q rem half)) ∧
    IsCeil (sv s (q * den + rem * G)) (sv s (rintK2 3 s q rem)) ∧
    IsTrunc (sv s (q * den + rem * G)) (sv s (rintK2 4 s q rem)) := by
  have hq1 : (q + 1) * den = q * den + den := by rw [Nat.add_mul, Nat.one_mul]
  have hq0 : q * den = 0 → q = 0 := by
    intro h; rcases Nat.mul_eq_zero.mp h with h | h <;> omega
  -- comparisons of `rem` with `half` and 0 are those of `ρ` with `den/2` and 0
  obtain ⟨c1, c2, _⟩ := mul_cmp half rem G hG
  obtain ⟨_, _, c3⟩ := mul_cmp half rem G hG
  have c0 : 0 < rem * G ↔ 0 < rem := ⟨fun h => Nat.pos_of_mul_pos_right h, fun h => Nat.mul_pos h hG⟩
  show IsRoundEven _ (sv s (if half < rem ∨ (rem = half ∧ q % 2 = 1) then q + 1 else q)) ∧
    IsRoundAway _ (sv s (if half ≤ rem then q + 1 else q)) ∧
    IsFloor _ (sv s (if s = 1 ∧ 0 < rem then q + 1 else q)) ∧
    IsCeil _ (sv s (if s = 0 ∧ 0 < rem then q + 1 else q)) ∧ IsTrunc _ (sv s q)
  unfold IsFloor IsCeil IsTrunc IsRoundAway IsRoundEven
  simp only [Int.add_mul, Int.sub_mul, Int.one_mul, ← sv_mul, sv_natAbs]
  generalize rem * G = ρ at *
  generalize half * G = Hh at *
  refine ⟨?_, ?_, ?_, ?_, ?_⟩
  -- in every case: fix the integer chosen; what remains is linear arithmetic, for either sign
  all_goals try split
  all_goals try rw [hq1]
  all_goals generalize q * den = QD at *; generalize den = D at *
  all_goals unfold sv; rcases (by omega : s = 0 ∨ s = 1) with rfl | rfl <;> simp <;> omega

/-- common part of the integer roundings, for a relation `Rel` between the value and the integer returned: an
    integral operand is returned unchanged; otherwise the operand splits as `σ·(q·den + ρ)` and the result is the
    exactly represented `σ·k` with `k ∈ {q, q+1}` chosen by `pick` -/
theorem rint_rel (Rel : Int → Int → Prop) (x : Nat) (vx : Int) (hx : x < 2^64) (hvx : F64Val.ofBits x = .fin vx)
    (r : Nat) (pick : Nat → Nat → Nat → Nat → Nat)
    (hpick : ∀ s q rem half, pick s q rem half = q ∨ pick s q rem half = q + 1)
    (hr : r = if 1075 ≤ F64.exf (F64.ebits x) then x
      else F64.rnd (sgn x * P63)
        (pick (sgn x) (F64.mant x (F64.ebits x) / 2^(1075 - F64.exf (F64.ebits x)))
          (F64.mant x (F64.ebits x) - F64.mant x (F64.ebits x) / 2^(1075 - F64.exf (F64.ebits x)) * 2^(1075 - F64.exf (F64.ebits x)))
          (2^(1075 - F64.exf (F64.ebits x) - 1))) (4096 + 1075))
    (hint : ∀ K : Int, Rel (K * den) K)
    (hfrac : ∀ s q rem half G, s ≤ 1 → 0 < G → den = 2 * (half * G) → rem * G < den →
      Rel (sv s (q * den + rem * G)) (sv s (pick s q rem half))) :
    ∃ K : Int, F64Val.ofBits r = .fin (K * den) ∧ Rel vx K ∧ signBit r = signBit x ∧ r < 2^64 := by
  obtain ⟨hex, dx⟩ := decode x vx hx hvx
  generalize F64.exf (F64.ebits x) = E at *
  generalize F64.mant x (F64.ebits x) = m at *
  have hval := dx.sv_eq
  by_cases hbig : 1075 ≤ E
  · rw [if_pos hbig] at hr
    have hK : vx = sv (sgn x) (m * 2^(E - 1075)) * den := by
      rw [← sv_mul, hval, den_pow, Nat.mul_assoc, ← Nat.pow_add]
      congr 3; omega
    rw [hr, hvx, hK]
    exact ⟨_, rfl, hint _, rfl, hx⟩
  · rw [if_neg hbig] at hr
    have hE1 := dx.E_ge
    obtain ⟨ha1, ha2, ha3⟩ := rint_arith m E hE1 (by omega)
    have hqm : m / 2^(1075 - E) ≤ m := Nat.div_le_self _ _
    generalize m / 2^(1075 - E) = q at *
    generalize hrem : m - q * 2^(1075 - E) = rem at *
    generalize (2:Nat)^(1075 - E - 1) = half at *
    have hG : 0 < 2^E := Nat.two_pow_pos E
    generalize (2:Nat)^E = G at *
    have hk : pick (sgn x) q rem half ≤ 2 * P52 := by
      have := dx.m_lt
      rcases hpick (sgn x) q rem half with h | h <;> omega
    obtain ⟨h1, h2, h3⟩ := rnd_int (sgn x) _ dx.s_le hk
    rw [← hr] at h1 h2 h3
    refine ⟨_, h1, ?_, by rw [h2, sgn_eq_signBit x hx], h3⟩
    rw [hval, ha1]
    exact hfrac (sgn x) q rem half G dx.s_le hG (by rw [← ha2])
      (by rw [← ha2, ← Nat.mul_assoc]; exact Nat.mul_lt_mul_of_pos_right ha3 hG)

theorem rint_eq (mode x : Nat) (hex : F64.ebits x < 2047) (hs : sgn x ≤ 1) :
    F64.rint mode x = if 1075 ≤ F64.exf (F64.ebits x) then x
      else F64.rnd (sgn x * P63)
        (rintK mode (sgn x) (F64.mant x (F64.ebits x) / 2^(1075 - F64.exf (F64.ebits x)))
          (F64.mant x (F64.ebits x) - F64.mant x (F64.ebits x) / 2^(1075 - F64.exf (F64.ebits x)) * 2^(1075 - F64.exf (F64.ebits x)))
          (2^(1075 - F64.exf (F64.ebits x) - 1))) (4096 + 1075) := by
  rw [rint_unfold mode x hex, rintA_eq]
  by_cases h : 1075 ≤ F64.exf (F64.ebits x)
  · rw [if_pos h, if_pos h]
  · rw [if_neg h, if_neg h, rintB_eq _ _ _ _ _ hs]

theorem rint2_eq (mode x : Nat) (hex : F64.ebits x < 2047) (hs : sgn x ≤ 1) :
    F64.rint2 mode x = if 1075 ≤ F64.exf (F64.ebits x) then x
      else F64.rnd (sgn x * P63)
        ((fun s q rem _ => rintK2 mode s q rem) (sgn x) (F64.mant x (F64.ebits x) / 2^(1075 - F64.exf (F64.ebits x)))
          (F64.mant x (F64.ebits x) - F64.mant x (F64.ebits x) / 2^(1075 - F64.exf (F64.ebits x)) * 2^(1075 - F64.exf (F64.ebits x)))
          (2^(1075 - F64.exf (F64.ebits x) - 1))) (4096 + 1075) := by
  rw [rint2_unfold mode x hex, rintD_eq]
  by_cases h : 1075 ≤ F64.exf (F64.ebits x)
  · rw [if_pos h, if_pos h]
  · rw [if_neg h, if_neg h, rintC_eq _ _ _ _ hs]

theorem rintK_pick (mode s q rem half : Nat) : rintK mode s q rem half = q ∨ rintK mode s q rem half = q + 1 := by
  unfold rintK; repeat' split
  all_goals first | exact Or.inl rfl | exact Or.inr rfl

theorem rintK2_pick (mode s q rem : Nat) : rintK2 mode s q rem = q ∨ rintK2 mode s q rem = q + 1 := by
  unfold rintK2; repeat' split
  all_goals first | exact Or.inl rfl | exact Or.inr rfl

end IEEE
