import Cvss.Model.Parse
import Cvss.Spec.Grammar
/-!
# Splitting at `/` and cutting at `:`

What all four parsers and the three recognisers do before they look at a metric table: `Spec.splitSlash` (and the
model's copy of it) inverts `Spec.joinSlash` on lists of slash-free parts, `Model.cutColon` inverts `Spec.render`
on a pair whose abbreviation has no colon, and `Spec.splitColon` is `cutColon` behind the test "there is a colon".
Stated with the Spec's names `SLASH` (47) and `COLON` (58) for the two bytes; the model's are the same numbers.
-/
namespace Proofs.Lex
open Model (Bytes cutColon)
open Spec (Pair render joinSlash splitSlash splitColon readPairs SLASH COLON)

theorem model_SLASH : Model.SLASH = SLASH := rfl
theorem model_COLON : Model.COLON = COLON := rfl

theorem joinSlash_cons_cons (x y : Bytes) (l : List Bytes) :
    joinSlash (x :: y :: l) = x ++ SLASH :: joinSlash (y :: l) := rfl

theorem joinSlash_cons_of_ne_nil (x : Bytes) {l : List Bytes} (h : l ≠ []) :
    joinSlash (x :: l) = x ++ SLASH :: joinSlash l := by
  cases l with
  | nil => exact absurd rfl h
  | cons y l => rfl

theorem joinSlash_cons_head (c : Nat) (h : Bytes) (t : List Bytes) :
    joinSlash ((c :: h) :: t) = c :: joinSlash (h :: t) := by
  cases t <;> rfl

/-- the v4 spelling "every element preceded by `/`" is `/` followed by the v2/v3 spelling -/
theorem flatten_slash {xs : List Bytes} (hne : xs ≠ []) : (xs.map (SLASH :: ·)).flatten = SLASH :: joinSlash xs := by
  induction xs with
  | nil => exact absurd rfl hne
  | cons x xs ih =>
    cases xs with
    | nil => simp [joinSlash]
    | cons y ys => rw [List.map_cons, List.flatten_cons, ih (by simp), joinSlash_cons_cons]; simp

theorem model_splitSlash (s : Bytes) : Model.splitSlash s = splitSlash s := by
  induction s with
  | nil => rfl
  | cons c cs ih => unfold Model.splitSlash splitSlash; rw [ih]; rfl

theorem splitSlash_ne_nil (s : Bytes) : splitSlash s ≠ [] := by
  cases s with
  | nil => simp [splitSlash]
  | cons c cs =>
    unfold splitSlash
    split
    · simp
    · split <;> simp

theorem splitSlash_cons_slash (cs : Bytes) : splitSlash (SLASH :: cs) = [] :: splitSlash cs := by
  rw [splitSlash, if_pos rfl]

theorem splitSlash_cons_ne {c : Nat} (hc : c ≠ SLASH) (cs : Bytes) :
    ∃ h t, splitSlash cs = h :: t ∧ splitSlash (c :: cs) = (c :: h) :: t := by
  cases hs : splitSlash cs with
  | nil => exact absurd hs (splitSlash_ne_nil cs)
  | cons h t => exact ⟨h, t, rfl, by rw [splitSlash, if_neg hc, hs]⟩

theorem joinSlash_splitSlash (s : Bytes) : joinSlash (splitSlash s) = s := by
  induction s with
  | nil => rfl
  | cons c cs ih =>
    by_cases hc : c = SLASH
    · subst hc
      rw [splitSlash_cons_slash, joinSlash_cons_of_ne_nil _ (splitSlash_ne_nil cs), ih]
      rfl
    · obtain ⟨h, t, h1, h2⟩ := splitSlash_cons_ne hc cs
      rw [h2, joinSlash_cons_head, ← h1, ih]

theorem splitSlash_noslash {x : Bytes} (hx : SLASH ∉ x) : splitSlash x = [x] := by
  induction x with
  | nil => rfl
  | cons c cs ih =>
    have hc : c ≠ SLASH := fun e => hx (by simp [e])
    obtain ⟨h, t, h1, h2⟩ := splitSlash_cons_ne hc cs
    rw [ih (fun e => hx (by simp [e]))] at h1
    cases h1
    exact h2

theorem splitSlash_append (a r : Bytes) : splitSlash (a ++ SLASH :: r) = splitSlash a ++ splitSlash r := by
  induction a with
  | nil => exact splitSlash_cons_slash r
  | cons c cs ih =>
    by_cases hc : c = SLASH
    · subst hc
      rw [List.cons_append, splitSlash_cons_slash, splitSlash_cons_slash, ih, List.cons_append]
    · obtain ⟨h, t, h1, h2⟩ := splitSlash_cons_ne hc cs
      obtain ⟨h', t', h1', h2'⟩ := splitSlash_cons_ne hc (cs ++ SLASH :: r)
      rw [ih, h1, List.cons_append] at h1'
      cases h1'
      rw [List.cons_append, h2', h2, List.cons_append]

theorem splitSlash_append_slash {x : Bytes} (hx : SLASH ∉ x) (r : Bytes) :
    splitSlash (x ++ SLASH :: r) = x :: splitSlash r := by
  rw [splitSlash_append, splitSlash_noslash hx]; rfl

theorem splitSlash_joinSlash {xs : List Bytes} (hne : xs ≠ []) (hx : ∀ x ∈ xs, SLASH ∉ x) :
    splitSlash (joinSlash xs) = xs := by
  induction xs with
  | nil => exact absurd rfl hne
  | cons x xs ih =>
    cases xs with
    | nil => exact splitSlash_noslash (hx x (by simp))
    | cons y ys =>
      rw [joinSlash_cons_cons, splitSlash_append_slash (hx x (by simp)),
        ih (by simp) (fun z hz => hx z (by simp [hz]))]

theorem mem_splitSlash {s el : Bytes} (h : el ∈ splitSlash s) : SLASH ∉ el := by
  induction s generalizing el with
  | nil => simp only [splitSlash, List.mem_singleton] at h; simp [h]
  | cons c cs ih =>
    by_cases hc : c = SLASH
    · subst hc
      rw [splitSlash_cons_slash, List.mem_cons] at h
      rcases h with rfl | h
      · simp
      · exact ih h
    · obtain ⟨h', t, e1, e2⟩ := splitSlash_cons_ne hc cs
      rw [e2, List.mem_cons] at h
      rw [e1] at ih
      rcases h with rfl | h
      · simp only [List.mem_cons, not_or]
        exact ⟨fun e => hc e.symm, ih List.mem_cons_self⟩
      · exact ih (List.mem_cons_of_mem _ h)

theorem render_ne_nil (p : Pair) : render p ≠ [] := by simp [render]

theorem render_noslash {p : Pair} (h1 : SLASH ∉ p.1) (h2 : SLASH ∉ p.2) : SLASH ∉ render p := by
  have : SLASH ≠ COLON := by decide
  simp [render, h1, h2, this]

theorem cutColon_append {a : Bytes} (h : COLON ∉ a) (v : Bytes) : cutColon (a ++ COLON :: v) = (a, v) := by
  induction a with
  | nil => simp [cutColon, model_COLON]
  | cons c cs ih =>
    have hc : c ≠ COLON := fun e => h (by simp [e])
    simp [cutColon, model_COLON, hc, ih (fun e => h (by simp [e]))]

theorem cutColon_render {p : Pair} (h : COLON ∉ p.1) : cutColon (render p) = p := cutColon_append h p.2

theorem cutColon_of_not_mem {el : Bytes} (h : COLON ∉ el) : cutColon el = (el, []) := by
  induction el with
  | nil => rfl
  | cons c cs ih =>
    have hc : c ≠ COLON := fun e => h (by simp [e])
    simp [cutColon, model_COLON, hc, ih (fun e => h (by simp [e]))]

theorem colon_mem_of_snd_ne_nil {el : Bytes} (h : (cutColon el).2 ≠ []) : COLON ∈ el :=
  Classical.byContradiction fun hn => h (congrArg Prod.snd (cutColon_of_not_mem hn))

theorem render_cutColon {el : Bytes} (h : COLON ∈ el) : render (cutColon el) = el := by
  induction el with
  | nil => simp at h
  | cons c cs ih =>
    by_cases hc : c = COLON
    · simp [cutColon, model_COLON, hc, render]
    · have ih' := ih (by simpa [Ne.symm hc] using h)
      simp only [render] at ih' ⊢
      simp [cutColon, model_COLON, hc, ih']

theorem cutColon_fst (el : Bytes) : COLON ∉ (cutColon el).1 := by
  induction el with
  | nil => simp [cutColon]
  | cons c cs ih =>
    by_cases hc : c = COLON
    · simp [cutColon, model_COLON, hc]
    · simp only [cutColon, model_COLON, hc, if_false, List.mem_cons, not_or]
      exact ⟨fun h => hc h.symm, ih⟩

theorem splitColon_eq (el : Bytes) : splitColon el = if COLON ∈ el then some (cutColon el) else none := by
  induction el with
  | nil => simp [splitColon]
  | cons c cs ih =>
    by_cases hc : c = COLON
    · simp [splitColon, cutColon, model_COLON, hc]
    · rw [splitColon, if_neg hc, ih]
      by_cases hm : COLON ∈ cs <;> simp [hm, cutColon, model_COLON, hc, Ne.symm hc]

theorem splitColon_render {p : Pair} (h : COLON ∉ p.1) : splitColon (render p) = some p := by
  rw [splitColon_eq, if_pos (by simp [render]), cutColon_render h]

theorem render_of_splitColon {el : Bytes} {p : Pair} (h : splitColon el = some p) : render p = el := by
  rw [splitColon_eq] at h
  split at h
  · cases h; exact render_cutColon ‹_›
  · cases h

theorem readPairs_map_render {w : List Pair} (h : ∀ p ∈ w, COLON ∉ p.1) : readPairs (w.map render) = some w := by
  unfold readPairs
  induction w with
  | nil => rfl
  | cons p w ih =>
    rw [List.map_cons, List.mapM_cons, splitColon_render (h p (by simp)), ih (fun q hq => h q (by simp [hq]))]
    rfl

theorem map_render_of_readPairs {els : List Bytes} {w : List Pair} (h : readPairs els = some w) :
    w.map render = els := by
  unfold readPairs at h
  induction els generalizing w with
  | nil => cases h; rfl
  | cons el els ih =>
    rw [List.mapM_cons] at h
    cases hs : splitColon el with
    | none => simp [hs] at h
    | some p =>
      cases hr : els.mapM splitColon with
      | none => simp [hs, hr] at h
      | some w' =>
        simp only [hs, hr, bind, Option.bind, pure, Option.some.injEq] at h
        subst h
        rw [List.map_cons, render_of_splitColon hs, ih hr]

theorem stripPrefix_eq_some_iff (p s rest : Bytes) : Spec.stripPrefix p s = some rest ↔ s = p ++ rest := by
  unfold Spec.stripPrefix
  constructor
  · intro h
    split at h
    · rename_i hp
      obtain ⟨t, rfl⟩ := List.isPrefixOf_iff_prefix.mp hp
      rw [List.drop_left] at h
      cases h
      rfl
    · cases h
  · rintro rfl
    rw [if_pos (List.isPrefixOf_iff_prefix.mpr (List.prefix_append _ _)), List.drop_left]

theorem splitSlash_join_render {w : List Pair} (hne : w ≠ []) (hs : ∀ p ∈ w, SLASH ∉ render p) :
    splitSlash (joinSlash (w.map render)) = w.map render :=
  splitSlash_joinSlash (by simpa using hne) (List.forall_mem_map.mpr hs)

theorem map_cutColon_render {w : List Pair} (hc : ∀ p ∈ w, COLON ∉ p.1) : (w.map render).map cutColon = w := by
  rw [List.map_map]
  exact (List.map_congr_left fun p hp => cutColon_render (hc p hp)).trans (List.map_id w)

theorem map_render_cutColon {els : List Bytes} (h : ∀ el ∈ els, COLON ∈ el) : (els.map cutColon).map render = els := by
  rw [List.map_map]
  exact (List.map_congr_left fun el hel => render_cutColon (h el hel)).trans (List.map_id els)

end Proofs.Lex
