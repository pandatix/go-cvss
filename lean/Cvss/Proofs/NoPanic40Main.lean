import Cvss.Proofs.NoPanic40Guards
/-!
# v4.0 `Score_ok`: composition

`score_ok_core`: on the field codes of a well-formed object (each field holds a code of one of its metric's values),
the generated twin `GenK40.Score_ok_core` returns `true`. Steps: shape (`Score_ok_core = ScoreOkH`, definitional), effective
codes in range and MacroVector valid (`tie_*`, then `Proofs.Score4.eff_lt`, `mvc_eq`, `mv_valid`), guards of a valid
MacroVector (`mvGuards`), severity-distance guards (`okB_true`), loops and end (`tailK_true`).
-/
namespace Proofs.NoPanic40
open Go GenK40
open Proofs.Score4 (flet_eq condT condF wf_codes eff_lt mv_valid)
open Proofs.B40 (code)
open Props.NoPanic40 (tie_mod tie_macroVector_core)
open Model (O40)

def tailMV (avVal acVal atVal prVal uiVal vcVal viVal vaVal scVal siVal saVal crVal irVal arVal : Nat)
    (mv : Nat × Nat × Nat × Nat × Nat × Nat) : Bool :=
  match mv with
  | (eq1, eq2, eq3, eq4, eq5, eq6) =>
    tailK true avVal acVal atVal prVal uiVal vcVal viVal vaVal scVal siVal saVal crVal irVal arVal eq1 eq2 eq3 eq4 eq5 eq6

theorem cond_true_of (c : Bool) {x : Bool} (h : x = true) : cond c true x = true := by
  cases c
  · exact h
  · rfl

/-- `ScoreOkH` without the forcing lets: `true` by the no-impact shortcut, else what `tailK` says -/
theorem ScoreOkH_of (r0 r1 r2 r3 r4 r5 r6 r7 r8 r9 r10 r11 r12 r13 r14 r15 r16 r17 r18 r19 r20 r21 r22 r23 r24 r25 : Nat)
    (h : tailMV (mod_ r0 r1) (mod_ r2 r3) (mod_ r4 r5) (mod_ r6 r7) (mod_ r8 r9) (mod_ r10 r11) (mod_ r14 r15) (mod_ r18 r19)
      (mod_ r12 r13) (mod_ r16 r17) (mod_ r20 r21) (reqFix r22) (reqFix r23) (reqFix r24)
      (macroVector_core r0 r1 r2 r3 r4 r5 r6 r7 r8 r9 r10 r11 r12 r13 r14 r15 r17 r16 r18 r19 r21 r20 r25 r22 r23 r24) = true) :
    ScoreOkH r0 r1 r2 r3 r4 r5 r6 r7 r8 r9 r10 r11 r12 r13 r14 r15 r16 r17 r18 r19 r20 r21 r22 r23 r24 r25 = true := by
  unfold tailMV reqFix at h
  unfold ScoreOkH
  simp only [flet_eq]
  exact cond_true_of _ h

theorem tailK_ok {av ac at_ pr ui vc vi va sc si sa cr ir ar : Nat} {eq1 eq2 eq3 eq4 eq5 eq6 : Nat}
    (hav : av < 4) (hac : ac < 2) (hat : at_ < 2) (hpr : pr < 3) (hui : ui < 3) (hvc : vc < 3) (hvi : vi < 3) (hva : va < 3)
    (hsc : sc < 3) (hsi : si < 4) (hsa : sa < 4) (hcr : cr < 4) (hir : ir < 4) (har : ar < 4)
    (h1 : eq1 < 3) (h2 : eq2 < 2) (h3 : eq3 < 3) (h4 : eq4 < 3) (h5 : eq5 < 3) (h6 : eq6 < 2)
    (hx : (Nat.beq eq3 2 && Nat.beq eq6 0) = false) :
    tailK true av ac at_ pr ui vc vi va sc si sa (reqFix cr) (reqFix ir) (reqFix ar) eq1 eq2 eq3 eq4 eq5 eq6 = true := by
  obtain ⟨gp, g1, g2, g3, g4, gd⟩ := mvGuards h1 h2 h3 h4 h5 h6 hx
  exact tailK_true av ac at_ pr ui vc vi va sc si sa (reqFix cr) (reqFix ir) (reqFix ar) eq1 eq2 eq3 eq4 eq5 eq6
    gp g1 g2 g3 g4
    (fun x1 hx1 x2 hx2 x3 hx3 x4 hx4 =>
      okB_true hav hac hat hpr hui hvc hvi hva hsc hsi hsa hcr hir har h1 h2 h3 h4 h6 x1 hx1 x2 hx2 x3 hx3 x4 hx4)
    gd

theorem score_ok_core (c : O40) (h : c.wf = true) :
    Score_ok_core (code 0 c) (code 15 c) (code 1 c) (code 16 c) (code 2 c) (code 17 c) (code 3 c) (code 18 c)
      (code 4 c) (code 19 c) (code 5 c) (code 20 c) (code 8 c) (code 23 c) (code 6 c) (code 21 c)
      (code 9 c) (code 24 c) (code 7 c) (code 22 c) (code 10 c) (code 25 c)
      (code 12 c) (code 13 c) (code 14 c) (code 11 c) = true := by
  have hc := wf_codes h
  obtain ⟨hav, hac, hat, hpr, hui, hvc, hvi, hva, hsc, hsi, hsa⟩ := eff_lt h
  obtain ⟨b1, b2, b3, b4, b5, b6, bx⟩ := mv_valid hav hac hat hpr hui hvc hvi hva hsc (hc 9 (by decide))
    (hc 24 (by decide)) (hc 10 (by decide)) (hc 25 (by decide)) (hc 12 (by decide)) (hc 13 (by decide))
    (hc 14 (by decide)) (hc 11 (by decide))
  rw [Score_ok_core_eq_ScoreOkH]
  apply ScoreOkH_of
  rw [tie_mod, tie_macroVector_core, Proofs.Score4.mvc_eq]
  exact tailK_ok hav hac hat hpr hui hvc hvi hva hsc hsi hsa (hc 12 (by decide)) (hc 13 (by decide)) (hc 14 (by decide))
    b1 b2 b3 b4 b5 b6 bx

end Proofs.NoPanic40
