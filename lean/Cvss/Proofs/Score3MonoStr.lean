import Cvss.Proofs.Score3MonoSpec
import Cvss.Proofs.Score3Roundup
import Cvss.Proofs.EffKeys
/-!
# C12 (v3), specification side: the scores of `Spec/V3.lean` are monotone in every metric

For an assignment `f : Bytes → Bytes` of legal value strings to the 22 metrics, a metric `a` and two legal values
`v₁`, `v₂` with `Spec.atLeastAsSevere … f a v₁ v₂` (severity order of `Spec/Effective.lean`; a Modified `X` ranks as
the base metric's value): `baseK`, `temporalK` (both versions) and `environmentalK true` (v3.1) of `upd f a v₁` are
`≤` those of `upd f a v₂`. No code involved: strings are decoded to table indices (per-slot `decide` facts) and the
index-level monotonicity of `Score3MonoSpec.lean` is applied.
-/
namespace Proofs.Score3.Mono
open Spec Spec.V3 Proofs.Score3
open EffKeys (upd)

abbrev ms : List Metric := Spec.V3.metrics

/-- `t` ranks at least as high as `s` for metric `x` (both ranked) -/
def sevLE (x s t : Bytes) : Bool :=
  match rank x s, rank x t with
  | some r₁, some r₂ => r₁ ≤ r₂
  | _, _ => false
/-- `s ⪯ t`: unchanged, or at least as severe -/
def R (x s t : Bytes) : Prop := s = t ∨ sevLE x s t = true

/-! ## one metric changes: what happens to each input of the equations -/

/-- a metric `x` that is not a Modified metric (its rank does not depend on the context) -/
theorem single_step (f : Bytes → Bytes) {x a v₁ v₂ : Bytes} (hbx : baseOf ms x = none)
    (sev : atLeastAsSevere ms rank f a v₁ v₂ = true) : R x (upd f a v₁ x) (upd f a v₂ x) := by
  by_cases h : x = a
  · subst h
    simp only [atLeastAsSevere, rankCtx, hbx] at sev
    simp only [upd, if_true]
    exact Or.inr sev
  · simp only [upd, if_neg h]; exact Or.inl rfl

/-- the effective value of a base/Modified pair `(x, mx)` -/
theorem eff_step (f : Bytes → Bytes) {x mx a v₁ v₂ : Bytes} (hne : x ≠ mx) (hbx : baseOf ms x = none)
    (hbm : baseOf ms mx = some x) (hr : ∀ v, rank mx v = rank x v)
    (sev : atLeastAsSevere ms rank f a v₁ v₂ = true) :
    R x (Spec.eff (upd f a v₁) x mx) (Spec.eff (upd f a v₂) x mx) := by
  by_cases h1 : a = mx
  · subst h1
    have e : ∀ v, rankCtx ms rank f a v = rank x (Spec.eff (upd f a v) x a) := by
      intro v
      simp only [rankCtx, hbm, Spec.eff, upd, if_true, if_neg hne]
      by_cases hv : v = b "X"
      · simp only [hv, if_true]
      · simp only [hv, if_false, hr]
    simp only [atLeastAsSevere, e] at sev
    exact Or.inr sev
  · by_cases h2 : a = x
    · subst h2
      have hm : mx ≠ a := fun e => hne e.symm
      by_cases hx : f mx = b "X"
      · simp only [atLeastAsSevere, rankCtx, hbx] at sev
        simp only [Spec.eff, upd, if_neg hm, hx, if_true]
        exact Or.inr sev
      · simp only [Spec.eff, upd, if_neg hm, hx, if_false]; exact Or.inl rfl
    · have hm : mx ≠ a := fun e => h1 e.symm
      have hx : x ≠ a := fun e => h2 e.symm
      simp only [Spec.eff, upd, if_neg hm, if_neg hx]; exact Or.inl rfl

def LegalVec (f : Bytes → Bytes) : Prop := ∀ m ∈ ms, f m.abv ∈ m.values

theorem legal_mem {m : Metric} (hm : m ∈ ms) {v : Bytes} (h : legal ms m.abv v = true) : v ∈ m.values := by
  obtain ⟨j, hj, rfl⟩ := Bits.mem_at hm
  have e : findMetric ms (Bits.mAt ms j).abv = some (Bits.mAt ms j) := Bits.find_at ms j (by decide) hj
  simp only [legal, e] at h
  exact List.contains_iff_mem.mp h

/-- `x` names a metric of the table, and `vals` are its values -/
abbrev IsSlot (x : Bytes) (vals : List Bytes) : Prop := ∃ m ∈ ms, m.abv = x ∧ m.values = vals

/-- `mx` is the Modified metric of the base metric `x`: named after it, with the same values and `X` -/
abbrev IsPair (x mx : Bytes) (vals : List Bytes) : Prop :=
  IsSlot x vals ∧ IsSlot mx (b "X" :: vals) ∧ x ≠ mx ∧ baseOf ms x = none ∧ baseOf ms mx = some x

theorem upd_mem {f : Bytes → Bytes} {a v x : Bytes} {vals : List Bytes} (hx : IsSlot x vals) (hf : LegalVec f)
    (l : legal ms a v = true) : upd f a v x ∈ vals := by
  obtain ⟨m, hm, rfl, rfl⟩ := hx
  by_cases h : m.abv = a
  · subst h; simp only [upd, if_true]; exact legal_mem hm l
  · simp only [upd, if_neg h]; exact hf m hm

theorem eff_mem {g : Bytes → Bytes} {x mx : Bytes} {vals : List Bytes} (hx : g x ∈ vals) (hm : g mx ∈ b "X" :: vals) :
    Spec.eff g x mx ∈ vals := by
  by_cases h : g mx = b "X"
  · simp only [Spec.eff, h, if_true]; exact hx
  · simp only [Spec.eff, h, if_false]
    rcases List.mem_cons.mp hm with e | e
    · exact absurd e h
    · exact e

def ixOf (order : List String) (s : Bytes) : Nat := (order.map b).idxOf s
def iAV : Bytes → Nat := ixOf ["N", "A", "L", "P"]
def iAC : Bytes → Nat := ixOf ["L", "H"]
def iPR : Bytes → Nat := ixOf ["N", "L", "H"]
def iUI : Bytes → Nat := ixOf ["N", "R"]
def iS (s : Bytes) : Nat := if s = b "C" then 1 else 0
def iCIA : Bytes → Nat := ixOf ["H", "L", "N"]
/-- requirement index: H0 > M1 = X > L2 -/
def iReq (s : Bytes) : Nat := if s = b "X" then 1 else ixOf ["H", "M", "L"] s
def iE (s : Bytes) : Nat := if s = b "X" then 0 else ixOf ["H", "F", "P", "U"] s
def iRL (s : Bytes) : Nat := if s = b "X" then 0 else ixOf ["U", "W", "T", "O"] s
def iRC (s : Bytes) : Nat := if s = b "X" then 0 else ixOf ["C", "R", "U"] s

def vAV : List Bytes := ["N", "A", "L", "P"].map b
def vAC : List Bytes := ["L", "H"].map b
def vPR : List Bytes := ["N", "L", "H"].map b
def vUI : List Bytes := ["N", "R"].map b
def vS : List Bytes := ["U", "C"].map b
def vCIA : List Bytes := ["H", "L", "N"].map b
def vReq : List Bytes := ["X", "H", "M", "L"].map b
def vE : List Bytes := ["X", "H", "F", "P", "U"].map b
def vRL : List Bytes := ["X", "U", "W", "T", "O"].map b
def vRC : List Bytes := ["X", "C", "R", "U"].map b

/-! weights of strings = weights of indices (closed `decide` facts) -/
theorem fAV : ∀ s ∈ vAV, wAV s = cAV (iAV s) ∧ iAV s < 4 := by decide
theorem fAC : ∀ s ∈ vAC, wAC s = cAC (iAC s) ∧ iAC s < 2 := by decide
theorem fPR : ∀ s ∈ vPR, (∀ ch, wPR ch s = cPR (iPR s) ch) ∧ iPR s < 3 := by decide
theorem fUI : ∀ s ∈ vUI, wUI s = cUI (iUI s) ∧ iUI s < 2 := by decide
theorem fS : ∀ s ∈ vS, (s == b "C") = Nat.beq (iS s) 1 ∧ iS s < 2 := by decide
theorem fCIA : ∀ s ∈ vCIA, wCIA s = cCIA (iCIA s) ∧ iCIA s < 3 := by decide
theorem fReq : ∀ s ∈ vReq, wReq s = cReq (Nat.succ (iReq s)) ∧ iReq s < 3 := by decide
theorem fE : ∀ s ∈ vE, wE s = cE (Nat.succ (iE s)) ∧ iE s < 4 := by decide
theorem fRL : ∀ s ∈ vRL, wRL s = cRL (Nat.succ (iRL s)) ∧ iRL s < 4 := by decide
theorem fRC : ∀ s ∈ vRC, wRC s = cRC (Nat.succ (iRC s)) ∧ iRC s < 3 := by decide

/-! more severe = smaller index (Scope: larger) -/
theorem oAV : ∀ s ∈ vAV, ∀ t ∈ vAV, R (b "AV") s t → iAV t ≤ iAV s := by unfold R; decide
theorem oAC : ∀ s ∈ vAC, ∀ t ∈ vAC, R (b "AC") s t → iAC t ≤ iAC s := by unfold R; decide
theorem oPR : ∀ s ∈ vPR, ∀ t ∈ vPR, R (b "PR") s t → iPR t ≤ iPR s := by unfold R; decide
theorem oUI : ∀ s ∈ vUI, ∀ t ∈ vUI, R (b "UI") s t → iUI t ≤ iUI s := by unfold R; decide
theorem oS : ∀ s ∈ vS, ∀ t ∈ vS, R (b "S") s t → iS s ≤ iS t := by unfold R; decide
theorem oCIA : ∀ x ∈ [b "C", b "I", b "A"], ∀ s ∈ vCIA, ∀ t ∈ vCIA, R x s t → iCIA t ≤ iCIA s := by unfold R; decide
theorem oReq : ∀ x ∈ [b "CR", b "IR", b "AR"], ∀ s ∈ vReq, ∀ t ∈ vReq, R x s t → iReq t ≤ iReq s := by unfold R; decide
theorem oE : ∀ s ∈ vE, ∀ t ∈ vE, R (b "E") s t → iE t ≤ iE s := by unfold R; decide
theorem oRL : ∀ s ∈ vRL, ∀ t ∈ vRL, R (b "RL") s t → iRL t ≤ iRL s := by unfold R; decide
theorem oRC : ∀ s ∈ vRC, ∀ t ∈ vRC, R (b "RC") s t → iRC t ≤ iRC s := by unfold R; decide

/-! ## the Spec scores as functions of the (effective) value strings -/
def gBase (sAV sAC sPR sUI sS sC sI sA : Bytes) : Nat :=
  (BaseScore (sS == b "C") (Impact (sS == b "C") (ISS (wCIA sC) (wCIA sI) (wCIA sA)))
    (Exploitability (wAV sAV) (wAC sAC) (wPR (sS == b "C") sPR) (wUI sUI))).toNat
def gTemp (k : Nat) (sE sRL sRC : Bytes) : Nat := (TemporalScore (Int.ofNat k) (wE sE) (wRL sRL) (wRC sRC)).toNat
def gEnv (v31 : Bool) (sAV sAC sPR sUI sS sC sI sA sCR sIR sAR sE sRL sRC : Bytes) : Nat :=
  (EnvironmentalScore (sS == b "C")
    (ModifiedImpact v31 (sS == b "C") (MISS (wReq sCR) (wCIA sC) (wReq sIR) (wCIA sI) (wReq sAR) (wCIA sA)))
    (Exploitability (wAV sAV) (wAC sAC) (wPR (sS == b "C") sPR) (wUI sUI)) (wE sE) (wRL sRL) (wRC sRC)).toNat

theorem baseK_g (v : Bool) (f : Bytes → Bytes) : baseK v f =
    gBase (f (b "AV")) (f (b "AC")) (f (b "PR")) (f (b "UI")) (f (b "S")) (f (b "C")) (f (b "I")) (f (b "A")) := rfl
theorem temporalK_g (v : Bool) (f : Bytes → Bytes) : temporalK v f = gTemp (baseK v f) (f (b "E")) (f (b "RL")) (f (b "RC")) := rfl
theorem modified_eff (f : Bytes → Bytes) (m base : String) : modified f m base = Spec.eff f (b base) (b m) := by
  unfold modified Spec.eff
  by_cases h : f (b m) = b "X" <;> simp [h]
theorem environmentalK_g (v : Bool) (f : Bytes → Bytes) : environmentalK v f =
    gEnv v (Spec.eff f (b "AV") (b "MAV")) (Spec.eff f (b "AC") (b "MAC")) (Spec.eff f (b "PR") (b "MPR"))
      (Spec.eff f (b "UI") (b "MUI")) (Spec.eff f (b "S") (b "MS")) (Spec.eff f (b "C") (b "MC"))
      (Spec.eff f (b "I") (b "MI")) (Spec.eff f (b "A") (b "MA")) (f (b "CR")) (f (b "IR")) (f (b "AR"))
      (f (b "E")) (f (b "RL")) (f (b "RC")) := by
  simp only [environmentalK, modifiedImpactD, modifiedExploitabilityD, modifiedChanged, modified_eff, gEnv]

theorem gBase_ix {sAV sAC sPR sUI sS sC sI sA : Bytes} (hAV : sAV ∈ vAV) (hAC : sAC ∈ vAC) (hPR : sPR ∈ vPR)
    (hUI : sUI ∈ vUI) (hS : sS ∈ vS) (hC : sC ∈ vCIA) (hI : sI ∈ vCIA) (hA : sA ∈ vCIA) :
    gBase sAV sAC sPR sUI sS sC sI sA = kB (iAV sAV) (iAC sAC) (iPR sPR) (iUI sUI) (iS sS) (iCIA sC) (iCIA sI) (iCIA sA) := by
  simp only [gBase, kB, specBase, specImpact, specExpl, (fAV _ hAV).1, (fAC _ hAC).1, (fPR _ hPR).1, (fUI _ hUI).1,
    (fS _ hS).1, (fCIA _ hC).1, (fCIA _ hI).1, (fCIA _ hA).1]

theorem gTemp_ix {k : Nat} {sE sRL sRC : Bytes} (hE : sE ∈ vE) (hRL : sRL ∈ vRL) (hRC : sRC ∈ vRC) :
    gTemp k sE sRL sRC = kT k (iE sE) (iRL sRL) (iRC sRC) := by
  simp only [gTemp, kT, specT, (fE _ hE).1, (fRL _ hRL).1, (fRC _ hRC).1]

/-! ## the (modified) base score is a number of tenths in 0 … 100

`Roundup (min _ 10) ≤ 100` whatever the sub-scores are; `0 ≤` because the impact is positive where the score is not
set to 0 and no weight of the exploitability product is negative. -/
theorem Roundup_nonneg {x : Dec} (h : 0 ≤ x.num) : 0 ≤ Roundup x := by
  have := Int.ediv_nonpos_of_nonpos_of_neg (n := -(x.num * 10)) (by omega) (pow10_pos x.exp)
  unfold Roundup; omega

theorem over_nonneg {x : Dec} (h : 0 ≤ x.num) (e : Nat) : 0 ≤ x.over e :=
  Int.mul_nonneg h (Int.le_of_lt (pow10_pos _))

theorem min10 (x : Dec) : Dec.min x 10 ≤ tenths 100 ∧ (0 ≤ x.num → 0 ≤ (Dec.min x 10).num) := by
  unfold Dec.min
  by_cases h : x ≤ 10
  · rw [if_pos h, le_tenths_iff]
    have h' : x.num * ((10 ^ (max x.exp 0 - x.exp) : Nat) : Int) ≤ 10 * ((10 ^ (max x.exp 0 - 0) : Nat) : Int) := h
    rw [Nat.max_zero, Nat.sub_self, Nat.sub_zero] at h'
    generalize ((10 ^ x.exp : Nat) : Int) = y at h' ⊢
    exact ⟨by omega, id⟩
  · rw [if_neg h]; exact ⟨by decide, fun _ => by decide⟩

theorem BaseScore_le (ch : Bool) (imp ex : Dec) : BaseScore ch imp ex ≤ 100 := by
  rw [BaseScore_eq]
  by_cases h : imp ≤ 0
  · rw [if_pos h]; decide
  · rw [if_neg h]; unfold baseArg
    cases ch <;> exact Roundup_le _ 100 (min10 _).1

theorem BaseScore_nonneg (ch : Bool) (imp : Dec) {ex : Dec} (hex : 0 ≤ ex.num) : 0 ≤ BaseScore ch imp ex := by
  rw [BaseScore_eq]
  by_cases h : imp ≤ 0
  · rw [if_pos h]; decide
  · rw [if_neg h]
    have hi : 0 ≤ imp.num := Int.le_of_lt (Int.lt_of_not_ge fun hn => h (by
      show imp.num * _ ≤ 0 * _
      rw [Int.zero_mul]; exact Int.mul_nonpos_of_nonpos_of_nonneg hn (Int.le_of_lt (pow10_pos _))))
    have hs : 0 ≤ (imp + ex).num := Int.add_nonneg (over_nonneg hi _) (over_nonneg hex _)
    unfold baseArg
    cases ch
    · exact Roundup_nonneg ((min10 _).2 hs)
    · exact Roundup_nonneg ((min10 _).2 (Int.mul_nonneg (by decide) hs))

theorem weights_nonneg : (∀ c < 4, 0 ≤ (cAV c).num) ∧ (∀ c < 2, 0 ≤ (cAC c).num) ∧ (∀ c < 3, ∀ ch, 0 ≤ (cPR c ch).num) ∧
    ∀ c < 2, 0 ≤ (cUI c).num := by decide

theorem kI_spec {mav mac mpr mui : Nat} (hmav : mav < 4) (hmac : mac < 2) (hmpr : mpr < 3) (hmui : mui < 2)
    (ms mc mi ma ci ii ai : Nat) :
    specInner true mav mac mpr mui ms mc mi ma (Nat.succ ci) (Nat.succ ii) (Nat.succ ai) =
      Int.ofNat (kI true mav mac mpr mui ms mc mi ma ci ii ai) :=
  have hex : 0 ≤ (specExpl mav mac mpr mui ms).num :=
    Int.mul_nonneg (Int.mul_nonneg (Int.mul_nonneg (Int.mul_nonneg (by decide) (weights_nonneg.1 _ hmav))
      (weights_nonneg.2.1 _ hmac)) (weights_nonneg.2.2.1 _ hmpr _)) (weights_nonneg.2.2.2 _ hmui)
  (Int.toNat_of_nonneg (BaseScore_nonneg _ _ hex)).symm

theorem gEnv_ix {sAV sAC sPR sUI sS sC sI sA sCR sIR sAR sE sRL sRC : Bytes} (hAV : sAV ∈ vAV) (hAC : sAC ∈ vAC)
    (hPR : sPR ∈ vPR) (hUI : sUI ∈ vUI) (hS : sS ∈ vS) (hC : sC ∈ vCIA) (hI : sI ∈ vCIA) (hA : sA ∈ vCIA)
    (hCR : sCR ∈ vReq) (hIR : sIR ∈ vReq) (hAR : sAR ∈ vReq) :
    gEnv true sAV sAC sPR sUI sS sC sI sA sCR sIR sAR sE sRL sRC =
      gTemp (kI true (iAV sAV) (iAC sAC) (iPR sPR) (iUI sUI) (iS sS) (iCIA sC) (iCIA sI) (iCIA sA) (iReq sCR) (iReq sIR)
        (iReq sAR)) sE sRL sRC := by
  have h := kI_spec (fAV _ hAV).2 (fAC _ hAC).2 (fPR _ hPR).2 (fUI _ hUI).2 (iS sS) (iCIA sC) (iCIA sI) (iCIA sA) (iReq sCR)
    (iReq sIR) (iReq sAR)
  simp only [specInner, specMImpact, specExpl] at h
  simp only [gEnv, gTemp, EnvironmentalScore_eq, (fAV _ hAV).1, (fAC _ hAC).1, (fPR _ hPR).1, (fUI _ hUI).1,
    (fS _ hS).1, (fCIA _ hC).1, (fCIA _ hI).1, (fCIA _ hA).1, (fReq _ hCR).1, (fReq _ hIR).1, (fReq _ hAR).1, h]

section
variable {f : Bytes → Bytes} (hf : LegalVec f) {a v₁ v₂ : Bytes} (l1 : legal ms a v₁ = true) (l2 : legal ms a v₂ = true)
  (sev : atLeastAsSevere ms rank f a v₁ v₂ = true)
include hf l1 l2 sev

/-- a metric `x` that is not a Modified metric: both new values are legal, and `o` (an `o…` fact above) turns the
    severity step into the order `P` of their indices -/
theorem slot_mono {x : Bytes} {vals : List Bytes} (hx : IsSlot x vals) (hbx : baseOf ms x = none)
    {P : Bytes → Bytes → Prop} (o : ∀ s ∈ vals, ∀ t ∈ vals, R x s t → P s t) :
    upd f a v₁ x ∈ vals ∧ upd f a v₂ x ∈ vals ∧ P (upd f a v₁ x) (upd f a v₂ x) :=
  have m1 := upd_mem hx hf l1
  have m2 := upd_mem hx hf l2
  ⟨m1, m2, o _ m1 _ m2 (single_step f hbx sev)⟩

/-- the same for the effective value of a base/Modified pair `(x, mx)` -/
theorem pair_mono {x mx : Bytes} {vals : List Bytes} (hp : IsPair x mx vals) (hr : ∀ v, rank mx v = rank x v)
    {P : Bytes → Bytes → Prop} (o : ∀ s ∈ vals, ∀ t ∈ vals, R x s t → P s t) :
    Spec.eff (upd f a v₁) x mx ∈ vals ∧ Spec.eff (upd f a v₂) x mx ∈ vals ∧
      P (Spec.eff (upd f a v₁) x mx) (Spec.eff (upd f a v₂) x mx) :=
  have ⟨hx, hmx, hne, hbx, hbm⟩ := hp
  have m1 := eff_mem (upd_mem hx hf l1) (upd_mem hmx hf l1)
  have m2 := eff_mem (upd_mem hx hf l2) (upd_mem hmx hf l2)
  ⟨m1, m2, o _ m1 _ m2 (eff_step f hne hbx hbm hr sev)⟩

theorem base_spec_mono (v : Bool) : baseK v (upd f a v₁) ≤ baseK v (upd f a v₂) ∧ baseK v (upd f a v₂) ≤ 100 := by
  obtain ⟨m1AV, m2AV, rAV⟩ := slot_mono hf l1 l2 sev (x := b "AV") (by decide) rfl oAV
  obtain ⟨m1AC, m2AC, rAC⟩ := slot_mono hf l1 l2 sev (x := b "AC") (by decide) rfl oAC
  obtain ⟨m1PR, m2PR, rPR⟩ := slot_mono hf l1 l2 sev (x := b "PR") (by decide) rfl oPR
  obtain ⟨m1UI, m2UI, rUI⟩ := slot_mono hf l1 l2 sev (x := b "UI") (by decide) rfl oUI
  obtain ⟨m1S, m2S, rS⟩ := slot_mono hf l1 l2 sev (x := b "S") (by decide) rfl oS
  obtain ⟨m1C, m2C, rC⟩ := slot_mono hf l1 l2 sev (x := b "C") (by decide) rfl (oCIA _ (by decide))
  obtain ⟨m1I, m2I, rI⟩ := slot_mono hf l1 l2 sev (x := b "I") (by decide) rfl (oCIA _ (by decide))
  obtain ⟨m1A, m2A, rA⟩ := slot_mono hf l1 l2 sev (x := b "A") (by decide) rfl (oCIA _ (by decide))
  refine ⟨?_, Int.toNat_le.mpr (BaseScore_le _ _ _)⟩
  rw [baseK_g, baseK_g, gBase_ix m1AV m1AC m1PR m1UI m1S m1C m1I m1A, gBase_ix m2AV m2AC m2PR m2UI m2S m2C m2I m2A]
  exact kB_mono (fAV _ m1AV).2 (fAC _ m1AC).2 (fPR _ m1PR).2 (fUI _ m1UI).2 (fS _ m2S).2 (fCIA _ m1C).2 (fCIA _ m1I).2 (fCIA _ m1A).2
    rAV rAC rPR rUI rS rC rI rA

/-- the temporal step, on a tenth that does not decrease -/
theorem temporal_step {k k' : Nat} (hk' : k' ≤ 100) (lk : k ≤ k') :
    gTemp k (upd f a v₁ (b "E")) (upd f a v₁ (b "RL")) (upd f a v₁ (b "RC")) ≤
      gTemp k' (upd f a v₂ (b "E")) (upd f a v₂ (b "RL")) (upd f a v₂ (b "RC")) := by
  obtain ⟨m1E, m2E, rE⟩ := slot_mono hf l1 l2 sev (x := b "E") (by decide) rfl oE
  obtain ⟨m1RL, m2RL, rRL⟩ := slot_mono hf l1 l2 sev (x := b "RL") (by decide) rfl oRL
  obtain ⟨m1RC, m2RC, rRC⟩ := slot_mono hf l1 l2 sev (x := b "RC") (by decide) rfl oRC
  rw [gTemp_ix m1E m1RL m1RC, gTemp_ix m2E m2RL m2RC]
  exact kT_mono (fE _ m1E).2 (fRL _ m1RL).2 (fRC _ m1RC).2 hk' lk rE rRL rRC

theorem temporal_spec_mono (v : Bool) : temporalK v (upd f a v₁) ≤ temporalK v (upd f a v₂) := by
  obtain ⟨hb, hb100⟩ := base_spec_mono hf l1 l2 sev v
  rw [temporalK_g, temporalK_g]
  exact temporal_step hf l1 l2 sev hb100 hb

/-- v3.1 -/
theorem env_spec_mono : environmentalK true (upd f a v₁) ≤ environmentalK true (upd f a v₂) := by
  obtain ⟨m1AV, m2AV, rAV⟩ := pair_mono hf l1 l2 sev (x := b "AV") (mx := b "MAV") (by decide) (fun _ => rfl) oAV
  obtain ⟨m1AC, m2AC, rAC⟩ := pair_mono hf l1 l2 sev (x := b "AC") (mx := b "MAC") (by decide) (fun _ => rfl) oAC
  obtain ⟨m1PR, m2PR, rPR⟩ := pair_mono hf l1 l2 sev (x := b "PR") (mx := b "MPR") (by decide) (fun _ => rfl) oPR
  obtain ⟨m1UI, m2UI, rUI⟩ := pair_mono hf l1 l2 sev (x := b "UI") (mx := b "MUI") (by decide) (fun _ => rfl) oUI
  obtain ⟨m1S, m2S, rS⟩ := pair_mono hf l1 l2 sev (x := b "S") (mx := b "MS") (by decide) (fun _ => rfl) oS
  obtain ⟨m1C, m2C, rC⟩ := pair_mono hf l1 l2 sev (x := b "C") (mx := b "MC") (by decide) (fun _ => rfl) (oCIA _ (by decide))
  obtain ⟨m1I, m2I, rI⟩ := pair_mono hf l1 l2 sev (x := b "I") (mx := b "MI") (by decide) (fun _ => rfl) (oCIA _ (by decide))
  obtain ⟨m1A, m2A, rA⟩ := pair_mono hf l1 l2 sev (x := b "A") (mx := b "MA") (by decide) (fun _ => rfl) (oCIA _ (by decide))
  obtain ⟨m1CR, m2CR, rCR⟩ := slot_mono hf l1 l2 sev (x := b "CR") (by decide) rfl (oReq _ (by decide))
  obtain ⟨m1IR, m2IR, rIR⟩ := slot_mono hf l1 l2 sev (x := b "IR") (by decide) rfl (oReq _ (by decide))
  obtain ⟨m1AR, m2AR, rAR⟩ := slot_mono hf l1 l2 sev (x := b "AR") (by decide) rfl (oReq _ (by decide))
  rw [environmentalK_g, environmentalK_g, gEnv_ix m1AV m1AC m1PR m1UI m1S m1C m1I m1A m1CR m1IR m1AR,
    gEnv_ix m2AV m2AC m2PR m2UI m2S m2C m2I m2A m2CR m2IR m2AR]
  have hi := kI_mono (fAV _ m1AV).2 (fAC _ m1AC).2 (fPR _ m1PR).2 (fUI _ m1UI).2 (fS _ m2S).2 (fCIA _ m1C).2 (fCIA _ m1I).2
    (fCIA _ m1A).2 (fReq _ m1CR).2 (fReq _ m1IR).2 (fReq _ m1AR).2 rAV rAC rPR rUI rS rC rI rA rCR rIR rAR
  exact temporal_step hf l1 l2 sev (Int.toNat_le.mpr (BaseScore_le _ _ _)) hi
end

end Proofs.Score3.Mono
