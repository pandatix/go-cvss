import Cvss.Proofs.Parse2Table
/-!
# v2.0 parser proofs: soundness and completeness of the parser for an arbitrary contract

`parseK K s = .ok c` iff `s` has a witness `w`, and then `c` is the fold of `K.set` over `w` from `K.zero`.
-/
namespace Proofs.Parse2
open Model (Bytes Res cutColon splitN idx2 eValue eOrder eTooShort)
open Spec (joinSlash render Pair abvs legal isMetric findMetric Metric valueOf allLegal)
open Spec.V2 (metrics base temporal environmental shapes Witness G)

structure CleanPair (p : Pair) : Prop where
  colon : 58 ∉ p.1
  slash1 : 47 ∉ p.1
  slash2 : 47 ∉ p.2

theorem CleanPair.render_noslash {p : Pair} (h : CleanPair p) : 47 ∉ render p :=
  Lex.render_noslash h.slash1 h.slash2

theorem legal_clean {p : Pair} (h : legal metrics p.1 p.2 = true) : CleanPair p :=
  ⟨(good.legal_clean h).1, (good.legal_clean h).2.1, (good.legal_clean h).2.2.1⟩

theorem legal_value_ne_nil {a v : Bytes} (h : legal metrics a v = true) : v ≠ [] :=
  (good.legal_clean (p := (a, v)) h).2.2.2

theorem illegal_of_slash (a v more : Bytes) : legal metrics a (v ++ 47 :: more) = false := by
  cases h : legal metrics a (v ++ 47 :: more) with
  | false => rfl
  | true => exact absurd (List.mem_append_right _ List.mem_cons_self) (good.legal_clean (p := (a, _)) h).2.2.1

theorem complete_of_shape {w : List Pair} (hsh : w.map (·.1) ∈ shapes) (hl : allLegal metrics w) :
    Table.Complete metrics w :=
  ⟨hl, shapes_nodup _ hsh, shapes_mandatory _ hsh⟩

section contract
variable (K : Contract Model.O20 metrics)

theorem loop_sound (order : List (List Bytes)) (pts : List Bytes) (g i : Nat) (c c' : Model.O20)
    (h : loop2With order K.set pts g i c = .ok c') :
    ∃ ps : List Pair, pts = ps.map render ∧ (∀ p ∈ ps, legal metrics p.1 p.2 = true) ∧
      (∃ g', nrun order (ps.map (·.1)) g i = .ok (g', 0)) ∧ c' = setAll K.set c ps := by
  induction pts generalizing g i c with
  | nil =>
    simp only [loop2With] at h
    split at h
    · cases h
    · rename_i hi
      have hi0 : i = 0 := Classical.not_not.mp hi
      cases h
      exact ⟨[], rfl, by simp, ⟨g, by rw [hi0]; rfl⟩, rfl⟩
  | cons pt rest ih =>
    simp only [loop2With, step2With_eq] at h
    cases hn : nstep order g i (cutColon pt).1 with
    | err e => rw [hn] at h; cases h
    | panic => rw [hn] at h; cases h
    | ok st =>
      rw [hn] at h
      by_cases he : (K.set c (cutColon pt).1 (cutColon pt).2).2 = Go.errNil
      · simp only [he, ne_eq, not_true_eq_false, if_false] at h
        obtain ⟨ps, h1, h2, ⟨g', h3⟩, h4⟩ := ih st.1 st.2 _ h
        have hleg := (K.set_ok_iff c _ _).mp he
        have hcolon : 58 ∈ pt := Lex.colon_mem_of_snd_ne_nil (legal_value_ne_nil hleg)
        refine ⟨cutColon pt :: ps, ?_, ?_, ⟨g', ?_⟩, ?_⟩
        · simp only [List.map_cons, Lex.render_cutColon hcolon, h1]
        · intro p hp
          rcases List.mem_cons.mp hp with rfl | hp
          · exact hleg
          · exact h2 p hp
        · simp only [List.map_cons, nrun, hn]; exact h3
        · exact h4
      · simp only [he, ne_eq, not_false_eq_true, if_true] at h
        cases h

theorem witness_names {s : Bytes} {w : List Pair} (h : Witness s w) : w.map (·.1) ∈ shapes := h.2.1

theorem witness_len {w : List Pair} (h : w.map (·.1) ∈ shapes) : w ≠ [] ∧ w.length ≤ 14 := by
  have := shapes_len _ h
  refine ⟨?_, by simpa using this.2⟩
  intro hw; subst hw; exact this.1 rfl

theorem witness_clean {w : List Pair} (h : allLegal metrics w) : ∀ p ∈ w, CleanPair p :=
  fun p hp => legal_clean (h p hp)

theorem render_noslash_of_legal {w : List Pair} (h : allLegal metrics w) : ∀ x ∈ w.map render, 47 ∉ x := by
  intro x hx
  obtain ⟨p, hp, rfl⟩ := List.mem_map.mp hx
  exact (legal_clean (h p hp)).render_noslash

theorem parse_complete {s : Bytes} {w : List Pair} (h : Witness s w) :
    parseK K s = .ok (setAll K.set K.zero w) := by
  obtain ⟨hs, hsh, hl⟩ := h
  obtain ⟨hne, hlen⟩ := witness_len hsh
  subst hs
  unfold parseK parse20With
  rw [splitN_join_le 13 _ (render_noslash_of_legal hl) (by simpa using hne) (by simpa using hlen)]
  have := loop_prefix tbl K.set w [] 0 0 K.zero (fun p hp => (legal_clean (hl p hp)).colon)
    (fun p hp c => K.set_ok c p.1 p.2 (hl p hp))
  rw [List.append_nil] at this
  rw [this]
  have hrun := F_run _ hsh (w.map (·.1)).length (Nat.lt_succ_self _)
  rw [List.take_length] at hrun
  rw [hrun]
  have hc := F_complete _ hsh
  show loop2With tbl K.set [] (after (w.map (·.1))).1 (after (w.map (·.1))).2 _ = _
  rw [hc]
  rfl

theorem parse_sound {s : Bytes} {c : Model.O20} (h : parseK K s = .ok c) :
    ∃ w, Witness s w ∧ c = setAll K.set K.zero w := by
  unfold parseK parse20With at h
  obtain ⟨ps, h1, h2, ⟨g', h3⟩, h4⟩ := loop_sound K _ _ _ _ _ _ h
  have hlen : ps.length ≤ 14 := by
    have := splitN_length_le 13 s
    rw [h1] at this
    simpa using this
  have hne : ps ≠ [] := by
    intro hp; subst hp
    exact splitN_ne_nil 13 s h1
  refine ⟨ps, ⟨?_, ?_, h2⟩, h4⟩
  · rw [← h1, joinSlash_splitN]
  · exact nrun_ok_shapes _ g' h3 (by simpa using hlen) (by simpa using hne)

theorem witness_eq {s : Bytes} {w : List Pair} (h : Witness s w) : w = (Spec.splitSlash s).map cutColon := by
  obtain ⟨hs, hsh, hl⟩ := h
  subst hs
  rw [Lex.splitSlash_join_render (witness_len hsh).1 (fun p hp => (legal_clean (hl p hp)).render_noslash),
    Lex.map_cutColon_render (fun p hp => (legal_clean (hl p hp)).colon)]

theorem witness_unique {s : Bytes} {w w' : List Pair} (h : Witness s w) (h' : Witness s w') : w = w' := by
  rw [witness_eq h, witness_eq h']

end contract

/-! ## no panic: the index into `order` is always in range -/

/-- the loop invariant: past the last group, or the index is in range -/
def inv (g i : Nat) : Bool := decide (3 ≤ g) || (idx2 tbl g i).isSome

def okStep (r : Res (Nat × Nat)) : Bool :=
  match r with
  | .panic => false
  | .ok st => inv st.1 st.2
  | .err _ => true

theorem N_len : ∀ g < 3, (tbl.getD g []).length ≤ 6 := by decide

theorem N_step : ∀ g < 3, ∀ i < 6, inv g i = true → ∀ a ∈ [] :: tbl.flatten, okStep (nstep tbl g i a) = true := by
  decide +kernel

theorem inv_step (g i : Nat) (a : Bytes) (h : inv g i = true) : okStep (nstep tbl g i a) = true := by
  by_cases hg : 3 ≤ g
  · rw [nstep_ge3 tbl g i a hg]; rfl
  · have hg' : g < 3 := by omega
    have hi : i < 6 := by
      unfold inv at h
      simp only [hg, decide_false, Bool.false_or] at h
      unfold idx2 at h
      have h2 : ((tbl.getD g [])[i]?).isSome = true := h
      have : i < (tbl.getD g []).length := by
        cases hl : (tbl.getD g [])[i]? with
        | none => rw [hl] at h2; cases h2
        | some x => exact (List.getElem?_eq_some_iff.mp hl).1
      exact Nat.lt_of_lt_of_le this (N_len g hg')
    by_cases ha : a ∈ tbl.flatten
    · exact N_step g hg' i hi h a (by simp [ha])
    · have hnil : ([] : Bytes) ∉ tbl.flatten := by
        show [] ∉ GenV20.tbl_order.flatten
        rw [tbl_flatten]; exact empty_not_metric
      rw [nstep_unknown g i ha hnil]
      exact N_step g hg' i hi h [] (by simp)

theorem loop_ne_panic {O : Type} (set : O → Bytes → Bytes → O × Go.Err) (pts : List Bytes) (g i : Nat) (c : O)
    (h : inv g i = true) : loop2With tbl set pts g i c ≠ .panic := by
  induction pts generalizing g i c with
  | nil =>
    simp only [loop2With]
    split <;> simp
  | cons pt rest ih =>
    simp only [loop2With, step2With_eq]
    have hs := inv_step g i (cutColon pt).1 h
    cases hn : nstep tbl g i (cutColon pt).1 with
    | err e => simp
    | panic => rw [hn] at hs; cases hs
    | ok st =>
      rw [hn] at hs
      by_cases he : (set c (cutColon pt).1 (cutColon pt).2).2 = Go.errNil
      · simp only [he, ne_eq, not_true_eq_false, if_false]
        exact ih st.1 st.2 _ hs
      · simp only [he, ne_eq, not_false_eq_true, if_true]
        simp

theorem parse_ne_panic {O : Type} (zero : O) (set : O → Bytes → Bytes → O × Go.Err) (s : Bytes) :
    parse20With tbl zero set s ≠ .panic :=
  loop_ne_panic set _ 0 0 zero (by decide)
end Proofs.Parse2
