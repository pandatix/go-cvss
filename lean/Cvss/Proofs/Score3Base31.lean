import Cvss.Proofs.Score3M31
/-! C03, v3.1, enumeration (a): the generated `BaseScore_core` on all 2,592 base code tuples.

    Every tuple divides a fresh value inside `roundup`, and the kernel's cost for `F64.div` grows with the number of
    different divisions in one theorem (`F64Eval`): the tables unfold down to the divisions, put them in the linear
    form `F64.divK`, then evaluate. -/
namespace Proofs.Score3.V31
theorem base_all : allBase = true := by
  simp only [allBase, allBaseOn, okBaseOn, GenV31.BaseScore_core, GenV31.roundup, ← F64.divK_eq]
  decide +kernel
end Proofs.Score3.V31
