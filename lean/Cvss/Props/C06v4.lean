import Cvss.Proofs.Parse4Main
/-!
# C06 (v4.0): a parsed vector means what it says

The right-hand side is read off the **Spec's** decomposition of the string (the witness list of the
grammar, `Spec.valueOf`), not off the parser. `Get`/`Set` only through the abstract contract `K`.
-/
namespace C06.V4
open Spec (Pair abvs b valueOf)
open Model (Bytes O40 Res)
open Proofs.P4

variable (K : Proofs.Contract O40 Spec.V4.metrics)

/-- **C06.** every metric of the parsed object reads as the value written in the string, or as the
    metric's not-defined value `X` when it is not written; never an error -/
theorem meaning {s : Bytes} {c : O40} (h : parseK K s = .ok c) :
    ∀ w, Spec.V4.Witness s w → ∀ m ∈ Spec.V4.metrics,
      K.get c m.abv = (valueOf Spec.V4.metrics w m.abv, Go.errNil) := by
  intro w hw m hm
  rw [parseK_witness K hw] at h
  simp only [Res.ok.injEq] at h
  subst h
  exact K.get_setAll_zero good (witness_iff.mp hw).2.complete hm

theorem wf {s : Bytes} {c : O40} (h : parseK K s = .ok c) : K.WF c := by
  obtain ⟨w, _, rfl⟩ := parseK_ok K h
  exact K.wf_setAll w K.zero K.wf_zero

/-- the witness quantified over in `meaning` exists (and is unique, `C01.V4.witness_unique`) -/
theorem witness_exists {s : Bytes} {c : O40} (h : parseK K s = .ok c) : ∃ w, Spec.V4.Witness s w := by
  obtain ⟨w, hw, _⟩ := parseK_ok K h
  exact ⟨w, hw⟩

/-- the object is the fold of `Set`s over the witness, starting from the zero object -/
theorem parsed_object {s : Bytes} {w : List Pair} (hw : Spec.V4.Witness s w) :
    parseK K s = .ok (w.foldl (fun c p => (K.set c p.1 p.2).1) K.zero) := parseK_witness K hw

/-- the hypotheses are satisfiable: a vector with optional metrics has a witness -/
example : ∃ w, Spec.V4.Witness (b "CVSS:4.0/AV:N/AC:L/AT:N/PR:N/UI:N/VC:H/VI:H/VA:H/SC:N/SI:N/SA:N/E:A/MSI:S/U:Red") w :=
  Option.isSome_iff_exists.mp (by decide +kernel) |>.imp fun w hw => (read_iff _ w).mp hw

/-! ## for `Model.parse40` itself, given the contract instance of the generated code -/

theorem meaning_model (hz : K.zero = O40.zero) (hs : K.set = O40.set) {s : Bytes} {c : O40}
    (h : Model.parse40 s = .ok c) : (∀ w, Spec.V4.Witness s w → ∀ m ∈ Spec.V4.metrics,
      K.get c m.abv = (valueOf Spec.V4.metrics w m.abv, Go.errNil)) ∧ K.WF c := by
  rw [parse40_eq_parseK K hz hs] at h
  exact ⟨meaning K h, wf K h⟩

end C06.V4
