import Cvss.Proofs.Score4TailDef
/-! The v4.0 float tail and the primitive form of the Spec's score, checked by the kernel on the six chunks with
EQ5 = 0: 90 MacroVectors, 17,550 (MacroVector, distances) points. `tail_abc` is EQ1 = a, EQ2 = b, EQ5 = c. -/
namespace Proofs.Score4
theorem tail_000 : tailChunk 0 0 0 = true := by decide +kernel
theorem tail_010 : tailChunk 0 1 0 = true := by decide +kernel
theorem tail_100 : tailChunk 1 0 0 = true := by decide +kernel
theorem tail_110 : tailChunk 1 1 0 = true := by decide +kernel
theorem tail_200 : tailChunk 2 0 0 = true := by decide +kernel
theorem tail_210 : tailChunk 2 1 0 = true := by decide +kernel
end Proofs.Score4
