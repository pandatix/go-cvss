import Cvss.Proofs.F64Order
import Cvss.Proofs.F64Lg
/-!
# Round-to-nearest-even on magnitudes (sign-less patterns), in integer arithmetic

`F64Order.wp p` is the exact magnitude (scaled by `2^1075`) denoted by the sign-less pattern `p`; it is
strictly monotone in `p`, and it is also defined beyond `PINF = 0x7FF0…0` where it continues the binary64
format with an unbounded exponent (`wp PINF = 2^1024 · 2^1075`).  IEEE-754 rounds "as if the exponent range
were unbounded" and then replaces results of magnitude `≥ 2^1024` by ∞; equivalently: round to the nearest
among the patterns `0 … PINF`, where `PINF` stands for `2^1024` (even significand).
-/
namespace IEEE
open F64Order

@[irreducible] def den : Nat := Spec.F64Val.den

theorem den_eq : den = Spec.F64Val.den := by unfold den; rfl
theorem den_pow : den = 2^1075 := by rw [den_eq]; unfold Spec.F64Val.den; rfl
theorem den_pos : 0 < den := by rw [den_pow]; exact Nat.two_pow_pos 1075

/-- `|x − y|` on naturals -/
def adist (x y : Nat) : Nat := (x - y) + (y - x)

theorem adist_mul (x y k : Nat) : adist (x * k) (y * k) = adist x y * k := by
  unfold adist; rw [Nat.add_mul, Nat.sub_mul, Nat.sub_mul]

/-- `p` (sign-less pattern, `≤ PINF`) is the round-to-nearest-even image of the non-negative rational `a/d`:
    no pattern in `0 … PINF` denotes a value closer to `a/d`, and if another one is equally close then `p` is
    even (its significand is even: the lowest fraction bit is the lowest pattern bit).
    Values are compared after scaling by `den · d`: `wp q / den` versus `a / d`. -/
def IsRNEMag (a d p : Nat) : Prop :=
  p ≤ PINF ∧
  (∀ q, q ≤ PINF → adist (wp p * d) (a * den) ≤ adist (wp q * d) (a * den)) ∧
  (∀ q, q ≤ PINF → q ≠ p → adist (wp p * d) (a * den) = adist (wp q * d) (a * den) → p % 2 = 0)

theorem wpd_mono (d : Nat) {q q' : Nat} (h : q ≤ q') : wp q * d ≤ wp q' * d :=
  Nat.mul_le_mul_right _ ((wp_le_iff _ _).mp h)
theorem wpd_strict (d : Nat) (hd : 0 < d) {q q' : Nat} (h : q < q') : wp q * d < wp q' * d :=
  Nat.mul_lt_mul_of_pos_right ((wp_lt_iff _ _).mp h) hd

/-- the rounding decision between the two neighbours `p0`, `p0+1` that bracket `a/d`: above the midpoint, or
    on the midpoint with `p0` odd -/
def roundUp (a d p0 : Nat) : Prop :=
  (wp p0 + wp (p0+1)) * d < 2 * (a * den) ∨ ((wp p0 + wp (p0+1)) * d = 2 * (a * den) ∧ p0 % 2 = 1)

/-- **bracket lemma**: if `p0` is the largest pattern (unbounded exponent) whose value is `≤ a/d`, the
    RNE result is `p0` or `p0+1` by the midpoint rule, saturated at `PINF`. -/
theorem bracket (a d p0 p : Nat) (hd : 0 < d) (hlo : wp p0 * d ≤ a * den) (hhi : a * den < wp (p0+1) * d)
    (hp : (roundUp a d p0 ∧ p = min PINF (p0+1)) ∨ (¬ roundUp a d p0 ∧ p = min PINF p0)) :
    IsRNEMag a d p := by
  have hmid : (wp p0 + wp (p0+1)) * d = wp p0 * d + wp (p0+1) * d := Nat.add_mul _ _ _
  have hmono : ∀ q q', q ≤ q' → wp q * d ≤ wp q' * d := fun q q' h => wpd_mono d h
  have hstr : ∀ q q', q < q' → wp q * d < wp q' * d := fun q q' h => wpd_strict d hd h
  unfold roundUp at hp
  rw [hmid] at hp
  unfold IsRNEMag
  generalize a * den = A at *
  by_cases hpi : PINF ≤ p0
  · -- overflow: everything in range is below the value
    have hmin : p = PINF := by omega
    rw [hmin]
    refine ⟨Nat.le_refl _, ?_, ?_⟩
    · intro q hq
      have h1 := hmono q PINF hq
      have h2 := hmono PINF p0 hpi
      unfold adist; omega
    · intro q hq hne
      have h1 := hstr q PINF (by omega)
      have h2 := hmono PINF p0 hpi
      unfold adist; omega
  · have hp' : p0 + 1 ≤ PINF := by omega
    rcases hp with ⟨hup, rfl⟩ | ⟨hup, rfl⟩
    · rw [Nat.min_eq_right hp']
      refine ⟨hp', ?_, ?_⟩
      · intro q hq
        by_cases hq' : q ≤ p0
        · have := hmono q p0 hq'; unfold adist; omega
        · have := hmono (p0+1) q (by omega); unfold adist; omega
      · intro q hq hne
        by_cases hq' : q ≤ p0
        · have := hmono q p0 hq'; unfold adist; omega
        · have := hstr (p0+1) q (by omega); unfold adist; omega
    · rw [Nat.min_eq_right (by omega)]
      refine ⟨by omega, ?_, ?_⟩
      · intro q hq
        by_cases hq' : q ≤ p0
        · have := hmono q p0 hq'; unfold adist; omega
        · have := hmono (p0+1) q (by omega); unfold adist; omega
      · intro q hq hne
        by_cases hq' : q < p0
        · have := hstr q p0 hq'; unfold adist; omega
        · have := hmono (p0+1) q (by omega); unfold adist; omega

theorem IsRNEMag.unique {a d p p' : Nat} (hd : 0 < d) (h : IsRNEMag a d p) (h' : IsRNEMag a d p') : p = p' := by
  obtain ⟨hp, hn, ht⟩ := h
  obtain ⟨hp', hn', ht'⟩ := h'
  have hstr : ∀ q q', q < q' → wp q * d < wp q' * d := fun q q' h => wpd_strict d hd h
  apply Classical.byContradiction
  intro hne
  have e1 := hn p' hp'
  have e2 := hn' p hp
  have t1 := ht p' hp' (fun h => hne h.symm) (by omega)
  have t2 := ht' p hp hne (by omega)
  generalize a * den = A at *
  rcases Nat.lt_or_ge p p' with hlt | hge
  · have s := hstr p p' hlt
    by_cases hadj : p + 1 < p'
    · have s1 := hstr p (p+1) (by omega)
      have s2 := hstr (p+1) p' hadj
      have n1 := hn (p+1) (by omega)
      unfold adist at *; omega
    · omega
  · have hlt : p' < p := by omega
    have s := hstr p' p hlt
    by_cases hadj : p' + 1 < p
    · have s1 := hstr p' (p'+1) (by omega)
      have s2 := hstr (p'+1) p hadj
      have n1 := hn (p'+1) (by omega)
      unfold adist at *; omega
    · omega

theorem IsRNEMag.congr {a d a' d' p : Nat} (hd : 0 < d) (hd' : 0 < d') (he : a * d' = a' * d)
    (h : IsRNEMag a d p) : IsRNEMag a' d' p := by
  obtain ⟨hp, hn, ht⟩ := h
  have key : ∀ q, adist (wp q * d') (a' * den) * d = adist (wp q * d) (a * den) * d' := by
    intro q
    rw [← adist_mul, ← adist_mul]
    generalize den = D
    have e1 : wp q * d' * d = wp q * d * d' := by ac_rfl
    have e2 : a' * D * d = a * D * d' := by
      calc a' * D * d = (a' * d) * D := by ac_rfl
        _ = (a * d') * D := by rw [he]
        _ = a * D * d' := by ac_rfl
    rw [e1, e2]
  refine ⟨hp, ?_, ?_⟩
  · intro q hq
    have h1 := hn q hq
    have h2 : adist (wp p * d) (a * den) * d' ≤ adist (wp q * d) (a * den) * d' := Nat.mul_le_mul_right _ h1
    rw [← key, ← key] at h2
    exact Nat.le_of_mul_le_mul_right h2 hd
  · intro q hq hne heq
    apply ht q hq hne
    have h2 : adist (wp p * d') (a' * den) * d = adist (wp q * d') (a' * den) * d := by rw [heq]
    rw [key, key] at h2
    exact Nat.eq_of_mul_eq_mul_right hd' h2

theorem IsRNEMag.exact (p : Nat) (hp : p ≤ PINF) : IsRNEMag (wp p) den p := by
  have hd := den_pos
  have hstr : ∀ q q', q < q' → wp q * den < wp q' * den := fun q q' h => wpd_strict den hd h
  unfold IsRNEMag
  generalize den = D at *
  refine ⟨hp, ?_, ?_⟩
  · intro q _; unfold adist; omega
  · intro q _ hne
    rcases Nat.lt_or_ge q p with h | h
    · have := hstr q p h; unfold adist; omega
    · have := hstr p q (by omega); unfold adist; omega

theorem IsRNEMag.zero (d : Nat) (hd : 0 < d) : IsRNEMag 0 d 0 := by
  have h := IsRNEMag.exact 0 (by decide)
  rw [wp_zero] at h
  exact h.congr den_pos hd (by omega)

end IEEE
