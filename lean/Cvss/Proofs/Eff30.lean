import Cvss.Proofs.Bits30
import Cvss.Proofs.Eff31
/-!
# CVSS v3.0: the scores depend on the metrics only through their effective values (C10)

The v3.0 package for the argument of `Eff31.lean`.
-/
open Bits Model
open Spec (b)

namespace Eff30
open Bits30

theorem baseKey_idx (v : Bytes → Bytes) : Spec.V3.baseKey v =
    [v (mAt ms 0).abv, v (mAt ms 1).abv, v (mAt ms 2).abv, v (mAt ms 3).abv, v (mAt ms 4).abv, v (mAt ms 5).abv,
     v (mAt ms 6).abv, v (mAt ms 7).abv] := rfl

theorem temporalKey_idx (v : Bytes → Bytes) : Spec.V3.temporalKey v =
    [v (mAt ms 0).abv, v (mAt ms 1).abv, v (mAt ms 2).abv, v (mAt ms 3).abv, v (mAt ms 4).abv, v (mAt ms 5).abv,
     v (mAt ms 6).abv, v (mAt ms 7).abv, Spec.dflt v (mAt ms 8).abv (b "H"), Spec.dflt v (mAt ms 9).abv (b "U"),
     Spec.dflt v (mAt ms 10).abv (b "C")] := rfl

theorem envKey_idx (v : Bytes → Bytes) : Spec.V3.envKey v =
    [Spec.eff v (mAt ms 0).abv (mAt ms 14).abv, Spec.eff v (mAt ms 1).abv (mAt ms 15).abv,
     Spec.eff v (mAt ms 2).abv (mAt ms 16).abv, Spec.eff v (mAt ms 3).abv (mAt ms 17).abv,
     Spec.eff v (mAt ms 4).abv (mAt ms 18).abv, Spec.eff v (mAt ms 5).abv (mAt ms 19).abv,
     Spec.eff v (mAt ms 6).abv (mAt ms 20).abv, Spec.eff v (mAt ms 7).abv (mAt ms 21).abv,
     Spec.dflt v (mAt ms 11).abv (b "M"), Spec.dflt v (mAt ms 12).abv (b "M"), Spec.dflt v (mAt ms 13).abv (b "M"),
     Spec.dflt v (mAt ms 8).abv (b "H"), Spec.dflt v (mAt ms 9).abv (b "U"), Spec.dflt v (mAt ms 10).abv (b "C")] := rfl

def pkg : Eff3.Package layout where
  baseScore := O30.baseScore
  temporalScore := O30.temporalScore
  environmentalScore := O30.environmentalScore
  baseCore := GenV30.BaseScore_core
  temporalCore := GenV30.TemporalScore_core
  envCore := GenV30.EnvironmentalScore_core
  mod := GenV30.mod_
  ciar := GenV30.ciar
  wE := GenV30.exploitCodeMaturity
  wRL := GenV30.remediationLevel
  wRC := GenV30.reportConfidence
  isMod := fun _ _ => rfl
  base_codes := fun ⟨u0, u1, u2, u3, u4, u5⟩ => by
    show _ = GenV30.BaseScore_core _ _ _ (Nat.shiftLeft (Nat.shiftRight (Nat.land u0 2) 1) 1) _ _ _ _ _
    rw [← Eff3.scope_raw u0]; rfl
  temporal_codes := fun ⟨u0, u1, u2, u3, u4, u5⟩ => by
    show _ = GenV30.TemporalScore_core _ _ _ _ _ _ (Nat.shiftLeft (Nat.shiftRight (Nat.land u0 2) 1) 1) _ _ _ _ _
    rw [← Eff3.scope_raw u0]; rfl
  env_codes := fun ⟨u0, u1, u2, u3, u4, u5⟩ => rfl
  temporal_congr := fun _ _ _ _ _ _ _ _ _ he hrl hrc => by
    simp only [GenV30.TemporalScore_core, flet_eq, he, hrl, hrc]
  env_congr := fun hav hac hpr hui hs hc hi ha hcr hir har he hrl hrc => by
    simp only [GenV30.EnvironmentalScore_core, flet_eq, hav, hac, hpr, hui, hs, hc, hi, ha, hcr, hir, har, he, hrl, hrc]
  vals_mod := by decide +kernel
  dE := ⟨_, 0, rfl, by decide, rfl, rfl⟩
  dRL := ⟨_, 0, rfl, by decide, rfl, rfl⟩
  dRC := ⟨_, 0, rfl, by decide, rfl, rfl⟩
  dCR := ⟨_, 1, rfl, by decide, rfl, rfl⟩
  dIR := ⟨_, 1, rfl, by decide, rfl, rfl⟩
  dAR := ⟨_, 1, rfl, by decide, rfl, rfl⟩

theorem base_eq {c c' : O30} (h : c.wf = true) (h' : c'.wf = true)
    (hk : Spec.V3.baseKey (layout.val c) = Spec.V3.baseKey (layout.val c')) : c.baseScore = c'.baseScore :=
  pkg.base_eq tableOK h h' hk

theorem temporal_eq {c c' : O30} (h : c.wf = true) (h' : c'.wf = true)
    (hk : Spec.V3.temporalKey (layout.val c) = Spec.V3.temporalKey (layout.val c')) : c.temporalScore = c'.temporalScore :=
  pkg.temporal_eq tableOK h h' hk

theorem env_eq {c c' : O30} (h : c.wf = true) (h' : c'.wf = true)
    (hk : Spec.V3.envKey (layout.val c) = Spec.V3.envKey (layout.val c')) : c.environmentalScore = c'.environmentalScore :=
  pkg.env_eq tableOK h h' hk

end Eff30
