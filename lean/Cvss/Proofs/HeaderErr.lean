import Cvss.Proofs.Parse3Loop
import Cvss.Proofs.Parse4Run
/-!
# ErrInvalidCVSSHeader is returned for a wrong header only (converse of the header clause of C18)

Once the header test has passed (v4.0: the prefix `CVSS:4.0` *and* the separator test behind it), no later step of the
v3 / v4.0 parser models returns code 1: the element loops return ErrInvalidMetricOrder / ErrTooShortVector /
`*ErrDefinedN` / `*ErrMissing` / `*ErrInvalidMetric` themselves, and whatever `Set` returns — for any `Set`
satisfying the contract that is `nil`, ErrInvalidMetricValue or `*ErrInvalidMetric`.
-/
namespace Proofs.HeaderErr
open Model (Bytes Res)
open Spec (Pair legal isMetric)

theorem set_code_ne_one {O : Type} {ms : List Spec.Metric} (K : Contract O ms) (c : O) (a v : Bytes) :
    (K.set c a v).2.code ≠ 1 := by
  cases hm : isMetric ms a with
  | false => rw [K.set_unknown c a v hm]; simp [Model.eInvalidMetric]
  | true =>
    cases hl : legal ms a v with
    | false => rw [K.set_illegal c a v hm hl]; simp [Model.eValue]
    | true => rw [K.set_ok c a v hl]; simp [Go.errNil]

theorem loop3_code_ne_one {O : Type} (K : Contract O Spec.V3.metrics) {els : List Bytes} {c : O} {seen : List Bytes}
    {e : Go.Err} (h : Model.loop3 K.set els c seen = .err e) : e.code ≠ 1 := by
  rcases Parse3.loop3_err K.set els c seen e h with ⟨a, rfl | rfl | rfl⟩ | ⟨c, a, v, rfl, _⟩
  · exact fun h => by cases h
  · exact fun h => by cases h
  · exact fun h => by cases h
  · exact set_code_ne_one K c a v

/-- v3: ErrInvalidCVSSHeader ⇔ the string does not begin with the prefix literal (`CVSS:3.x/`) -/
theorem parse3_header_iff {O : Type} (K : Contract O Spec.V3.metrics) (header s : Bytes) :
    Model.parse3 header K.zero K.set s = .err Model.eHeader ↔ ¬ header <+: s := by
  by_cases hp : header <+: s
  · rw [Parse3.parse3_of_prefix hp]
    exact ⟨fun h => absurd rfl (loop3_code_ne_one K h), fun h => absurd hp h⟩
  · exact ⟨fun _ => hp, fun _ => Parse3.parse3_of_not_prefix hp⟩

/-- the same in the Spec's terms: the part before the first `/` is not the header, or the string is the bare header -/
theorem parse3_header_iff_spec {O : Type} (K : Contract O Spec.V3.metrics) (hdr : Bytes) (hh : Spec.SLASH ∉ hdr) (s : Bytes) :
    Model.parse3 (hdr ++ [Spec.SLASH]) K.zero K.set s = .err Model.eHeader ↔ Spec.headOf s ≠ hdr ∨ s = hdr := by
  rw [parse3_header_iff]
  have hi := Spec.headOf_eq_iff s hdr hh
  constructor
  · intro hn
    by_cases hs : s = hdr
    · exact Or.inr hs
    · exact Or.inl (fun e => (hi.mp e).elim hs hn)
  · rintro (h | rfl) hp
    · exact h (hi.mpr (Or.inr hp))
    · exact absurd (List.IsPrefix.length_le hp) (by simp)

theorem loop4_code_ne_one (K : Contract Model.O40 Spec.V4.metrics) {els : List Bytes} {c : Model.O40} {ord : P4.Ord}
    {e : Go.Err} (h : Model.loop4 K.set els c ord = .err e) : e.code ≠ 1 := by
  rcases P4.loop4_err K.set els c ord e h with rfl | rfl | ⟨c, a, v, rfl, _⟩
  · decide
  · decide
  · exact set_code_ne_one K c a v

/-- v4.0: ErrInvalidCVSSHeader ⇔ the string is neither the bare `CVSS:4.0` nor begins with `CVSS:4.0/` -/
theorem parseK_header_iff (K : Contract Model.O40 Spec.V4.metrics) (s : Bytes) :
    P4.parseK K s = .err Model.eHeader ↔ ¬ (s = Spec.V4.header ∨ (Spec.V4.header ++ [47]) <+: s) := by
  rcases P4.parseK_cases K s with ⟨hn, e⟩ | ⟨hs, e⟩ | ⟨c, r, hs, hc, e⟩ | ⟨r, hs, e⟩
  · refine ⟨fun _ h => hn ?_, fun _ => e⟩
    rcases h with rfl | h
    · exact List.prefix_refl _
    · exact (List.prefix_append _ _).trans h
  · rw [e]
    exact ⟨fun h => absurd h (by decide), fun h => absurd (Or.inl hs) h⟩
  · refine ⟨fun _ h => ?_, fun _ => e⟩
    subst hs
    rcases h with h | h
    · have := congrArg List.length h
      simp at this
    · rw [List.prefix_append_right_inj] at h
      obtain ⟨t, ht⟩ := h
      simp only [List.singleton_append, List.cons.injEq] at ht
      exact hc ht.1.symm
  · rw [e]
    constructor
    · intro h
      exact absurd rfl (loop4_code_ne_one K ((P4.loop4_eq K.set _ _ _).trans h))
    · intro h
      exact absurd (Or.inr ⟨r, by simp [hs, Spec.SLASH]⟩) h

end Proofs.HeaderErr
