import Cvss.Proofs.IEEE.Add
/-!
# `F64.neg`, `F64.abs` are exact sign operations
-/
namespace IEEE
open Spec F64Order

theorem neg_eq (x : Nat) : F64.neg x = if P63 ≤ x then x - P63 else x + P63 := by
  unfold F64.neg; rw [cond_ble]; rfl

theorem neg_fields (x : Nat) (hx : x < 2^64) :
    F64.neg x < 2^64 ∧ signBit (F64.neg x) = 1 - signBit x ∧
    expField (F64.neg x) = expField x ∧ fracField (F64.neg x) = fracField x := by
  rw [neg_eq]
  unfold signBit expField fracField
  by_cases h : P63 ≤ x
  · rw [if_pos h]; simp only [P63] at *; omega
  · rw [if_neg h]; simp only [P63] at *; omega

def negV : F64Val → F64Val
  | .fin v => .fin (-v) | .posInf => .negInf | .negInf => .posInf | .nan => .nan
def absV : F64Val → F64Val
  | .fin v => .fin (v.natAbs : Int) | .posInf => .posInf | .negInf => .posInf | .nan => .nan

theorem neg_val (x : Nat) (hx : x < 2^64) : F64Val.ofBits (F64.neg x) = negV (F64Val.ofBits x) := by
  obtain ⟨_, hs, he, hf⟩ := neg_fields x hx
  have hs1 := signBit_le x
  rw [ofBits_eq, ofBits_eq x, hs, mod_eq_fields, he, hf, ← mod_eq_fields, sv_flip _ _ hs1]
  repeat' split
  all_goals first | rfl | omega

theorem neg_fin (x : Nat) (v : Int) (hx : x < 2^64) (h : F64Val.ofBits x = .fin v) :
    F64Val.ofBits (F64.neg x) = .fin (-v) := by
  rw [neg_val x hx, h]; rfl

theorem neg_neg (x : Nat) (hx : x < 2^64) : F64.neg (F64.neg x) = x := by
  rw [neg_eq, neg_eq]
  by_cases h : P63 ≤ x
  · rw [if_pos h, if_neg (by simp only [P63] at *; omega)]; omega
  · rw [if_neg h, if_pos (by omega)]; omega

theorem abs_fields (x : Nat) :
    F64.abs x < 2^63 ∧ signBit (F64.abs x) = 0 ∧
    expField (F64.abs x) = expField x ∧ fracField (F64.abs x) = fracField x := by
  unfold F64.abs
  rw [nmod]
  unfold signBit expField fracField
  simp only [F64.P63]
  omega

theorem abs_val (x : Nat) : F64Val.ofBits (F64.abs x) = absV (F64Val.ofBits x) := by
  obtain ⟨_, hs, he, hf⟩ := abs_fields x
  rw [ofBits_eq, ofBits_eq x, hs, mod_eq_fields, he, hf, ← mod_eq_fields]
  split
  · show F64Val.fin _ = F64Val.fin ((sv _ _).natAbs : Int)
    rw [sv_natAbs]; rfl
  · split
    · rw [if_pos rfl]; split <;> rfl
    · rfl

end IEEE
