/-!
# One bit field of a byte

Every arm of a generated `Set` clears a field with a literal mask `K` and ors the value index in, shifted to the
field's position and truncated to a byte (a field at bit 0 is or-ed in as it is); every arm of `Get` masks the
field out with a literal `F` and shifts it down. The facts the per-version files need about that pair, for any field
position `s` and width `w` and any `Nat`-valued byte variable: the written value is read back, every bit the clear
mask keeps is kept, and a byte stays a byte. A literal mask such as `192` is `mask 6 2` by evaluation, so the lemmas
apply to the generated text as it stands; those that take the literal as a variable `F` are stated for rewriting.
-/
namespace BitField

def mask (s w : Nat) : Nat := (2 ^ w - 1) <<< s

/-- what `Set` writes into the byte `u`: the bits outside the literal mask `K` cleared, `x` or-ed in -/
abbrev wr0 (u K x : Nat) : Nat := Nat.lor (Nat.land u K) x

/-- … where `x` is the value index `i` shifted into place (truncated to a byte), unless the field is at bit 0 -/
abbrev wr (u K s i : Nat) : Nat := Nat.lor (Nat.land u K) (Nat.mod (Nat.shiftLeft i s) 256)

theorem land_wr0 (u K x F : Nat) (hK : K &&& F = 0) (hx : x &&& F = x) : Nat.land (wr0 u K x) F = x := by
  show ((u &&& K) ||| x) &&& F = x
  rw [Nat.and_or_distrib_right, Nat.and_assoc, hK, Nat.and_zero, Nat.zero_or, hx]

theorem land_wr0_other (u K x m : Nat) (hm : m &&& K = m) (hx : x &&& m = 0) :
    Nat.land (wr0 u K x) m = Nat.land u m := by
  show ((u &&& K) ||| x) &&& m = u &&& m
  rw [Nat.and_or_distrib_right, hx, Nat.or_zero, Nat.and_assoc, Nat.and_comm K m, hm]

theorem wr0_lt (u K x : Nat) (hK : K < 256) (hx : x < 256) : wr0 u K x < 256 :=
  Nat.or_lt_two_pow (n := 8) (Nat.lt_of_le_of_lt Nat.and_le_right hK) hx

section
variable {w i : Nat} (hi : i < 2 ^ w)
include hi

theorem shl_and_mask (s : Nat) : (i <<< s) &&& mask s w = i <<< s := by
  rw [mask, ← Nat.shiftLeft_and_distrib, Nat.and_two_pow_sub_one_eq_mod, Nat.mod_eq_of_lt hi]

theorem shl_and_other (s m : Nat) (hm : m &&& mask s w = 0) : (i <<< s) &&& m = 0 := by
  rw [← shl_and_mask hi s, Nat.and_assoc, Nat.and_comm _ m, hm, Nat.and_zero]

theorem shl_lt (s : Nat) (h8 : s + w ≤ 8) : i <<< s < 256 :=
  calc i <<< s = i * 2 ^ s := Nat.shiftLeft_eq ..
    _ < 2 ^ w * 2 ^ s := Nat.mul_lt_mul_of_pos_right hi (Nat.two_pow_pos s)
    _ = 2 ^ (w + s) := (Nat.pow_add ..).symm
    _ ≤ 2 ^ 8 := Nat.pow_le_pow_right (by decide) (by omega)

end

theorem get_wr (u K s w i F : Nat) (hF : F = mask s w) (hK : K &&& F = 0) (h8 : s + w ≤ 8) (hi : i < 2 ^ w) :
    Nat.shiftRight (Nat.land (wr u K s i) F) s = i := by
  subst hF
  show Nat.land (wr0 u K ((i <<< s) % 256)) (mask s w) >>> s = i
  rw [Nat.mod_eq_of_lt (shl_lt hi s h8), land_wr0 _ _ _ _ hK (shl_and_mask hi s), Nat.shiftLeft_shiftRight]

theorem get_wr0 (u K w i F : Nat) (hF : F = mask 0 w) (hK : K &&& F = 0) (hi : i < 2 ^ w) :
    Nat.land (wr0 u K i) F = i :=
  land_wr0 u K i F hK (hF ▸ shl_and_mask hi 0)

theorem keep_wr (u K s w i m : Nat) (hm : m &&& K = m) (hF : m &&& mask s w = 0) (hi : i < 2 ^ w) :
    Nat.land (wr u K s i) m = Nat.land u m := by
  refine land_wr0_other u K _ m hm ?_
  show (i <<< s) % 2 ^ 8 &&& m = 0
  rw [← Nat.and_two_pow_sub_one_eq_mod, Nat.and_assoc, Nat.and_comm _ m, ← Nat.and_assoc, shl_and_other hi s m hF,
    Nat.zero_and]

theorem keep_wr0 (u K w i m : Nat) (hm : m &&& K = m) (hF : m &&& mask 0 w = 0) (hi : i < 2 ^ w) :
    Nat.land (wr0 u K i) m = Nat.land u m :=
  land_wr0_other u K i m hm (shl_and_other hi 0 m hF)

/-- one half of a field that straddles two bytes is the index masked with `m` and shifted down by `s` -/
theorem shr_land_lt (k m s w : Nat) (hm : m < 2 ^ (s + w)) : Nat.shiftRight (Nat.land k m) s < 2 ^ w := by
  show (k &&& m) >>> s < 2 ^ w
  rw [Nat.shiftRight_eq_div_pow]
  exact Nat.div_lt_of_lt_mul (Nat.pow_add .. ▸ Nat.and_lt_two_pow k hm)

theorem wr_lt (u K s i : Nat) (hK : K < 256) : wr u K s i < 256 :=
  wr0_lt u K _ hK (Nat.mod_lt _ (by decide))

theorem wr_mod (u K s i t : Nat) (hu : u % 2 ^ t = 0) (ht : t ≤ s) (h8 : t ≤ 8) : wr u K s i % 2 ^ t = 0 := by
  show ((u &&& K) ||| (i <<< s) % 2 ^ 8) % 2 ^ t = 0
  rw [Nat.or_mod_two_pow, Nat.and_mod_two_pow, hu, Nat.zero_and, Nat.zero_or,
    Nat.mod_mod_of_dvd _ (Nat.pow_dvd_pow 2 h8), Nat.shiftLeft_eq]
  exact Nat.mod_eq_zero_of_dvd (Nat.dvd_trans (Nat.pow_dvd_pow 2 ht) (Nat.dvd_mul_left ..))

/-! the same two facts with the mask spelt `mask s w` and the clear mask its complement in the byte -/

theorem rd_wr (u K s w i : Nat) (hK : K &&& mask s w = 0) (h8 : s + w ≤ 8) (hi : i < 2 ^ w) :
    Nat.shiftRight (Nat.land (wr u K s i) (mask s w)) s = i :=
  get_wr u K s w i _ rfl hK h8 hi

theorem wr_other (u K s w i m : Nat) (hK : K ||| mask s w = 255) (hm : m &&& mask s w = 0) (hm8 : m < 256) (hi : i < 2 ^ w) :
    Nat.land (wr u K s i) m = Nat.land u m := by
  refine keep_wr u K s w i m ?_ hm hi
  have h := Nat.and_or_distrib_left m K (mask s w)
  rw [hK, hm, Nat.or_zero, Nat.and_two_pow_sub_one_eq_mod m 8, Nat.mod_eq_of_lt hm8] at h
  exact h.symm

end BitField
