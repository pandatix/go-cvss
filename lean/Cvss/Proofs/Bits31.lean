import Cvss.Proofs.Bits30
/-!
# CVSS v3.1: the generated bit-field `Get`/`Set` satisfy the contract (C07, C09)

The v3.1 package's `Get`, `Set` and `validate` are, as generated, the same terms as the v3.0 package's (`Get_eq`,
`Set_eq` below hold by `rfl`), and the two objects have the same six byte fields. So `codes`, `upd`, `vals` (written out as for v3.0) agree
with `Bits30`'s through `to30 : O31 → O30` (`codes_to30`, `upd_to30`, `vals_eq`), and everything the layout asks for is
`Bits30`'s fact about `to30 c`.
-/
namespace Bits31
open Bits Model
open Spec (Metric legal isMetric)

abbrev ms : List Metric := Spec.V3.metrics

theorem tableOK : TableOK ms := Bits30.tableOK

/-- field codes in Spec table order, as `GenV31.Get` extracts them -/
def codes : O31 → List Nat
  | ⟨u0, u1, u2, u3, u4, u5⟩ =>
    [ Nat.shiftRight (Nat.land u0 192) 6,
      Nat.shiftRight (Nat.land u0 32) 5,
      Nat.shiftRight (Nat.land u0 24) 3,
      Nat.shiftRight (Nat.land u0 4) 2,
      Nat.shiftRight (Nat.land u0 2) 1,
      Nat.lor (Nat.mod (Nat.shiftLeft (Nat.land u0 1) 1) 256) (Nat.shiftRight (Nat.land u1 128) 7),
      Nat.shiftRight (Nat.land u1 96) 5,
      Nat.shiftRight (Nat.land u1 24) 3,
      Nat.land u1 7,
      Nat.shiftRight (Nat.land u2 224) 5,
      Nat.shiftRight (Nat.land u2 24) 3,
      Nat.shiftRight (Nat.land u2 6) 1,
      Nat.lor (Nat.mod (Nat.shiftLeft (Nat.land u2 1) 1) 256) (Nat.shiftRight (Nat.land u3 128) 7),
      Nat.shiftRight (Nat.land u3 96) 5,
      Nat.shiftRight (Nat.land u3 28) 2,
      Nat.land u3 3,
      Nat.shiftRight (Nat.land u4 192) 6,
      Nat.shiftRight (Nat.land u4 48) 4,
      Nat.shiftRight (Nat.land u4 12) 2,
      Nat.land u4 3,
      Nat.shiftRight (Nat.land u5 192) 6,
      Nat.shiftRight (Nat.land u5 48) 4 ]

def upd : Nat → O31 → Nat → O31
  | 0, ⟨u0, u1, u2, u3, u4, u5⟩, k => ⟨Nat.lor (Nat.land u0 63) (Nat.mod (Nat.shiftLeft k 6) 256), u1, u2, u3, u4, u5⟩  -- AV
  | 1, ⟨u0, u1, u2, u3, u4, u5⟩, k => ⟨Nat.lor (Nat.land u0 223) (Nat.mod (Nat.shiftLeft k 5) 256), u1, u2, u3, u4, u5⟩  -- AC
  | 2, ⟨u0, u1, u2, u3, u4, u5⟩, k => ⟨Nat.lor (Nat.land u0 231) (Nat.mod (Nat.shiftLeft k 3) 256), u1, u2, u3, u4, u5⟩  -- PR
  | 3, ⟨u0, u1, u2, u3, u4, u5⟩, k => ⟨Nat.lor (Nat.land u0 251) (Nat.mod (Nat.shiftLeft k 2) 256), u1, u2, u3, u4, u5⟩  -- UI
  | 4, ⟨u0, u1, u2, u3, u4, u5⟩, k => ⟨Nat.lor (Nat.land u0 253) (Nat.mod (Nat.shiftLeft k 1) 256), u1, u2, u3, u4, u5⟩  -- S
  | 5, ⟨u0, u1, u2, u3, u4, u5⟩, k => ⟨Nat.lor (Nat.land u0 254) (Nat.shiftRight (Nat.land k 2) 1), Nat.lor (Nat.land u1 127) (Nat.mod (Nat.shiftLeft (Nat.land k 1) 7) 256), u2, u3, u4, u5⟩  -- C
  | 6, ⟨u0, u1, u2, u3, u4, u5⟩, k => ⟨u0, Nat.lor (Nat.land u1 159) (Nat.mod (Nat.shiftLeft k 5) 256), u2, u3, u4, u5⟩  -- I
  | 7, ⟨u0, u1, u2, u3, u4, u5⟩, k => ⟨u0, Nat.lor (Nat.land u1 231) (Nat.mod (Nat.shiftLeft k 3) 256), u2, u3, u4, u5⟩  -- A
  | 8, ⟨u0, u1, u2, u3, u4, u5⟩, k => ⟨u0, Nat.lor (Nat.land u1 248) k, u2, u3, u4, u5⟩  -- E
  | 9, ⟨u0, u1, u2, u3, u4, u5⟩, k => ⟨u0, u1, Nat.lor (Nat.land u2 31) (Nat.mod (Nat.shiftLeft k 5) 256), u3, u4, u5⟩  -- RL
  | 10, ⟨u0, u1, u2, u3, u4, u5⟩, k => ⟨u0, u1, Nat.lor (Nat.land u2 231) (Nat.mod (Nat.shiftLeft k 3) 256), u3, u4, u5⟩  -- RC
  | 11, ⟨u0, u1, u2, u3, u4, u5⟩, k => ⟨u0, u1, Nat.lor (Nat.land u2 249) (Nat.mod (Nat.shiftLeft k 1) 256), u3, u4, u5⟩  -- CR
  | 12, ⟨u0, u1, u2, u3, u4, u5⟩, k => ⟨u0, u1, Nat.lor (Nat.land u2 254) (Nat.shiftRight (Nat.land k 2) 1), Nat.lor (Nat.land u3 127) (Nat.mod (Nat.shiftLeft (Nat.land k 1) 7) 256), u4, u5⟩  -- IR
  | 13, ⟨u0, u1, u2, u3, u4, u5⟩, k => ⟨u0, u1, u2, Nat.lor (Nat.land u3 159) (Nat.mod (Nat.shiftLeft k 5) 256), u4, u5⟩  -- AR
  | 14, ⟨u0, u1, u2, u3, u4, u5⟩, k => ⟨u0, u1, u2, Nat.lor (Nat.land u3 227) (Nat.mod (Nat.shiftLeft k 2) 256), u4, u5⟩  -- MAV
  | 15, ⟨u0, u1, u2, u3, u4, u5⟩, k => ⟨u0, u1, u2, Nat.lor (Nat.land u3 252) k, u4, u5⟩  -- MAC
  | 16, ⟨u0, u1, u2, u3, u4, u5⟩, k => ⟨u0, u1, u2, u3, Nat.lor (Nat.land u4 63) (Nat.mod (Nat.shiftLeft k 6) 256), u5⟩  -- MPR
  | 17, ⟨u0, u1, u2, u3, u4, u5⟩, k => ⟨u0, u1, u2, u3, Nat.lor (Nat.land u4 207) (Nat.mod (Nat.shiftLeft k 4) 256), u5⟩  -- MUI
  | 18, ⟨u0, u1, u2, u3, u4, u5⟩, k => ⟨u0, u1, u2, u3, Nat.lor (Nat.land u4 243) (Nat.mod (Nat.shiftLeft k 2) 256), u5⟩  -- MS
  | 19, ⟨u0, u1, u2, u3, u4, u5⟩, k => ⟨u0, u1, u2, u3, Nat.lor (Nat.land u4 252) k, u5⟩  -- MC
  | 20, ⟨u0, u1, u2, u3, u4, u5⟩, k => ⟨u0, u1, u2, u3, u4, Nat.lor (Nat.land u5 63) (Nat.mod (Nat.shiftLeft k 6) 256)⟩  -- MI
  | 21, ⟨u0, u1, u2, u3, u4, u5⟩, k => ⟨u0, u1, u2, u3, u4, Nat.lor (Nat.land u5 192) (Nat.mod (Nat.shiftLeft k 4) 256)⟩  -- MA
  | _, c, _ => c

def core (rs : List Nat) (abv : Bytes) : Bytes × Go.Err :=
  GenV31.Get_core (rs.getD 0 0) (rs.getD 1 0) (rs.getD 2 0) (rs.getD 3 0) (rs.getD 4 0) (rs.getD 5 0) (rs.getD 6 0)
    (rs.getD 7 0) (rs.getD 8 0) (rs.getD 9 0) (rs.getD 10 0) (rs.getD 11 0) (rs.getD 12 0) (rs.getD 13 0)
    (rs.getD 14 0) (rs.getD 15 0) (rs.getD 16 0) (rs.getD 17 0) (rs.getD 18 0) (rs.getD 19 0) (rs.getD 20 0)
    (rs.getD 21 0) abv

/-- the value strings of metric `j` in the code's numbering, read off the generated `Get_core`
    (decode codes 0, 1, … until the empty string) -/
def vals (j : Nat) : List Bytes :=
  ((List.range 8).map fun x => (core (List.replicate 22 x) (mAt ms j).abv).1).takeWhile (fun v => !v.isEmpty)

/-- the low 4 bits of `u5` belong to no metric -/
def Spare (c : O31) : Prop := c.u5 % 16 = 0

/-! ## v3.1 is v3.0

In the Go source `31/cvss31.go` repeats `30/cvss30.go`'s `Get`, `Set` and `validate` line for line, so the translator prints
the same terms and these hold by `rfl` (`validate` is called inside `Set`). If the two packages ever diverge in a mask,
shift, literal or value list, one of the three equalities stops checking (the v3.1 facts below would then need proofs of their own, as in `Bits30.lean`). -/

theorem Get_core_eq : @GenV31.Get_core = @GenV30.Get_core := rfl
theorem Get_eq : @GenV31.Get = @GenV30.Get := rfl
theorem Set_eq : @GenV31.Set = @GenV30.Set := rfl

def to30 (c : O31) : O30 := ⟨c.u0, c.u1, c.u2, c.u3, c.u4, c.u5⟩

theorem to30_inj {c c' : O31} (h : to30 c = to30 c') : c = c' := by
  cases c; cases c'; cases h; rfl

theorem get_to30 (c : O31) (a : Bytes) : c.get a = (to30 c).get a := rfl
theorem wf_to30 (c : O31) : c.wf = (to30 c).wf := rfl
theorem codes_to30 (c : O31) : codes c = Bits30.codes (to30 c) := by cases c; rfl
theorem core_eq : core = Bits30.core := rfl
theorem vals_eq : vals = Bits30.vals := rfl

theorem upd_to30 (j : Nat) (c : O31) (k : Nat) : to30 (upd j c k) = Bits30.upd j (to30 c) k := by
  obtain ⟨u0, u1, u2, u3, u4, u5⟩ := c
  match j with
  | 0 | 1 | 2 | 3 | 4 | 5 | 6 | 7 | 8 | 9 | 10 | 11 | 12 | 13 | 14 | 15 | 16 | 17 | 18 | 19 | 20 | 21 => rfl
  | n + 22 => rfl

theorem set_of_to30 {c : O31} {a v : Bytes} {p : O31 × Go.Err} (h : (to30 c).set a v = (to30 p.1, p.2)) :
    c.set a v = p := by
  obtain ⟨u0, u1, u2, u3, u4, u5⟩ := c
  obtain ⟨⟨q0, q1, q2, q3, q4, q5⟩, e'⟩ := p
  unfold O30.set to30 at h
  unfold O31.set
  rw [Set_eq]
  generalize GenV30.Set u0 u1 u2 u3 u4 u5 a v = r at h ⊢
  obtain ⟨a0, a1, a2, a3, a4, a5, e⟩ := r
  cases h; rfl

theorem vals_nodup : ∀ j, j < 22 → (vals j).Nodup := vals_eq ▸ Bits30.vals_nodup
theorem vals_len : ∀ j, j < 22 → (vals j).length ≤ 256 := vals_eq ▸ Bits30.vals_len
theorem vals_spec : ∀ j, j < 22 → ∀ v, v ∈ vals j ↔ v ∈ (mAt ms j).values := vals_eq ▸ Bits30.vals_spec

theorem codes_len (c : O31) : (codes c).length = ms.length := codes_to30 c ▸ Bits30.codes_len _

theorem get_known (j : Nat) (hj : j < ms.length) (c : O31) :
    c.get (mAt ms j).abv = ((vals j).getD ((codes c).getD j 0) [], Go.errNil) := by
  rw [get_to30, codes_to30, vals_eq]; exact Bits30.get_known j hj _

theorem get_default (c : O31) (a : Bytes) (h : a ∉ ms.map (·.abv)) : c.get a = ([], eInvalidMetric a) :=
  get_to30 c a ▸ Bits30.get_default _ a h

theorem set_default (c : O31) (a v : Bytes) (h : a ∉ ms.map (·.abv)) : c.set a v = (c, eInvalidMetric a) :=
  set_of_to30 (Bits30.set_default _ a v h)

theorem set_known : ∀ j, j < 22 → ∀ (c : O31) (v : Bytes), c.set (mAt ms j).abv v =
    (match validate v (vals j) with
     | (k, err) => cond (!(Go.Err.beq err Go.errNil)) (c, err) (upd j c k, Go.errNil)) := by
  intro j hj c v
  apply set_of_to30
  rw [Bits30.set_known j hj, vals_eq]
  obtain ⟨k, err⟩ := validate v (Bits30.vals j)
  dsimp only
  cases Go.Err.beq err Go.errNil
  · rfl
  · exact congrArg (·, Go.errNil) (upd_to30 j c k).symm

theorem upd_codes : ∀ j, j < 22 → ∀ (c : O31) (k : Nat), k < (vals j).length →
    codes (upd j c k) = (codes c).set j k := by
  intro j hj c k hk
  rw [codes_to30, upd_to30, codes_to30]; exact Bits30.upd_codes j hj _ k (vals_eq ▸ hk)

theorem upd_isB : ∀ j, j < 22 → ∀ (c : O31) (k : Nat), k < (vals j).length →
    c.IsBytes → (upd j c k).IsBytes :=
  fun j hj c k hk h => show (to30 (upd j c k)).IsBytes from upd_to30 j c k ▸ Bits30.upd_isB j hj (to30 c) k (vals_eq ▸ hk) h

theorem upd_spare : ∀ j, j < 22 → ∀ (c : O31) (k : Nat), k < (vals j).length →
    Spare c → Spare (upd j c k) :=
  fun j hj c k hk h => show Bits30.Spare (to30 (upd j c k)) from upd_to30 j c k ▸ Bits30.upd_spare j hj (to30 c) k (vals_eq ▸ hk) h

theorem codes_inj (c c' : O31) (h : c.IsBytes) (h' : c'.IsBytes) (hs : Spare c) (hs' : Spare c')
    (e : codes c = codes c') : c = c' :=
  to30_inj (Bits30.codes_inj _ _ h h' hs hs' (codes_to30 c ▸ codes_to30 c' ▸ e))

theorem wfB_iff (c : O31) : c.wf = true ↔ c.IsBytes ∧ Spare c ∧ legalGets ms c.get = true :=
  Bits30.wfB_iff (to30 c)

def layout : Layout O31 ms where
  zero := O31.zero
  get := O31.get
  set := O31.set
  wfB := O31.wf
  IsB := O31.IsBytes
  Spare := Spare
  codes := codes
  upd := upd
  vals := vals
  vals_nodup := vals_nodup
  vals_len := vals_len
  vals_spec := vals_spec
  codes_len := codes_len
  get_known := get_known
  get_default := get_default
  set_known := set_known
  set_default := set_default
  upd_codes := upd_codes
  upd_isB := upd_isB
  upd_spare := upd_spare
  codes_inj := codes_inj
  wfB_iff := wfB_iff
  wf_zero := by decide
  zero_opt := by decide

/-- **the v3.1 Get/Set contract**, with `WF c := c.wf = true` -/
def contract31 : Proofs.Contract O31 Spec.V3.metrics := layout.contract tableOK

theorem set_other (c : O31) (a v a' : Bytes) (h : legal ms a v = true) (hm : isMetric ms a' = true)
    (hne : a' ≠ a) : (c.set a v).1.get a' = c.get a' := contract31.get_set_other c a v a' h hm hne

theorem wf_set (c : O31) (a v : Bytes) (h : c.wf = true) : (c.set a v).1.wf = true := contract31.wf_set c a v h

theorem wf_get (c : O31) (h : c.wf = true) :
    ∀ m ∈ ms, (c.get m.abv).2 = Go.errNil ∧ (c.get m.abv).1 ∈ m.values ∧ (c.get m.abv).1 ≠ [] :=
  wf_get_ne_nil contract31 tableOK c h

/-- **reachable = well-formed**: `→` by induction over the history of `Set` calls; `←` by `Set`ting every
    metric of the Spec table, in order, on the zero value (`Bits.rebuild`) -/
theorem reachable_iff_wf (c : O31) : O31.Reachable c ↔ c.wf = true := by
  constructor
  · intro h
    show contract31.WF c  -- the contract's fields then apply as they are; against `_.wf = true` the zero case is evaluated
    induction h with
    | zero => exact contract31.wf_zero
    | set c a v _ ih => exact contract31.wf_set c a v ih
  · exact fun h => closed_of_wf contract31 tableOK h .zero fun c a v => .set c a v

theorem rebuild_eq (c : O31) (h : c.wf = true) : rebuild contract31 c ms O31.zero = c :=
  Bits.rebuild_eq contract31 tableOK c h

end Bits31
