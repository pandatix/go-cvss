import Cvss.Spec.V3
/-!
# C03 helpers, specification side (no code involved)

* code-indexed weight tables `cAV …` (code = index of the value in the order the Go tables use), and the Spec
  equations applied to them (`specBase`, `specInner`, `specT`): this is what the kernel enumerations evaluate;
* `EnvironmentalScore = TemporalScore ∘ BaseScore` on the Modified sub-scores.
-/
namespace Proofs.Score3
open Spec Spec.V3

/-! ## Weights by code -/
def cAV (c : Nat) : Dec := cond (Nat.beq c 0) 0.85 (cond (Nat.beq c 1) 0.62 (cond (Nat.beq c 2) 0.55 0.2))
def cAC (c : Nat) : Dec := cond (Nat.beq c 0) 0.77 0.44
def cPR (c : Nat) (changed : Bool) : Dec :=
  cond (Nat.beq c 0) 0.85 (cond (Nat.beq c 1) (cond changed 0.68 0.62) (cond changed 0.5 0.27))
def cUI (c : Nat) : Dec := cond (Nat.beq c 0) 0.85 0.62
def cCIA (c : Nat) : Dec := cond (Nat.beq c 0) 0.56 (cond (Nat.beq c 1) 0.22 0)
def cE (c : Nat) : Dec := cond (Nat.ble c 1) 1 (cond (Nat.beq c 2) 0.97 (cond (Nat.beq c 3) 0.94 0.91))
def cRL (c : Nat) : Dec := cond (Nat.ble c 1) 1 (cond (Nat.beq c 2) 0.97 (cond (Nat.beq c 3) 0.96 0.95))
def cRC (c : Nat) : Dec := cond (Nat.ble c 1) 1 (cond (Nat.beq c 2) 0.96 0.92)
def cReq (c : Nat) : Dec := cond (Nat.beq c 1) 1.5 (cond (Nat.beq c 3) 0.5 1)

/-- requirement codes: `X` (0) weighs like `M` (2) -/
def nR (r : Nat) : Nat := cond (Nat.beq r 0) 2 r
theorem cReq_nR (r : Nat) : cReq r = cReq (nR r) := by
  unfold nR; cases h : Nat.beq r 0
  · rfl
  · have := Nat.eq_of_beq_eq_true h; subst this; rfl

/-! ## The equations on codes -/
def specImpact (s c i a : Nat) : Dec := Impact (Nat.beq s 1) (ISS (cCIA c) (cCIA i) (cCIA a))
def specExpl (av ac pr ui s : Nat) : Dec := Exploitability (cAV av) (cAC ac) (cPR pr (Nat.beq s 1)) (cUI ui)
def specBase (av ac pr ui s c i a : Nat) : Int :=
  BaseScore (Nat.beq s 1) (specImpact s c i a) (specExpl av ac pr ui s)
def specMImpact (v31 : Bool) (ms mc mi ma cr ir ar : Nat) : Dec :=
  ModifiedImpact v31 (Nat.beq ms 1) (MISS (cReq cr) (cCIA mc) (cReq ir) (cCIA mi) (cReq ar) (cCIA ma))
/-- the "modified base score" inside the Environmental equation, on effective codes -/
def specInner (v31 : Bool) (mav mac mpr mui ms mc mi ma cr ir ar : Nat) : Int :=
  BaseScore (Nat.beq ms 1) (specMImpact v31 ms mc mi ma cr ir ar) (specExpl mav mac mpr mui ms)
def specT (k : Int) (e rl rc : Nat) : Int := TemporalScore k (cE e) (cRL rl) (cRC rc)

/-- the argument of the (inner) `Roundup` of the Base / Environmental equations -/
def baseArg (changed : Bool) (impact expl : Dec) : Dec :=
  if changed then Dec.min (1.08 * (impact + expl)) 10 else Dec.min (impact + expl) 10
theorem BaseScore_eq (ch : Bool) (imp ex : Dec) :
    BaseScore ch imp ex = if imp ≤ 0 then 0 else Roundup (baseArg ch imp ex) := by
  unfold BaseScore baseArg; cases ch <;> rfl

/-! ## Environmental = Temporal ∘ (modified) Base -/
theorem TemporalScore_zero (e rl rc : Dec) : TemporalScore 0 e rl rc = 0 := by
  show -((-((0 * e.num * rl.num * rc.num) * 10)) / _) = 0
  simp only [Int.zero_mul, Int.neg_zero, Int.zero_ediv]

theorem EnvironmentalScore_eq (ch : Bool) (mi me e rl rc : Dec) :
    EnvironmentalScore ch mi me e rl rc = TemporalScore (BaseScore ch mi me) e rl rc := by
  unfold EnvironmentalScore BaseScore
  by_cases h : mi ≤ 0
  · rw [if_pos h, if_pos h, TemporalScore_zero]
  · rw [if_neg h, if_neg h]; cases ch <;> rfl

end Proofs.Score3
