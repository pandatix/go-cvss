import Cvss.Proofs.Bits20
import Cvss.Proofs.Bits30
import Cvss.Proofs.Bits31
/-!
# C07 — Get/Set round trip, frame, failure leaves the object alone, canonical objects (v2.0, v3.0, v3.1)

> On any reachable object, a successful `Set(m, v)` makes `Get(m)` return `v` and leaves the value of every
> other metric unchanged; a failed `Set` (unknown metric or illegal value) leaves the whole object unchanged.
> Two objects holding the same metric values are equal under `==`, whatever sequence of calls produced them.

All statements are about the **generated** `Get`/`Set` (through the wrappers `Model.O20.get/set` …) against the
**Spec** tables `Spec.V2.metrics`, `Spec.V3.metrics`; "successful" means the returned error is nil; `==` on a Go
struct of `uint8` fields is Lean `=` on the structure of bytes. The first two theorems do not even need
reachability (they hold for every state, hence every byte state); it is kept in the statements to match the
property as worded. Proofs: `Cvss/Proofs/Bits{20,30}.lean` (per-arm unfolding of the generated code; the bit facts
from `BitField.lean`), `Bits31.lean` (v3.1's generated code is v3.0's) and `Cvss/Proofs/BitsCommon.lean` (version-independent derivation, of which each theorem here is
an instance). v4.0: `C07v4.lean`.
-/
namespace C07
open Model Bits
open Spec (Metric legal isMetric b)

namespace V20
abbrev ms : List Metric := Spec.V2.metrics

/-- `Set` succeeds (nil error) exactly when `a` is a metric of the table and `v` one of its listed values -/
theorem set_succeeds_iff (c : O20) (a v : Bytes) : (c.set a v).2 = Go.errNil ↔ legal ms a v = true :=
  set_ok_iff Bits20.contract20 c a v

/-- **successful Set**: `Get(a)` returns `v`, and `Get` of every other string answers as before -/
theorem set_success (c : O20) (_ : O20.Reachable c) (a v : Bytes) (h : (c.set a v).2 = Go.errNil) :
    (c.set a v).1.get a = (v, Go.errNil) ∧ ∀ a', a' ≠ a → (c.set a v).1.get a' = c.get a' :=
  (Bits.set_success Bits20.contract20 c a v h).2

/-- **failed Set** (non-nil error): the whole object is unchanged -/
theorem set_failure (c : O20) (_ : O20.Reachable c) (a v : Bytes) (h : (c.set a v).2 ≠ Go.errNil) :
    (c.set a v).1 = c := set_fail_unchanged Bits20.contract20 c a v h

/-- … and a `Set` fails exactly for an unknown metric (`*ErrInvalidMetric{a}`) or an illegal value
    (`ErrInvalidMetricValue`) -/
theorem set_failure_cases (c : O20) (a v : Bytes) (h : (c.set a v).2 ≠ Go.errNil) :
    (isMetric ms a = false ∧ c.set a v = (c, eInvalidMetric a)) ∨
    (isMetric ms a = true ∧ legal ms a v = false ∧ c.set a v = (c, eValue)) := set_fail_cases Bits20.contract20 c a v h

/-- **canonical representation**: reachable objects with the same metric values are equal (`==`),
    whatever sequences of calls produced them -/
theorem eq_of_same_values (c c' : O20) (h : O20.Reachable c) (h' : O20.Reachable c')
    (he : ∀ m ∈ ms, c.get m.abv = c'.get m.abv) : c = c' :=
  Bits20.contract20.ext c c' ((Bits20.reachable_iff_wf c).mp h) ((Bits20.reachable_iff_wf c').mp h') he

/-- the round trip and frame facts for all byte states, well formed or not -/
theorem set_success_bytes (c : O20) (_ : c.IsBytes) (a v : Bytes) (h : legal ms a v = true) :
    (c.set a v).2 = Go.errNil ∧ (c.set a v).1.get a = (v, Go.errNil) ∧ (c.set a v).1.IsBytes ∧
    ∀ a', a' ≠ a → (c.set a v).1.get a' = c.get a' :=
  Bits20.layout.set_success_bytes Bits20.tableOK c a v ‹_› h

/-! the hypotheses are satisfiable: a reachable non-zero object, a successful and two failing `Set`s,
    and two different call sequences producing equal objects -/
def sample : O20 := ((O20.zero.set (b "AV") (b "N")).1.set (b "RL") (b "W")).1
example : O20.Reachable sample := .set _ _ _ (.set _ _ _ .zero)
example : sample ≠ O20.zero := by decide +kernel
example : (sample.set (b "TD") (b "H")).2 = Go.errNil := by decide +kernel
example : (sample.set (b "TD") (b "H")).1.get (b "TD") = (b "H", Go.errNil) := by decide +kernel
example : (sample.set (b "TD") (b "X")).2 = eValue := by decide +kernel
example : (sample.set (b "td") (b "H")).2 = eInvalidMetric (b "td") := by decide +kernel
example : ((O20.zero.set (b "RL") (b "W")).1.set (b "AV") (b "N")).1 = sample := by decide +kernel

end V20

namespace V30
abbrev ms : List Metric := Spec.V3.metrics

/-- `Set` succeeds (nil error) exactly when `a` is a metric of the table and `v` one of its listed values -/
theorem set_succeeds_iff (c : O30) (a v : Bytes) : (c.set a v).2 = Go.errNil ↔ legal ms a v = true :=
  set_ok_iff Bits30.contract30 c a v

/-- **successful Set**: `Get(a)` returns `v`, and `Get` of every other string answers as before -/
theorem set_success (c : O30) (_ : O30.Reachable c) (a v : Bytes) (h : (c.set a v).2 = Go.errNil) :
    (c.set a v).1.get a = (v, Go.errNil) ∧ ∀ a', a' ≠ a → (c.set a v).1.get a' = c.get a' :=
  (Bits.set_success Bits30.contract30 c a v h).2

/-- **failed Set** (non-nil error): the whole object is unchanged -/
theorem set_failure (c : O30) (_ : O30.Reachable c) (a v : Bytes) (h : (c.set a v).2 ≠ Go.errNil) :
    (c.set a v).1 = c := set_fail_unchanged Bits30.contract30 c a v h

/-- … and a `Set` fails exactly for an unknown metric (`*ErrInvalidMetric{a}`) or an illegal value
    (`ErrInvalidMetricValue`) -/
theorem set_failure_cases (c : O30) (a v : Bytes) (h : (c.set a v).2 ≠ Go.errNil) :
    (isMetric ms a = false ∧ c.set a v = (c, eInvalidMetric a)) ∨
    (isMetric ms a = true ∧ legal ms a v = false ∧ c.set a v = (c, eValue)) := set_fail_cases Bits30.contract30 c a v h

/-- **canonical representation**: reachable objects with the same metric values are equal (`==`),
    whatever sequences of calls produced them -/
theorem eq_of_same_values (c c' : O30) (h : O30.Reachable c) (h' : O30.Reachable c')
    (he : ∀ m ∈ ms, c.get m.abv = c'.get m.abv) : c = c' :=
  Bits30.contract30.ext c c' ((Bits30.reachable_iff_wf c).mp h) ((Bits30.reachable_iff_wf c').mp h') he

/-- the round trip and frame facts for all byte states, well formed or not -/
theorem set_success_bytes (c : O30) (_ : c.IsBytes) (a v : Bytes) (h : legal ms a v = true) :
    (c.set a v).2 = Go.errNil ∧ (c.set a v).1.get a = (v, Go.errNil) ∧ (c.set a v).1.IsBytes ∧
    ∀ a', a' ≠ a → (c.set a v).1.get a' = c.get a' :=
  Bits30.layout.set_success_bytes Bits30.tableOK c a v ‹_› h

/-! the hypotheses are satisfiable: a reachable non-zero object, a successful and two failing `Set`s,
    and two different call sequences producing equal objects -/
def sample : O30 := ((O30.zero.set (b "C") (b "L")).1.set (b "IR") (b "M")).1
example : O30.Reachable sample := .set _ _ _ (.set _ _ _ .zero)
example : sample ≠ O30.zero := by decide +kernel
example : (sample.set (b "MAV") (b "P")).2 = Go.errNil := by decide +kernel
example : (sample.set (b "MAV") (b "P")).1.get (b "MAV") = (b "P", Go.errNil) := by decide +kernel
example : (sample.set (b "MAV") (b "ND")).2 = eValue := by decide +kernel
example : (sample.set (b "mav") (b "P")).2 = eInvalidMetric (b "mav") := by decide +kernel
example : ((O30.zero.set (b "IR") (b "M")).1.set (b "C") (b "L")).1 = sample := by decide +kernel

end V30

namespace V31
abbrev ms : List Metric := Spec.V3.metrics

/-- `Set` succeeds (nil error) exactly when `a` is a metric of the table and `v` one of its listed values -/
theorem set_succeeds_iff (c : O31) (a v : Bytes) : (c.set a v).2 = Go.errNil ↔ legal ms a v = true :=
  set_ok_iff Bits31.contract31 c a v

/-- **successful Set**: `Get(a)` returns `v`, and `Get` of every other string answers as before -/
theorem set_success (c : O31) (_ : O31.Reachable c) (a v : Bytes) (h : (c.set a v).2 = Go.errNil) :
    (c.set a v).1.get a = (v, Go.errNil) ∧ ∀ a', a' ≠ a → (c.set a v).1.get a' = c.get a' :=
  (Bits.set_success Bits31.contract31 c a v h).2

/-- **failed Set** (non-nil error): the whole object is unchanged -/
theorem set_failure (c : O31) (_ : O31.Reachable c) (a v : Bytes) (h : (c.set a v).2 ≠ Go.errNil) :
    (c.set a v).1 = c := set_fail_unchanged Bits31.contract31 c a v h

/-- … and a `Set` fails exactly for an unknown metric (`*ErrInvalidMetric{a}`) or an illegal value
    (`ErrInvalidMetricValue`) -/
theorem set_failure_cases (c : O31) (a v : Bytes) (h : (c.set a v).2 ≠ Go.errNil) :
    (isMetric ms a = false ∧ c.set a v = (c, eInvalidMetric a)) ∨
    (isMetric ms a = true ∧ legal ms a v = false ∧ c.set a v = (c, eValue)) := set_fail_cases Bits31.contract31 c a v h

/-- **canonical representation**: reachable objects with the same metric values are equal (`==`),
    whatever sequences of calls produced them -/
theorem eq_of_same_values (c c' : O31) (h : O31.Reachable c) (h' : O31.Reachable c')
    (he : ∀ m ∈ ms, c.get m.abv = c'.get m.abv) : c = c' :=
  Bits31.contract31.ext c c' ((Bits31.reachable_iff_wf c).mp h) ((Bits31.reachable_iff_wf c').mp h') he

/-- the round trip and frame facts for all byte states, well formed or not -/
theorem set_success_bytes (c : O31) (_ : c.IsBytes) (a v : Bytes) (h : legal ms a v = true) :
    (c.set a v).2 = Go.errNil ∧ (c.set a v).1.get a = (v, Go.errNil) ∧ (c.set a v).1.IsBytes ∧
    ∀ a', a' ≠ a → (c.set a v).1.get a' = c.get a' :=
  Bits31.layout.set_success_bytes Bits31.tableOK c a v ‹_› h

/-! the hypotheses are satisfiable: a reachable non-zero object, a successful and two failing `Set`s,
    and two different call sequences producing equal objects -/
def sample : O31 := ((O31.zero.set (b "C") (b "L")).1.set (b "IR") (b "M")).1
example : O31.Reachable sample := .set _ _ _ (.set _ _ _ .zero)
example : sample ≠ O31.zero := by decide +kernel
example : (sample.set (b "MAV") (b "P")).2 = Go.errNil := by decide +kernel
example : (sample.set (b "MAV") (b "P")).1.get (b "MAV") = (b "P", Go.errNil) := by decide +kernel
example : (sample.set (b "MAV") (b "ND")).2 = eValue := by decide +kernel
example : (sample.set (b "mav") (b "P")).2 = eInvalidMetric (b "mav") := by decide +kernel
example : ((O31.zero.set (b "IR") (b "M")).1.set (b "C") (b "L")).1 = sample := by decide +kernel

end V31

end C07
