import Cvss.Proofs.Contract
import Cvss.Proofs.Lex
import Cvss.Spec.Errors
/-!
# v2.0 parser proofs: `split` (`Model.splitN`), which cuts at the first 13 slashes only

Pure list lemmas (no metric table, no object), beside those of `Proofs/Lex.lean`.
-/
namespace Proofs.Parse2
open Model (Bytes cutColon splitN)
open Spec (joinSlash render Pair SLASH COLON splitSlash)
open Proofs.Lex

theorem model_colon : Model.COLON = 58 := rfl

theorem joinSlash_append_singleton (l : List Bytes) (h : l ≠ []) (x : Bytes) :
    joinSlash (l ++ [x]) = joinSlash l ++ 47 :: x := by
  induction l with
  | nil => exact absurd rfl h
  | cons y l ih =>
    cases l with
    | nil => rfl
    | cons z l =>
      have := ih (by simp)
      simp only [List.cons_append] at this ⊢
      rw [joinSlash_cons_cons, this, joinSlash_cons_cons]
      simp

theorem splitN_ne_nil (n : Nat) (s : Bytes) : splitN n s ≠ [] := by
  induction s generalizing n with
  | nil => cases n <;> simp [splitN]
  | cons c cs ih =>
    cases n with
    | zero => simp [splitN]
    | succ n =>
      unfold splitN
      split
      · simp
      · split <;> simp

theorem splitN_zero (s : Bytes) : splitN 0 s = [s] := by
  cases s <;> rfl

theorem splitN_cons_slash (n : Nat) (cs : Bytes) : splitN (n + 1) (SLASH :: cs) = [] :: splitN n cs := by
  simp [splitN, model_SLASH]

theorem splitN_cons_ne (n : Nat) (c : Nat) (cs : Bytes) (hc : c ≠ SLASH) :
    ∃ h t, splitN (n + 1) cs = h :: t ∧ splitN (n + 1) (c :: cs) = (c :: h) :: t := by
  cases hs : splitN (n + 1) cs with
  | nil => exact absurd hs (splitN_ne_nil _ _)
  | cons h t =>
    refine ⟨h, t, rfl, ?_⟩
    rw [splitN, model_SLASH, if_neg hc, hs]

theorem joinSlash_splitN (n : Nat) (s : Bytes) : joinSlash (splitN n s) = s := by
  induction s generalizing n with
  | nil => cases n <;> rfl
  | cons c cs ih =>
    cases n with
    | zero => rfl
    | succ n =>
      by_cases hc : c = SLASH
      · subst hc
        rw [splitN_cons_slash, joinSlash_cons_of_ne_nil _ (splitN_ne_nil _ _), ih]
        rfl
      · obtain ⟨h, t, h1, h2⟩ := splitN_cons_ne n c cs hc
        rw [h2, joinSlash_cons_head, ← h1, ih]

/-- `split` in terms of the unbounded split: when there are more than `n` slashes the last part keeps the rest -/
theorem splitN_eq (n : Nat) (s : Bytes) : splitN n s =
    if (splitSlash s).length ≤ n + 1 then splitSlash s
    else (splitSlash s).take n ++ [joinSlash ((splitSlash s).drop n)] := by
  induction s generalizing n with
  | nil => cases n <;> simp [splitN, splitSlash]
  | cons c cs ih =>
    cases n with
    | zero =>
      rw [splitN_zero, List.take_zero, List.drop_zero, joinSlash_splitSlash, List.nil_append]
      split
      · rename_i h
        have := joinSlash_splitSlash (c :: cs)
        generalize splitSlash (c :: cs) = l at h this
        match l, h with
        | [x], _ => rw [← this]; rfl
        | [], _ => simp [joinSlash] at this
      · rfl
    | succ n =>
      by_cases hc : c = SLASH
      · subst hc
        rw [splitN_cons_slash, splitSlash_cons_slash, ih n]
        simp only [List.length_cons, Nat.add_le_add_iff_right, List.take_succ_cons, List.drop_succ_cons, List.cons_append]
        split <;> rfl
      · obtain ⟨h, t, h1, h2⟩ := splitSlash_cons_ne hc cs
        obtain ⟨h', t', h1', h2'⟩ := splitN_cons_ne n c cs hc
        rw [h2', h2]
        rw [ih (n + 1), h1] at h1'
        simp only [List.length_cons, List.take_succ_cons, List.drop_succ_cons, List.cons_append] at h1' ⊢
        split at h1' <;> rename_i hl
        · rw [if_pos hl]; cases h1'; rfl
        · rw [if_neg hl]; cases h1'; rfl

theorem splitN_length_le (n : Nat) (s : Bytes) : (splitN n s).length ≤ n + 1 := by
  rw [splitN_eq]
  split
  · assumption
  · simp only [List.length_append, List.length_take, List.length_singleton]; omega

theorem splitN_join_le (n : Nat) (xs : List Bytes) (hx : ∀ x ∈ xs, SLASH ∉ x) (hne : xs ≠ [])
    (hlen : xs.length ≤ n + 1) : splitN n (joinSlash xs) = xs := by
  rw [splitN_eq, splitSlash_joinSlash hne hx, if_pos hlen]

theorem splitN_join_gt (n : Nat) (xs : List Bytes) (hx : ∀ x ∈ xs, 47 ∉ x) (hlen : n < xs.length) :
    splitN n (joinSlash xs) = xs.take n ++ [joinSlash (xs.drop n)] := by
  rw [splitN_eq, splitSlash_joinSlash (by rintro rfl; simp at hlen) hx]
  split
  · rename_i h
    obtain ⟨y, hy⟩ : ∃ y, xs.drop n = [y] := List.length_eq_one_iff.mp (by rw [List.length_drop]; omega)
    rw [hy]
    exact (List.take_append_drop n xs).symm.trans (by rw [hy]; rfl)
  · rfl

/-- uniform view used for the error proofs: if at most `n` slash-free elements precede `z`, the parts
    start with those elements and the next part starts with `z`: it is `z` (and if it is the last
    possible part, nothing follows), or it is `z` followed by `/` and a remainder -/
theorem splitN_join_decomp (n : Nat) (pre : List Bytes) (z : Bytes) (post : List Bytes)
    (hx : ∀ x ∈ pre ++ z :: post, SLASH ∉ x) (hp : pre.length ≤ n) :
    ∃ y rest, splitN n (joinSlash (pre ++ z :: post)) = pre ++ y :: rest ∧
      ((y = z ∧ (pre.length = n → post = [])) ∨ ∃ more, y = z ++ SLASH :: more) := by
  rw [splitN_eq, splitSlash_joinSlash (by simp) hx]
  split
  · rename_i h
    refine ⟨z, post, rfl, Or.inl ⟨rfl, fun e => List.eq_nil_of_length_eq_zero ?_⟩⟩
    simp only [List.length_append, List.length_cons] at h
    omega
  · rename_i h
    simp only [List.length_append, List.length_cons] at h
    rw [List.take_append, List.drop_append]
    by_cases e : pre.length = n
    · -- the part that starts with `z` is the last one and keeps everything behind it
      have hpost : post ≠ [] := fun e' => by rw [e'] at h; simp at h; omega
      refine ⟨joinSlash (z :: post), [], ?_, Or.inr ⟨joinSlash post, joinSlash_cons_of_ne_nil z hpost⟩⟩
      rw [← e]; simp
    · obtain ⟨k, hk⟩ : ∃ k, n - pre.length = k + 1 := ⟨n - pre.length - 1, by omega⟩
      refine ⟨z, post.take k ++ [joinSlash ((z :: post).drop (k + 1))], ?_, Or.inl ⟨rfl, fun e' => absurd e' e⟩⟩
      rw [hk, List.take_of_length_le (Nat.le_of_lt (by omega)), List.drop_of_length_le (Nat.le_of_lt (by omega))]
      simp

theorem cutColon_render_more (p : Pair) (h : COLON ∉ p.1) (more : Bytes) :
    cutColon (render p ++ SLASH :: more) = (p.1, p.2 ++ SLASH :: more) := by
  unfold render
  rw [List.append_assoc, List.cons_append]
  exact cutColon_append h _

end Proofs.Parse2
