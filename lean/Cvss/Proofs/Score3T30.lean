import Cvss.Proofs.Score3M30
/-! C03, v3.0, enumeration (b): `roundup` and the temporal weights of the v3.0 package are those of v3.1
    (same text after translation), so the last step `T` and its predicate are v3.1's, and the table of `Score3T31`
    is this version's table too. -/
namespace Proofs.Score3.V30

theorem T_eq : @T = @V31.T := rfl
theorem okT_eq : @okT = @V31.okT := rfl

end Proofs.Score3.V30
