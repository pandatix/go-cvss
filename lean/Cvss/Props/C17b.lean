import Cvss.Props.C17
import Cvss.Model.Alloc
/-!
# C17, allocation cost of `Vector()` in the buffer cost model

`Vector()` pre-sizes its buffer and then only appends. The capacity is the code's own: the translator emits, for the
`b := make([]byte, 0, X)` of `Vector`, the twin definition `GenVxx.Vector_cap` (the statements before the `make`, then `X`);
`cap_eq_lenVecNN` shows that it is `lenVec()` (`rfl` on the regenerated text). In the cost model of `Model/Alloc.lean`
(`make` = 1 allocation, an `append` beyond the capacity = 1 more) this costs **exactly one** allocation for every
well-formed object of every version, *whatever* sequence of appends produces the text — because the total appended length
is `len(Vector()) = lenVec()` (C17 length theorems). Conversely any under-count in `lenVec` makes the model regrow.
NOT modelled (measured by the alloc stream on the real code): escape analysis, the `unsafe` string conversion, allocations
of everything else (`ParseVector`, `Get`, `Set`, scores, `Rating`, `Nomenclature`).
-/
namespace C17
open Model Model.Alloc

theorem cap_eq_lenVec20 (c : O20) : c.vectorCap = c.lenVec := by
  simp only [O20.vectorCap, O20.lenVec, GenV20.Vector_cap, GenV20.Vector_cap_core, GenV20.lenVec, Proofs.Vec.flet_eq]
theorem cap_eq_lenVec30 (c : O30) : c.vectorCap = c.lenVec := by
  simp only [O30.vectorCap, O30.lenVec, GenV30.Vector_cap, GenV30.Vector_cap_core, GenV30.lenVec, Proofs.Vec.flet_eq]
theorem cap_eq_lenVec31 (c : O31) : c.vectorCap = c.lenVec := by
  simp only [O31.vectorCap, O31.lenVec, GenV31.Vector_cap, GenV31.Vector_cap_core, GenV31.lenVec, Proofs.Vec.flet_eq]
theorem cap_eq_lenVec40 (c : O40) : c.vectorCap = c.lenVec := by
  simp only [O40.vectorCap, O40.lenVec, GenV40.Vector_cap, GenV40.Vector_cap_core, GenV40.lenVec, Proofs.Vec.flet_eq]

/-- **the text never outgrows the buffer the code allocated** -/
theorem vector_fits20 (c : O20) (h : c.wf = true) : c.vector.length ≤ c.vectorCap :=
  Nat.le_of_eq ((C17.V20.length_eq c h).trans (cap_eq_lenVec20 c).symm)
theorem vector_fits30 (c : O30) (h : c.wf = true) : c.vector.length ≤ c.vectorCap :=
  Nat.le_of_eq ((C17.V30.length_eq c h).trans (cap_eq_lenVec30 c).symm)
theorem vector_fits31 (c : O31) (h : c.wf = true) : c.vector.length ≤ c.vectorCap :=
  Nat.le_of_eq ((C17.V31.length_eq c h).trans (cap_eq_lenVec31 c).symm)
theorem vector_fits40 (c : O40) (h : c.wf = true) : c.vector.length ≤ c.vectorCap :=
  Nat.le_of_eq ((C17.V40.length_eq c h).trans (cap_eq_lenVec40 c).symm)

/-- a text that fits the capacity costs the one `make`, whatever pieces it is appended in -/
theorem one_alloc_of_fits {cap : Nat} {text : List Nat} (h : text.length ≤ cap) (pieces : List (List Nat))
    (hp : pieces.flatten = text) : (run cap (pieces.map List.length)).allocs = 1 :=
  presized_one_alloc _ _ (by rw [← List.length_flatten, hp]; exact h)

theorem vector_one_alloc20 (c : O20) (h : c.wf = true) (pieces : List (List Nat)) (hp : pieces.flatten = c.vector) :
    (run c.vectorCap (pieces.map List.length)).allocs = 1 := one_alloc_of_fits (vector_fits20 c h) pieces hp
theorem vector_one_alloc30 (c : O30) (h : c.wf = true) (pieces : List (List Nat)) (hp : pieces.flatten = c.vector) :
    (run c.vectorCap (pieces.map List.length)).allocs = 1 := one_alloc_of_fits (vector_fits30 c h) pieces hp
theorem vector_one_alloc31 (c : O31) (h : c.wf = true) (pieces : List (List Nat)) (hp : pieces.flatten = c.vector) :
    (run c.vectorCap (pieces.map List.length)).allocs = 1 := one_alloc_of_fits (vector_fits31 c h) pieces hp
theorem vector_one_alloc40 (c : O40) (h : c.wf = true) (pieces : List (List Nat)) (hp : pieces.flatten = c.vector) :
    (run c.vectorCap (pieces.map List.length)).allocs = 1 := one_alloc_of_fits (vector_fits40 c h) pieces hp

/-- the converse, as a statement about the model: a capacity below the text's length costs a second allocation -/
theorem undercount_regrows (cap : Nat) (pieces : List (List Nat)) (h : cap < pieces.flatten.length) :
    1 < (run cap (pieces.map List.length)).allocs :=
  undersized_regrows _ _ (by rw [← List.length_flatten]; exact h)

end C17
