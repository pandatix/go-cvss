import Cvss.Proofs.IEEE.Mag
/-!
# The core: `F64.rnd` rounds to nearest even

`F64.rnd sbit m e` returns `sbit + p` where `p` is the RNE image (`IsRNEMag`) of `m · 2^e / 2^(4096+1075)`,
for every `m > 0` and every `e`: subnormal results, carry to the next binade and overflow to ∞ included.
The statement is slightly more general (`Rep`): the rounded value may be any rational that `m` represents
"with a sticky bit" (used by the division).
-/
namespace IEEE
open F64Order

theorem fin3_eq (sbit E q : Nat) (hE : 1 ≤ E) (h : E = 1 ∨ P52 ≤ q) :
    F64.fin3 sbit E q = sbit + min PINF ((E - 1) * P52 + q) := by
  unfold F64.fin3
  simp only [flet_eq, cond_blt, cond_ble, Nat.add_eq, Nat.sub_eq, Nat.mul_eq, F64.P52, F64.PINF, PINF, P52] at *
  by_cases h1 : q < 4503599627370496
  · have hE1 : E = 1 := by omega
    subst hE1
    rw [if_pos h1]; omega
  · rw [if_neg h1]
    split <;> omega

theorem rndF_eq (sbit E q rem sh : Nat) :
    F64.rndF sbit E q rem sh =
      F64.fin3 sbit E (if 2^(sh-1) < rem ∨ (rem = 2^(sh-1) ∧ q % 2 = 1) then q+1 else q) := by
  unfold F64.rndF
  rw [flet_eq, nshl, Nat.one_mul, Nat.sub_eq, nmod, Nat.succ_eq_add_one]
  congr 1
  by_cases h1 : 2^(sh-1) < rem
  · rw [if_pos (Or.inl h1), (Nat.blt_eq.mpr h1 : Nat.blt _ _ = true)]; rfl
  · have hb : Nat.blt (2^(sh-1)) rem = false := by
      cases hb : Nat.blt (2^(sh-1)) rem
      · rfl
      · exact absurd (Nat.blt_eq.mp hb) h1
    rw [hb, cond_false, cond_beq]
    by_cases h2 : rem = 2^(sh-1)
    · rw [if_pos h2, cond_beq]
      by_cases h3 : q % 2 = 1
      · rw [if_pos h3, if_pos (Or.inr ⟨h2, h3⟩)]
      · rw [if_neg h3, if_neg (by intro h; rcases h with h | h; exact h1 h; exact h3 h.2)]
    · rw [if_neg h2, if_neg (by intro h; rcases h with h | h; exact h1 h; exact h2 h.1)]; rfl

theorem rnd_unfold (sbit m e len E : Nat) (hm : 0 < m) (hlen : len = Nat.log2 m + 1)
    (hE : E = if e + len ≤ 4150 then 1 else e + len - 4149) :
    F64.rnd sbit m e =
      if 4096 + E ≤ e then F64.fin3 sbit E (m * 2^(e - (4096 + E)))
      else F64.fin3 sbit E
        (if 2^(4096 + E - e - 1) < m - m / 2^(4096 + E - e) * 2^(4096 + E - e) ∨
            (m - m / 2^(4096 + E - e) * 2^(4096 + E - e) = 2^(4096 + E - e - 1) ∧ (m / 2^(4096 + E - e)) % 2 = 1)
         then m / 2^(4096 + E - e) + 1 else m / 2^(4096 + E - e)) := by
  rw [F64.rnd_eq_log2]
  simp only [flet_eq, cond_beq]
  rw [if_neg (by omega)]
  unfold F64.rndB
  simp only [flet_eq, cond_ble, Nat.add_eq, Nat.sub_eq, Nat.succ_eq_add_one]
  unfold F64.rndC
  simp only [flet_eq, cond_ble, Nat.add_eq, Nat.sub_eq, nshl]
  rw [← hlen, ← hE]
  unfold F64.rndD F64.rndE
  simp only [flet_eq, rndF_eq, nshr, nshl, Nat.sub_eq]

/-- `a/d` is the value `m · 2^e / 2^(4096+1075)`, exactly, or with `m` carrying a sticky bit: `m` is odd, has
    at least 56 bits, and the true value lies strictly between `(m-1)` and `(m+1)` in the same unit -/
def Rep (a d m e : Nat) : Prop :=
  a * 2^4096 * den = m * (2^e * d) ∨
  (m % 2 = 1 ∧ 2^55 ≤ m ∧ (m - 1) * (2^e * d) < a * 2^4096 * den ∧ a * 2^4096 * den < (m + 1) * (2^e * d))

theorem rep_cmp {a d m e : Nat} (T : Nat) (hd : 0 < d) (h : Rep a d m e)
    (hT : a * 2^4096 * den = m * (2^e * d) ∨ T % 2 = 0) :
    (T < m → T * (2^e * d) < a * 2^4096 * den) ∧ (m < T → a * 2^4096 * den < T * (2^e * d)) ∧
    (T = m → T * (2^e * d) = a * 2^4096 * den) := by
  have hX : 0 < 2^e * d := Nat.mul_pos (Nat.pow_pos (by decide)) hd
  unfold Rep at h
  generalize 2^e * d = X at *
  generalize a * 2^4096 * den = AK at *
  have ex : AK = m * X → ((T < m → T * X < AK) ∧ (m < T → AK < T * X) ∧ (T = m → T * X = AK)) := by
    intro hx
    refine ⟨fun h1 => ?_, fun h1 => ?_, fun h1 => ?_⟩
    · rw [hx]; exact Nat.mul_lt_mul_of_pos_right h1 hX
    · rw [hx]; exact Nat.mul_lt_mul_of_pos_right h1 hX
    · rw [hx, h1]
  rcases h with hx | ⟨hodd, _, hl, hu⟩
  · exact ex hx
  · rcases hT with hx | hev
    · exact ex hx
    · refine ⟨fun h1 => ?_, fun h1 => ?_, fun h1 => ?_⟩
      · have : T * X ≤ (m - 1) * X := Nat.mul_le_mul_right _ (by omega)
        omega
      · have : (m + 1) * X ≤ T * X := Nat.mul_le_mul_right _ (by omega)
        omega
      · omega

theorem scale_eq (c E P sh e d : Nat) (h : 2^E * P = 2^sh * 2^e) :
    (c * 2^E) * (d * P) = (c * 2^sh) * (2^e * d) := by
  calc (c * 2^E) * (d * P) = c * d * (2^E * P) := by ac_rfl
    _ = c * d * (2^sh * 2^e) := by rw [h]
    _ = (c * 2^sh) * (2^e * d) := by ac_rfl


theorem pow_mul_pow (E k sh e : Nat) (h : E + k = sh + e) : 2^E * 2^k = 2^sh * 2^e := by
  rw [← Nat.pow_add, ← Nat.pow_add, h]

theorem rnd_rne (sbit m e a d : Nat) (hm : 0 < m) (hd : 0 < d) (h : Rep a d m e) :
    ∃ p, F64.rnd sbit m e = sbit + p ∧ IsRNEMag a d p := by
  have hlo : 2 ^ Nat.log2 m ≤ m := Nat.log2_self_le (by omega)
  have hhi : m < 2 ^ (Nat.log2 m + 1) := Nat.lt_log2_self
  generalize hlen : Nat.log2 m + 1 = len at hhi
  have hlo' : 2^(len - 1) ≤ m := by
    have : len - 1 = Nat.log2 m := by omega
    rw [this]; exact hlo
  clear hlo
  generalize hE : (if e + len ≤ 4150 then 1 else e + len - 4149) = E
  have hEc : (e + len ≤ 4150 ∧ E = 1) ∨ (4150 < e + len ∧ E = e + len - 4149) := by
    rw [← hE]; split <;> omega
  have hE1 : 1 ≤ E := by omega
  have hlen1 : 1 ≤ len := by omega
  rw [rnd_unfold sbit m e len E hm hlen.symm hE.symm]
  clear hE hlen
  have hcmp := fun T hT => rep_cmp (a := a) (d := d) (m := m) (e := e) T hd h hT
  unfold Rep at h
  have hP : 0 < 2^4096 := Nat.two_pow_pos 4096
  have hPE : ∀ E sh e : Nat, E + 4096 = sh + e → 2^E * 2^4096 = 2^sh * 2^e :=
    fun E sh e => pow_mul_pow E 4096 sh e
  have hPA : ∀ E : Nat, 2^(E + 4096) = 2^E * 2^4096 := fun E => Nat.pow_add _ _ _
  generalize (2:Nat)^4096 = P at *
  have hdP : 0 < d * P := Nat.mul_pos hd hP
  have back : ∀ p, IsRNEMag (a * P) (d * P) p → IsRNEMag a d p := by
    intro p hp
    exact hp.congr hdP hd (by ac_rfl)
  have hX : 0 < 2^e * d := Nat.mul_pos (Nat.pow_pos (by decide)) hd
  by_cases hA : 4096 + E ≤ e
  · -- exact: shift left
    rw [if_pos hA]
    have hlen53 : len ≤ 53 := by omega
    generalize hk : e - (4096 + E) = k
    have hlk : len + k ≤ 53 := by omega
    have hq : m * 2^k < 2 * P52 := by
      rw [← p53]
      calc m * 2^k < 2^len * 2^k := Nat.mul_lt_mul_of_pos_right hhi (Nat.pow_pos (by decide))
        _ = 2^(len + k) := (Nat.pow_add _ _ _).symm
        _ ≤ 2^53 := Nat.pow_le_pow_right (by decide) hlk
    have hq2 : E = 1 ∨ P52 ≤ m * 2^k := by
      by_cases h1 : E = 1
      · exact Or.inl h1
      · right
        have : len - 1 + k = 52 := by omega
        rw [← p52, ← this, Nat.pow_add]
        exact Nat.mul_le_mul_right _ hlo'
    rw [fin3_eq sbit E _ hE1 hq2]
    refine ⟨_, rfl, back _ ?_⟩
    have hex : a * P * den = m * (2^e * d) := by
      rcases h with h | ⟨_, h55, _, _⟩
      · exact h
      · have : 2^len ≤ 2^55 := Nat.pow_le_pow_right (by decide) (by omega)
        omega
    have he : 2^e = 2^k * (2^E * P) := by
      have : e = k + (E + 4096) := by omega
      rw [this, Nat.pow_add, hPA]
    have hW0 := wp_pack E (m * 2^k) hE1 (by omega) hq2
    have hlo2 : wp ((E - 1) * P52 + m * 2^k) * (d * P) = a * P * den := by
      rw [hW0, hex, he]; ac_rfl
    have hst := wpd_strict (d * P) hdP (Nat.lt_add_one ((E - 1) * P52 + m * 2^k))
    refine bracket (a * P) (d * P) _ _ hdP (by omega) (by omega) (Or.inr ⟨?_, rfl⟩)
    unfold roundUp
    rw [Nat.add_mul]
    omega
  · -- shift right by sh ≥ 1, round on the remainder
    rw [if_neg hA]
    generalize hsh : 4096 + E - e = sh
    have hsh1 : 1 ≤ sh := by omega
    have hlsh : len ≤ sh + 53 := by omega
    have hS : 0 < 2^sh := Nat.two_pow_pos sh
    have hhalf : 2^sh = 2 * 2^(sh - 1) := by
      have : sh = (sh - 1) + 1 := by omega
      rw [this, Nat.pow_succ]; simp only [Nat.add_sub_cancel]; omega
    have hq0 : m / 2^sh * 2^sh ≤ m := Nat.div_mul_le_self m (2^sh)
    have hq1 : m < (m / 2^sh + 1) * 2^sh := by
      have h1 := Nat.div_add_mod m (2^sh)
      have h2 := Nat.mod_lt m hS
      rw [Nat.add_mul, Nat.one_mul, Nat.mul_comm]; omega
    have hq : m / 2^sh < 2 * P52 := by
      rw [← p53, Nat.div_lt_iff_lt_mul hS, ← Nat.pow_add]
      exact Nat.lt_of_lt_of_le hhi (Nat.pow_le_pow_right (by decide) (by omega))
    have hq2 : E = 1 ∨ P52 ≤ m / 2^sh := by
      by_cases h1 : E = 1
      · exact Or.inl h1
      · right
        have : len - 1 = 52 + sh := by omega
        rw [← p52, Nat.le_div_iff_mul_le hS, ← Nat.pow_add, ← this]
        exact hlo'
    generalize hqd : m / 2^sh = q at *
    have hsc := hPE E sh e (by omega)
    have S0 := scale_eq q E P sh e d hsc
    have S1 := scale_eq (q + 1) E P sh e d hsc
    have hW0 := wp_pack E q hE1 (by omega) hq2
    have hW1 := wp_pack E (q + 1) hE1 (by omega) (by omega)
    have hp1 : (E - 1) * P52 + q + 1 = (E - 1) * P52 + (q + 1) := by omega
    have hsh3 : (a * P * den = m * (2^e * d)) ∨ 3 ≤ sh := by
      rcases h with h | ⟨_, h55, _, _⟩
      · exact Or.inl h
      · right
        apply Classical.byContradiction
        intro hn
        have : 2^len ≤ 2^55 := Nat.pow_le_pow_right (by decide) (by omega)
        omega
    have hev : ∀ T c, T = c * 2^(sh - 1) → (a * P * den = m * (2^e * d)) ∨ T % 2 = 0 := by
      intro T c hT
      rcases hsh3 with h | h3
      · exact Or.inl h
      · right
        have : sh - 1 = (sh - 2) + 1 := by omega
        rw [hT, this, Nat.pow_succ, ← Nat.mul_assoc]; omega
    have c0 := hcmp (q * 2^sh) (hev _ (q * 2) (by rw [hhalf, Nat.mul_assoc]))
    have c1 := hcmp ((q + 1) * 2^sh) (hev _ ((q + 1) * 2) (by rw [hhalf, Nat.mul_assoc]))
    have ch := hcmp ((2 * q + 1) * 2^(sh - 1)) (hev _ (2 * q + 1) rfl)
    -- products as atoms
    have t1 : (q + 1) * 2^sh = q * 2^sh + 2 * 2^(sh - 1) := by
      rw [hhalf, Nat.add_mul, Nat.one_mul]
    have th : (2 * q + 1) * 2^(sh - 1) = q * 2^sh + 2^(sh - 1) := by
      rw [hhalf, Nat.add_mul, Nat.one_mul]; congr 1; ac_rfl
    have e1 : (q + 1) * 2^sh * (2^e * d) = q * 2^sh * (2^e * d) + 2 * (2^(sh - 1) * (2^e * d)) := by
      rw [t1, Nat.add_mul, Nat.mul_assoc 2]
    have eh : (2 * q + 1) * 2^(sh - 1) * (2^e * d) = q * 2^sh * (2^e * d) + 2^(sh - 1) * (2^e * d) := by
      rw [th, Nat.add_mul]
    have hpar : ((E - 1) * P52 + q) % 2 = q % 2 := by
      show ((E - 1) * 4503599627370496 + q) % 2 = q % 2
      omega
    have hlo2 : wp ((E - 1) * P52 + q) * (d * P) ≤ a * P * den := by
      rw [hW0, S0]; omega
    have hhi2 : a * P * den < wp ((E - 1) * P52 + q + 1) * (d * P) := by
      rw [hp1, hW1, S1]; omega
    -- the test on the remainder is the midpoint rule between the two neighbours
    have hup : roundUp (a * P) (d * P) ((E - 1) * P52 + q) ↔
        (2^(sh - 1) < m - q * 2^sh ∨ (m - q * 2^sh = 2^(sh - 1) ∧ q % 2 = 1)) := by
      unfold roundUp
      rw [Nat.add_mul, hp1, hW0, hW1, S0, S1, hpar]
      omega
    split
    · rw [fin3_eq sbit E _ hE1 (by omega)]
      exact ⟨_, rfl, back _ (bracket _ _ _ _ hdP hlo2 hhi2 (Or.inl ⟨hup.mpr ‹_›, by rw [hp1]⟩))⟩
    · rw [fin3_eq sbit E _ hE1 hq2]
      exact ⟨_, rfl, back _ (bracket _ _ _ _ hdP hlo2 hhi2 (Or.inr ⟨mt hup.mp ‹_›, rfl⟩))⟩

theorem rnd_zero (sbit e : Nat) : F64.rnd sbit 0 e = sbit := by
  unfold F64.rnd
  rw [flet_eq, flet_eq]
  rfl

/-- `rnd_rne` with the zero significand included: it represents the value 0 only -/
theorem rnd_mag (sbit m e a d : Nat) (hd : 0 < d) (h : (m = 0 ∧ a = 0) ∨ (0 < m ∧ Rep a d m e)) :
    ∃ p, F64.rnd sbit m e = sbit + p ∧ IsRNEMag a d p := by
  rcases h with ⟨rfl, rfl⟩ | ⟨hm, hrep⟩
  · exact ⟨0, rnd_zero sbit e, IsRNEMag.zero d hd⟩
  · exact rnd_rne sbit m e a d hm hd hrep

end IEEE
