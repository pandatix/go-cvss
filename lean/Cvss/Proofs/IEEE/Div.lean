import Cvss.Proofs.IEEE.Decode
/-!
# `F64.div` is the correctly rounded quotient, for all finite operands with a non-zero divisor
(and `0/0 = NaN`)
-/
namespace IEEE
open Spec F64Order

/-- the quotient with a sticky bit represents `mx·2^Ex / (my·2^Ey)` -/
theorem div_rep (mx my Ex Ey k q : Nat) (hmx : 0 < mx) (hmy : 0 < my) (hmy53 : my < 2 * P52)
    (hEx : 1 ≤ Ex) (hEy : Ey ≤ 2046) (hk : k = 65 + Nat.log2 my) (hq : q = mx * 2^k / my) :
    Rep (mx * 2^Ex) (my * 2^Ey) (if mx * 2^k - q * my = 0 then 2 * q else 2 * q + 1)
      (Ex + 4096 + 1075 - Ey - (k + 1)) ∧ 2^64 ≤ q := by
  have hL1 : 2^(Nat.log2 my) ≤ my := Nat.log2_self_le (by omega)
  have hL2 : my < 2^(Nat.log2 my + 1) := Nat.lt_log2_self
  have hL : Nat.log2 my < 53 := (Nat.log2_lt (by omega)).mpr (by rw [p53]; exact hmy53)
  generalize Nat.log2 my = L at *
  have hq64 : 2^64 ≤ q := by
    rw [hq, Nat.le_div_iff_mul_le hmy]
    have h1 : 2^64 * my ≤ 2^64 * 2^(L+1) := Nat.mul_le_mul_left _ (by omega)
    have h2 : 2^64 * 2^(L+1) = 2^k := by rw [← Nat.pow_add, hk]; congr 1; omega
    have h3 : 2^k ≤ mx * 2^k := Nat.le_mul_of_pos_left _ hmx
    omega
  refine ⟨?_, hq64⟩
  have hdm := Nat.div_add_mod (mx * 2^k) my
  have hml := Nat.mod_lt (mx * 2^k) hmy
  rw [← hq, Nat.mul_comm my q] at hdm
  generalize hr : mx * 2^k % my = r at *
  generalize he : Ex + 4096 + 1075 - Ey - (k + 1) = e
  have hsum : (k + 1) + e + Ey = Ex + (4096 + 1075) := by omega
  have hkey : 2 * 2^k * (2^e * 2^Ey) = 2^Ex * (2^3021 * den * den) := by
    have h1 : 2^Ex * 2^(4096 + 1075) = 2^(k + 1 + e + Ey) := by rw [← Nat.pow_add, hsum]
    rw [← h5171, h1, Nat.pow_add, Nat.pow_add, Nat.pow_succ]
    generalize (2:Nat)^k = K
    generalize (2:Nat)^e = X
    generalize (2:Nat)^Ey = Y
    ac_rfl
  have hZ : 0 < 2^e * 2^Ey := Nat.mul_pos (Nat.two_pow_pos _) (Nat.two_pow_pos _)
  generalize hZd : 2^e * 2^Ey = Z at *
  have hL : mx * 2^Ex * (2^3021 * den) * den = (2 * (mx * 2^k)) * Z := by
    calc mx * 2^Ex * (2^3021 * den) * den = mx * (2^Ex * (2^3021 * den * den)) := by
          generalize den = D; generalize (2:Nat)^3021 = Q; ac_rfl
      _ = mx * (2 * 2^k * Z) := by rw [hkey]
      _ = (2 * (mx * 2^k)) * Z := by ac_rfl
  have hR : ∀ c, c * (2^e * (my * 2^Ey)) = (c * my) * Z := by
    intro c; rw [← hZd]; ac_rfl
  by_cases h0 : mx * 2^k - q * my = 0
  · rw [if_pos h0]
    apply rep_exact
    rw [hL, hR]
    have : mx * 2^k = q * my := by omega
    rw [this]; ac_rfl
  · rw [if_neg h0]
    have hr0 : 0 < r := by omega
    apply rep_sticky
    · omega
    · omega
    · rw [hL, hR]
      apply Nat.mul_lt_mul_of_pos_right _ hZ
      have : (2 * q + 1 - 1) * my = 2 * (q * my) := by
        have : 2 * q + 1 - 1 = 2 * q := by omega
        rw [this, Nat.mul_assoc]
      omega
    · rw [hL, hR]
      apply Nat.mul_lt_mul_of_pos_right _ hZ
      have : (2 * q + 1 + 1) * my = 2 * (q * my) + 2 * my := by
        have : 2 * q + 1 + 1 = 2 * (q + 1) := by omega
        rw [this, Nat.mul_assoc, Nat.add_mul, Nat.one_mul, Nat.mul_add]
      omega

theorem divF_eq (x y ex ey : Nat) :
    F64.divF x y ex ey =
      if F64.mant y ey = 0 then (if F64.mant x ex = 0 then FB.NAN else (sgn x + sgn y) % 2 * P63 + PINF)
      else if F64.mant x ex = 0 then (sgn x + sgn y) % 2 * P63
      else F64.rnd ((sgn x + sgn y) % 2 * P63)
        (if F64.mant x ex * 2^(65 + Nat.log2 (F64.mant y ey))
              - F64.mant x ex * 2^(65 + Nat.log2 (F64.mant y ey)) / F64.mant y ey * F64.mant y ey = 0
         then 2 * (F64.mant x ex * 2^(65 + Nat.log2 (F64.mant y ey)) / F64.mant y ey)
         else 2 * (F64.mant x ex * 2^(65 + Nat.log2 (F64.mant y ey)) / F64.mant y ey) + 1)
        (F64.exf ex + 4096 + 1075 - F64.exf ey - (65 + Nat.log2 (F64.mant y ey) + 1)) := by
  unfold F64.divF
  simp only [flet_eq, cond_beq, F64.lg_eq_log2, nshl, Nat.add_eq, Nat.sub_eq, Nat.mul_eq, nmod,
    Nat.succ_eq_add_one]
  rfl

theorem div_unfold (x y : Nat) (hx : F64.ebits x < 2047) (hy : F64.ebits y < 2047) :
    F64.div x y = F64.divF x y (F64.ebits x) (F64.ebits y) := by
  unfold F64.div
  simp only [flet_eq]
  rw [fin2_true x y hx hy, cond_true]

/-- the signed quotient `vx / vy` as a fraction with positive denominator -/
theorem sign_div (sx sy A C : Nat) (hsx : sx ≤ 1) (hsy : sy ≤ 1) (hC : 0 < C) :
    (if sv sy C < 0 then -sv sx A else sv sx A) = sv ((sx + sy) % 2) A := by
  unfold sv; repeat' split
  all_goals omega

/-- **division**: for finite `x`, `y` with `y ≠ ±0`, `F64.div x y` is the round-to-nearest-even image of
    the exact quotient `vx / vy` (written with the positive denominator `|vy|`), and its sign bit is the xor
    of the operands' sign bits (also for zero results). -/
theorem div_rne (x y : Nat) (vx vy : Int) (hx : x < 2^64) (hy : y < 2^64)
    (hvx : F64Val.ofBits x = .fin vx) (hvy : F64Val.ofBits y = .fin vy) (hy0 : vy ≠ 0) :
    IsRNE (if vy < 0 then -vx else vx) vy.natAbs (F64.div x y) ∧
    signBit (F64.div x y) = (signBit x + signBit y) % 2 := by
  obtain ⟨hex, dx⟩ := decode x vx hx hvx
  obtain ⟨hey, dy⟩ := decode y vy hy hvy
  have hmy0 : F64.mant y (F64.ebits y) ≠ 0 := fun h => hy0 (dy.zero_iff.mpr h)
  have hC : 0 < F64.mant y (F64.ebits y) * 2^F64.exf (F64.ebits y) := Nat.mul_pos (by omega) (Nat.two_pow_pos _)
  rw [← sgn_eq_signBit x hx, ← sgn_eq_signBit y hy, div_unfold x y hex hey, divF_eq, if_neg hmy0,
    dx.sv_eq, dy.sv_eq, sv_natAbs, sign_div _ _ _ _ dx.s_le dy.s_le hC]
  have hm := dy.m_lt; have hE := dx.E_ge; have hE' := dy.E_le
  generalize F64.exf (F64.ebits x) = Ex at *
  generalize F64.exf (F64.ebits y) = Ey at *
  generalize F64.mant x (F64.ebits x) = mx at *
  generalize F64.mant y (F64.ebits y) = my at *
  by_cases hm0 : mx = 0
  · have := rnd_isRNE ((sgn x + sgn y) % 2) 0 0 (mx * 2^Ex) _ (by omega) hC (Or.inl ⟨rfl, by rw [hm0, Nat.zero_mul]⟩)
    rw [rnd_zero] at this
    rw [if_pos hm0]; exact this
  · rw [if_neg hm0]
    obtain ⟨hrep, hq64⟩ := div_rep mx my Ex Ey _ _ (by omega) (by omega) hm hE hE' rfl rfl
    exact rnd_isRNE _ _ _ _ _ (by omega) hC (Or.inr ⟨by split <;> omega, hrep⟩)

theorem div_zero_zero (x y : Nat) (hx : x < 2^64) (hy : y < 2^64)
    (hvx : F64Val.ofBits x = .fin 0) (hvy : F64Val.ofBits y = .fin 0) :
    F64.div x y = FB.NAN ∧ F64Val.ofBits (F64.div x y) = .nan := by
  obtain ⟨hex, dx⟩ := decode x 0 hx hvx
  obtain ⟨hey, dy⟩ := decode y 0 hy hvy
  rw [div_unfold x y hex hey, divF_eq, if_pos (dy.zero_iff.mp rfl), if_pos (dx.zero_iff.mp rfl)]
  exact ⟨rfl, by decide +kernel⟩

end IEEE
