import Cvss.Proofs.Mono4Bound
/-!
# v4.0 monotonicity: the summary lists and the transition lists

A *summary* of an EQ group is what the score depends on: `(level, severity distance)` for EQ1, EQ2, EQ4,
`(EQ3, EQ6, distance)` for EQ3+EQ6, the level for EQ5. `S1 … S5` list all summaries with the distance within the
depth of the level (10, 3, 39, 15, 3 entries; their product is the 52,650 points of the Spec's `scoreOf`).
`tr1 … tr5` list, as pairs of indices into `S1 …`, every pair (summary before, summary after) that a single-metric
step to an at least as severe value can produce; `Proofs/Mono4Cover.lean` and `Proofs/Mono4Cover36.lean` prove that
the lists are complete.
-/
namespace Proofs.Mono4

def S1 : List (Nat × Nat) := [(0, 0), (1, 0), (1, 1), (1, 2), (1, 3), (2, 0), (2, 1), (2, 2), (2, 3), (2, 4)]
def S2 : List (Nat × Nat) := [(0, 0), (1, 0), (1, 1)]
def S36 : List (Nat × Nat × Nat) := [(0, 0, 0), (0, 0, 1), (0, 0, 2), (0, 0, 3), (0, 0, 4), (0, 0, 5), (0, 0, 6), (0, 1, 0), (0, 1, 1), (0, 1, 2), (0, 1, 3), (0, 1, 4), (0, 1, 5), (1, 0, 0), (1, 0, 1), (1, 0, 2), (1, 0, 3), (1, 0, 4), (1, 0, 5), (1, 0, 6), (1, 0, 7), (1, 1, 0), (1, 1, 1), (1, 1, 2), (1, 1, 3), (1, 1, 4), (1, 1, 5), (1, 1, 6), (1, 1, 7), (2, 1, 0), (2, 1, 1), (2, 1, 2), (2, 1, 3), (2, 1, 4), (2, 1, 5), (2, 1, 6), (2, 1, 7), (2, 1, 8), (2, 1, 9)]
def S4 : List (Nat × Nat) := [(0, 0), (0, 1), (0, 2), (0, 3), (0, 4), (0, 5), (1, 0), (1, 1), (1, 2), (1, 3), (1, 4), (2, 0), (2, 1), (2, 2), (2, 3)]
def S5 : List Nat := [0, 1, 2]

def tr1 : List (Nat × Nat) := [(0, 0), (1, 1), (1, 0), (2, 2), (2, 0), (2, 1), (3, 3), (3, 2), (3, 1), (4, 4), (4, 2), (4, 3), (5, 2), (5, 5), (6, 3), (6, 6), (6, 2), (6, 5), (7, 4), (7, 7), (7, 3), (7, 6), (8, 4), (8, 7), (8, 8), (5, 0), (5, 1), (6, 1), (7, 2), (7, 5), (8, 3), (8, 6), (9, 4), (9, 7), (9, 8), (9, 9)]
def tr2 : List (Nat × Nat) := [(0, 0), (1, 1), (1, 0), (2, 1), (2, 2)]
def tr36 : List (Nat × Nat) := [(0, 0), (1, 1), (1, 0), (2, 2), (2, 0), (2, 1), (3, 3), (3, 2), (3, 1), (4, 4), (4, 2), (4, 3), (7, 7), (7, 2), (8, 8), (8, 3), (8, 2), (8, 7), (9, 9), (9, 4), (9, 3), (9, 8), (10, 10), (10, 4), (10, 9), (5, 5), (5, 4), (5, 3), (9, 7), (10, 5), (10, 8), (11, 11), (11, 10), (11, 5), (11, 9), (6, 6), (6, 4), (6, 5), (11, 6), (12, 12), (12, 10), (12, 11), (12, 6), (13, 13), (13, 0), (14, 14), (14, 1), (14, 13), (15, 15), (15, 2), (15, 13), (15, 14), (16, 16), (16, 3), (16, 15), (16, 14), (17, 17), (17, 4), (17, 15), (17, 16), (21, 21), (21, 2), (21, 14), (22, 22), (22, 3), (22, 15), (22, 14), (22, 21), (22, 7), (23, 23), (23, 8), (23, 16), (23, 22), (23, 15), (23, 21), (24, 24), (24, 9), (24, 17), (24, 22), (24, 23), (24, 16), (23, 4), (25, 25), (25, 10), (25, 17), (25, 24), (25, 23), (18, 18), (18, 5), (18, 17), (18, 16), (25, 18), (24, 5), (26, 26), (26, 11), (26, 25), (26, 18), (26, 24), (19, 19), (19, 6), (19, 17), (19, 18), (26, 19), (25, 6), (27, 27), (27, 12), (27, 25), (27, 26), (27, 19), (14, 0), (15, 1), (16, 2), (17, 3), (18, 4), (22, 2), (23, 3), (23, 7), (24, 8), (25, 9), (24, 4), (26, 10), (19, 5), (25, 5), (27, 11), (20, 20), (20, 6), (20, 19), (20, 18), (27, 20), (26, 6), (28, 28), (28, 12), (28, 27), (28, 26), (28, 20), (29, 14), (29, 29), (30, 15), (30, 30), (30, 21), (30, 29), (31, 16), (31, 31), (31, 22), (31, 29), (31, 30), (32, 17), (32, 32), (32, 23), (32, 31), (32, 30), (33, 18), (33, 33), (33, 24), (33, 31), (33, 32), (34, 25), (34, 34), (34, 33), (34, 32), (35, 26), (35, 35), (35, 33), (35, 34), (30, 14), (31, 21), (32, 22), (31, 15), (33, 23), (32, 16), (34, 19), (34, 24), (33, 17), (35, 25), (34, 18), (36, 27), (36, 36), (36, 26), (36, 35), (36, 34), (35, 20), (35, 19), (37, 28), (37, 37), (37, 27), (37, 36), (37, 35), (36, 20), (38, 28), (38, 37), (38, 38), (38, 36)]
def tr4 : List (Nat × Nat) := [(0, 0), (1, 1), (1, 0), (2, 2), (2, 0), (2, 1), (3, 3), (3, 0), (3, 1), (3, 2), (6, 6), (6, 1), (7, 7), (7, 2), (7, 1), (7, 6), (8, 8), (8, 3), (8, 1), (8, 6), (8, 7), (8, 2), (9, 9), (9, 3), (9, 8), (9, 2), (9, 7), (10, 10), (10, 3), (10, 8), (10, 9), (4, 3), (4, 4), (4, 1), (4, 2), (9, 4), (11, 8), (11, 11), (11, 3), (12, 9), (12, 12), (12, 4), (12, 3), (12, 8), (12, 11), (13, 10), (13, 13), (13, 4), (13, 9), (13, 12), (5, 3), (5, 4), (5, 5), (5, 2), (10, 5), (13, 5), (14, 10), (14, 13), (14, 14), (14, 5)]
/-- EQ5: E:U → E:P → E:A -/
def tr5 : List (Nat × Nat) := [(0, 0), (1, 1), (1, 0), (2, 2), (2, 1), (2, 0)]

/-- the Spec's score (tenths) as a function of the five summaries, in primitive form -/
def scoreSum (s1 s2 : Nat × Nat) (s36 : Nat × Nat × Nat) (s4 : Nat × Nat) (q5 : Nat) : Nat :=
  scoreP s1.1 s2.1 s36.1 s4.1 q5 s36.2.1 s1.2 s2.2 s36.2.2 s4.2

theorem scoreSum_lt (s1 s2 : Nat × Nat) (s36 : Nat × Nat × Nat) (s4 : Nat × Nat) (q5 : Nat) : scoreSum s1 s2 s36 s4 q5 < 128 :=
  scoreP_lt ..

theorem S_lengths : S1.length = 10 ∧ S2.length = 3 ∧ S36.length = 39 ∧ S4.length = 15 ∧ S5.length = 3 := by decide

theorem all_lt {tr : List (Nat × Nat)} {n : Nat} (h : (tr.all fun t => t.1 < n && t.2 < n) = true) :
    ∀ t ∈ tr, t.1 < n ∧ t.2 < n := fun t ht => by simpa using List.all_eq_true.mp h t ht

theorem tr_bounds : (∀ t ∈ tr1, t.1 < 10 ∧ t.2 < 10) ∧ (∀ t ∈ tr2, t.1 < 3 ∧ t.2 < 3) ∧
    (∀ t ∈ tr36, t.1 < 39 ∧ t.2 < 39) ∧ (∀ t ∈ tr4, t.1 < 15 ∧ t.2 < 15) ∧ (∀ t ∈ tr5, t.1 < 3 ∧ t.2 < 3) :=
  ⟨all_lt (by decide), all_lt (by decide), all_lt (by decide), all_lt (by decide), all_lt (by decide)⟩

end Proofs.Mono4
