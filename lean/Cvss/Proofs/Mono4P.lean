import Cvss.Base.F64
/-!
# v4.0 monotonicity: a kernel-fast reformulation of the Spec's `scoreOf`

`scoreP q1 … q6 d1 d2 d36 d4` is `Spec.V4.scoreOf (q1,…,q6) d1 d2 d36 d4 0` written with primitive `Nat`
operations only (explicit `Nat.add/mul/div/…`, `cond`, forcing `flet`), one closed formula for the mean
`Σ aᵢ·dᵢ/Dᵢ / L` over the common denominator `D₁D₂D₃₆D₄·L`. The MacroVector lookup is a packed literal
(7 bits per entry, index `((((q1·2+q2)·3+q3)·3+q4)·3+q5)·2+q6`) holding the table of
`spec-data/v40_lookup_claircore.txt`. Nothing is trusted: the v4.0 tail tables (`Proofs/Score4Tail0*.lean`,
`Score4.point_all`) check, by kernel evaluation, that `scoreP` agrees with the readable Spec on every MacroVector and
every distance tuple within the depths (52,650 points).
-/
namespace Proofs.Mono4
open F64

def PACK : Nat := 425500159143050967822440313293086409869493988050589427823204040257621824560856214391948694415510361828595612445789340155928852361888438059303741032935855040953124693564351660420441231841827887769556376410187174530765280648492637417628812369518019970255505923638678077681643464360439328078640709969361719151378938785409954960735580923701285582827052001760846207976796508204735773673346239524015085730480904141349502484102673384974514687863525698184238383879225596794295130751562596374766845439346993000202289855352297351209260625717383644345149280425851804464746853923673486680824515806119322164807241888999555139982103940131215093361016564888602702998844285688195551104556290585060

def lookupK (q1 q2 q3 q4 q5 q6 : Nat) : Nat :=
  Nat.mod (Nat.shiftRight PACK (Nat.mul 7 (Nat.add (Nat.mul (Nat.add (Nat.mul (Nat.add (Nat.mul (Nat.add (Nat.mul (Nat.add (Nat.mul q1 2) q2) 3) q3) 3) q4) 3) q5) 2) q6))) 128

def D1 (q : Nat) : Nat := cond (Nat.beq q 0) 1 (cond (Nat.beq q 1) 4 5)
def D2 (q : Nat) : Nat := cond (Nat.beq q 0) 1 2
def D36 (q3 q6 : Nat) : Nat := cond (Nat.beq q3 0) (cond (Nat.beq q6 0) 7 6) (cond (Nat.beq q3 1) 8 10)
def D4 (q : Nat) : Nat := cond (Nat.beq q 0) 6 (cond (Nat.beq q 1) 5 4)

def scoreP (q1 q2 q3 q4 q5 q6 d1 d2 d36 d4 : Nat) : Nat :=
  flet (lookupK q1 q2 q3 q4 q5 q6) fun v =>
  flet (cond (Nat.blt q1 2) (Nat.sub v (lookupK (Nat.succ q1) q2 q3 q4 q5 q6)) 0) fun a1 =>
  flet (cond (Nat.blt q2 1) (Nat.sub v (lookupK q1 (Nat.succ q2) q3 q4 q5 q6)) 0) fun a2 =>
  flet (cond (Nat.blt q4 2) (Nat.sub v (lookupK q1 q2 q3 (Nat.succ q4) q5 q6)) 0) fun a4 =>
  flet (cond (Nat.beq q3 2) 0
        (cond (Nat.beq q3 0 && Nat.beq q6 0)
          (flet (lookupK q1 q2 1 q4 q5 0) fun x => flet (lookupK q1 q2 0 q4 q5 1) fun y => Nat.sub v (cond (Nat.ble x y) y x))
          (cond (Nat.beq q6 0) (Nat.sub v (lookupK q1 q2 q3 q4 q5 1)) (Nat.sub v (lookupK q1 q2 (Nat.succ q3) q4 q5 q6))))) fun a36 =>
  flet (Nat.add (Nat.add (Nat.add (Nat.add (cond (Nat.blt q1 2) 1 0) (cond (Nat.blt q2 1) 1 0)) (cond (Nat.beq q3 2) 0 1))
        (cond (Nat.blt q4 2) 1 0)) (cond (Nat.blt q5 2) 1 0)) fun L =>
  cond (Nat.beq L 0) v
  (flet (D1 q1) fun e1 => flet (D2 q2) fun e2 => flet (D36 q3 q6) fun e36 => flet (D4 q4) fun e4 =>
   flet (Nat.add (Nat.add (Nat.add (Nat.mul (Nat.mul a1 d1) (Nat.mul e2 (Nat.mul e36 e4))) (Nat.mul (Nat.mul a2 d2) (Nat.mul e1 (Nat.mul e36 e4))))
          (Nat.mul (Nat.mul a36 d36) (Nat.mul e1 (Nat.mul e2 e4)))) (Nat.mul (Nat.mul a4 d4) (Nat.mul e1 (Nat.mul e2 e36)))) fun num =>
   flet (Nat.mul (Nat.mul (Nat.mul e1 e2) (Nat.mul e36 e4)) L) fun den =>
   Nat.div (Nat.add (Nat.mul 2 (Nat.sub (Nat.mul v den) num)) den) (Nat.mul 2 den))

end Proofs.Mono4
