import Cvss.Base.F64
/-!
# Tables of small numbers in one `Nat` (so that the kernel computes each entry exactly once)

`packB (8·m) l` lays the numbers of `l` side by side, `m` bytes each; a forcing `flet` turns the packed number into a
literal. `lane X L` is byte `L` of `X`; shifts, `&&&`, `^^^` and (without overflow) `+` act byte by byte, which gives
two ways of reading a table: one entry (`digit`), or one comparison `≤` in many bytes at once (`cmpAll`, `chkG`).
`pairBits` turns a list of index pairs into one number, so that membership of a pair is a bit test.
-/
namespace Proofs.Mono4

theorem flet_eq {α : Sort u} (x : Nat) (k : Nat → α) : F64.flet x k = k x := by cases x <;> rfl

theorem getD_idxOf {α : Type} [BEq α] [LawfulBEq α] {l : List α} {x d : α} (h : x ∈ l) : l.getD (l.idxOf x) d = x := by
  have h := List.idxOf_lt_length_of_mem h
  rw [List.getD_eq_getElem?_getD, List.getElem?_eq_getElem h, Option.getD_some]
  exact List.getElem_idxOf h

theorem mem_getD {α : Type} {S : List α} {s : α} (d : α) (h : s ∈ S) : ∃ i, i < S.length ∧ S.getD i d = s := by
  obtain ⟨i, hi, rfl⟩ := List.mem_iff_getElem.mp h
  exact ⟨i, hi, by simp [List.getD, List.getElem?_eq_getElem hi]⟩

/-- `s → s'` is one of the pairs of `tr`, read as indices into `S` -/
def Listed {α : Type} (S : List α) (d : α) (tr : List (Nat × Nat)) (s s' : α) : Prop :=
  ∃ t ∈ tr, S.getD t.1 d = s ∧ S.getD t.2 d = s'

def lane (X L : Nat) : Nat := X / 256 ^ L % 256

theorem lane_zero_left (L : Nat) : lane 0 L = 0 := by simp [lane]

theorem lane_div (X k L : Nat) : lane (X / 256 ^ k) L = lane X (k + L) := by
  unfold lane
  rw [Nat.div_div_eq_div_mul, ← Nat.pow_add]

theorem lane_shiftRight (X k L : Nat) : lane (X >>> (8 * k)) L = lane X (k + L) := by
  rw [Nat.shiftRight_eq_div_pow, Nat.pow_mul, ← lane_div]

theorem lane_and (X Y L : Nat) : lane (X &&& Y) L = lane X L &&& lane Y L := by
  unfold lane
  rw [show (256 : Nat) ^ L = 2 ^ (8 * L) by rw [Nat.pow_mul], Nat.and_div_two_pow]
  exact Nat.and_mod_two_pow (n := 8)

theorem lane_xor (X Y L : Nat) : lane (X ^^^ Y) L = lane X L ^^^ lane Y L := by
  unfold lane
  rw [show (256 : Nat) ^ L = 2 ^ (8 * L) by rw [Nat.pow_mul], ← Nat.shiftRight_eq_div_pow,
    ← Nat.shiftRight_eq_div_pow, ← Nat.shiftRight_eq_div_pow, Nat.shiftRight_xor_distrib]
  exact Nat.xor_mod_two_pow (n := 8)

theorem lane_add {X Y : Nat} (h : ∀ L, lane X L + lane Y L < 256) (L : Nat) :
    lane (X + Y) L = lane X L + lane Y L := by
  induction L generalizing X Y with
  | zero =>
    have := h 0
    simp only [lane, Nat.pow_zero, Nat.div_one] at this ⊢
    omega
  | succ L ih =>
    have h0 := h 0
    simp only [lane, Nat.pow_zero, Nat.div_one] at h0
    have e : ∀ Z L, lane Z (L + 1) = lane (Z / 256) L := fun Z L => by
      rw [Nat.add_comm, ← lane_div, Nat.pow_one]
    rw [e, e, e, show (X + Y) / 256 = X / 256 + Y / 256 by omega]
    exact ih fun L => by rw [← e, ← e]; exact h (L + 1)

/-- a list of numbers below `2 ^ w`, `w` bits each -/
def packB (w : Nat) : List Nat → Nat
  | [] => 0
  | x :: r => Nat.add x (Nat.shiftLeft (packB w r) w)

theorem packB_cons (m x : Nat) (l : List Nat) : packB (8 * m) (x :: l) = x + 256 ^ m * packB (8 * m) l := by
  show x + packB (8 * m) l <<< (8 * m) = _
  rw [Nat.shiftLeft_eq, Nat.pow_mul, Nat.mul_comm]

theorem packB_lt (m : Nat) (l : List Nat) (hl : ∀ x ∈ l, x < 256 ^ m) : packB (8 * m) l < 256 ^ (m * l.length) := by
  induction l with
  | nil => exact Nat.pow_pos (by decide)
  | cons x l ih =>
    have hx := hl x (List.mem_cons_self ..)
    have := ih fun y hy => hl y (List.mem_cons_of_mem _ hy)
    rw [packB_cons, List.length_cons, Nat.mul_succ, Nat.pow_add]
    calc x + 256 ^ m * packB (8 * m) l < 256 ^ m + 256 ^ m * packB (8 * m) l := Nat.add_lt_add_right hx _
      _ = 256 ^ m * (packB (8 * m) l + 1) := by rw [Nat.mul_add, Nat.mul_one, Nat.add_comm]
      _ ≤ 256 ^ m * 256 ^ (m * l.length) := Nat.mul_le_mul_left _ this
      _ = _ := Nat.mul_comm ..

/-- byte `r` of block `i` -/
theorem lane_packB {m : Nat} (l : List Nat) (hl : ∀ x ∈ l, x < 256 ^ m) (i : Nat) {r : Nat} (hr : r < m) :
    lane (packB (8 * m) l) (m * i + r) = lane (l.getD i 0) r := by
  induction l generalizing i with
  | nil => simp [packB, lane_zero_left]
  | cons x l ih =>
    have hx := hl x (List.mem_cons_self ..)
    rw [packB_cons]
    cases i with
    | zero =>
      rw [Nat.mul_zero, Nat.zero_add, List.getD_cons_zero]
      unfold lane
      obtain ⟨k, rfl⟩ : ∃ k, m = r + (k + 1) := ⟨m - r - 1, by omega⟩
      rw [Nat.pow_add, Nat.mul_assoc, Nat.add_mul_div_left _ _ (Nat.pow_pos (by decide)), Nat.pow_succ,
        Nat.mul_comm (256 ^ k), Nat.mul_assoc, Nat.add_mul_mod_self_left]
    | succ i =>
      rw [List.getD_cons_succ, Nat.mul_succ, Nat.add_right_comm, Nat.add_comm (m * i + r), ← lane_div,
        Nat.add_mul_div_left _ _ (Nat.pow_pos (by decide)), Nat.div_eq_of_lt hx, Nat.zero_add]
      exact ih (fun y hy => hl y (List.mem_cons_of_mem _ hy)) i

theorem lane_packB_le {m : Nat} (hm : 0 < m) (l : List Nat) (hl : ∀ x ∈ l, x < 256 ^ m) {c : Nat}
    (h : ∀ x ∈ l, ∀ r, lane x r ≤ c) (L : Nat) : lane (packB (8 * m) l) L ≤ c := by
  rw [← Nat.div_add_mod L m, lane_packB l hl _ (Nat.mod_lt _ hm), List.getD_eq_getElem?_getD]
  cases hi : l[L / m]? with
  | none => rw [Option.getD_none, lane_zero_left]; exact Nat.zero_le _
  | some x => exact h x (List.mem_of_getElem? hi) _

theorem lane_of_lt {x : Nat} (hx : x < 256) : lane x 0 = x := by
  unfold lane
  rw [Nat.pow_zero, Nat.div_one]
  exact Nat.mod_eq_of_lt hx

theorem packB_map_lt {α : Type} (m : Nat) {n : Nat} (S : List α) (g : α → Nat) (hg : ∀ s, g s < 256 ^ m)
    (hS : m * S.length = n) : packB (8 * m) (S.map g) < 256 ^ n := by
  rw [← hS, ← List.length_map g]
  refine packB_lt m _ fun x hx => ?_
  obtain ⟨s, _, rfl⟩ := List.mem_map.mp hx
  exact hg s

theorem lane_packB_map {α : Type} {m : Nat} (S : List α) (d : α) (g : α → Nat) (hg : ∀ s, g s < 256 ^ m) {i : Nat}
    (hi : i < S.length) {r : Nat} (hr : r < m) :
    lane (packB (8 * m) (S.map g)) (m * i + r) = lane (g (S.getD i d)) r := by
  rw [lane_packB _ (fun x hx => by obtain ⟨s, _, rfl⟩ := List.mem_map.mp hx; exact hg s) i hr]
  simp [List.getD, List.getElem?_map, List.getElem?_eq_getElem hi]

theorem lane_packB_map_le {α : Type} {m : Nat} (hm : 0 < m) (S : List α) (g : α → Nat) (hg : ∀ s, g s < 256 ^ m)
    {c : Nat} (h : ∀ s r, lane (g s) r ≤ c) (L : Nat) : lane (packB (8 * m) (S.map g)) L ≤ c :=
  lane_packB_le hm _ (fun x hx => by obtain ⟨s, _, rfl⟩ := List.mem_map.mp hx; exact hg s)
    (fun x hx r => by obtain ⟨s, _, rfl⟩ := List.mem_map.mp hx; exact h s r) L

/-- reading one byte, in primitive form -/
def digit (p i : Nat) : Nat := Nat.mod (Nat.shiftRight p (Nat.mul 8 i)) 256

theorem digit_eq_lane (p i : Nat) : digit p i = lane p i := by
  show (p >>> (8 * i)) % 256 = _
  rw [Nat.shiftRight_eq_div_pow, Nat.pow_mul]
  rfl

/-- the byte `x` in the first `s` bytes of each of `hi` blocks of `P` bytes, 0 elsewhere -/
def lanes (x s hi P : Nat) : Nat := packB (8 * P) (List.replicate hi (packB (8 * 1) (List.replicate s x)))

theorem lane_lanes {x s hi P : Nat} (hx : x < 256) (hs : s ≤ P) {c r : Nat} (hc : c < hi) (hr : r < s) :
    lane (lanes x s hi P) (P * c + r) = x := by
  have hb : packB (8 * 1) (List.replicate s x) < 256 ^ P :=
    Nat.lt_of_lt_of_le (packB_lt 1 _ fun y hy => by rw [List.eq_of_mem_replicate hy]; exact hx)
      (by rw [Nat.one_mul, List.length_replicate]; exact Nat.pow_le_pow_right (by decide) hs)
  unfold lanes
  rw [lane_packB _ (fun y hy => by rw [List.eq_of_mem_replicate hy]; exact hb) _ (Nat.lt_of_lt_of_le hr hs),
    List.getD_eq_getElem?_getD, List.getElem?_replicate, if_pos hc, Option.getD_some]
  have := lane_packB (m := 1) (List.replicate s x) (fun y hy => by rw [List.eq_of_mem_replicate hy]; exact hx) r
    (r := 0) (by decide)
  rw [Nat.one_mul, Nat.add_zero] at this
  rw [this, List.getD_eq_getElem?_getD, List.getElem?_replicate, if_pos hr, Option.getD_some]
  exact lane_of_lt hx

theorem lane_lanes_le {x s hi P : Nat} (hx : x < 256) (hs : s ≤ P) (hP : 0 < P) (L : Nat) :
    lane (lanes x s hi P) L ≤ x := by
  have h1 : ∀ y ∈ List.replicate s x, y < 256 ^ 1 := fun y hy => by rw [List.eq_of_mem_replicate hy]; exact hx
  refine lane_packB_le hP _ (fun y hy => ?_) (fun y hy r => ?_) L <;> rw [List.eq_of_mem_replicate hy]
  · exact Nat.lt_of_lt_of_le (packB_lt 1 _ h1)
      (by rw [Nat.one_mul, List.length_replicate]; exact Nat.pow_le_pow_right (by decide) hs)
  · refine lane_packB_le (by decide) _ h1 (fun z hz r => ?_) r
    rw [List.eq_of_mem_replicate hz]
    exact Nat.le_trans (Nat.mod_le _ _) (Nat.div_le_self _ _)

/-- `a ≤ b` in all bytes marked `128` in `h` at once: byte by byte `b + (127 - a) + 1` has its top bit set iff `a ≤ b`
    (`m7`: 127 in every byte, `e`: 1 in every byte; bytes of `a`, `b` below 128, so no byte overflows) -/
def cmpAll (m7 e h a b : Nat) : Bool := Nat.beq (Nat.land (Nat.add (Nat.add b (Nat.xor a m7)) e) h) h

theorem cmpAll_elim {m7 e h a b : Nat} (ha : ∀ L, lane a L ≤ 127) (hb : ∀ L, lane b L ≤ 127)
    (hm : ∀ L, lane m7 L ≤ 127) (he : ∀ L, lane e L ≤ 1) (hc : cmpAll m7 e h a b = true) {L : Nat}
    (h7 : lane m7 L = 127) (h1 : lane e L = 1) (hh : lane h L = 128) : lane a L ≤ lane b L := by
  have hx : ∀ L, lane (a ^^^ m7) L < 128 := fun L => by
    rw [lane_xor]
    exact Nat.xor_lt_two_pow (n := 7) (Nat.lt_succ_of_le (ha L)) (Nat.lt_succ_of_le (hm L))
  have e1 : ∀ L, lane (b + (a ^^^ m7)) L = lane b L + lane (a ^^^ m7) L :=
    lane_add fun L => by have := hb L; have := hx L; omega
  have e2 : lane (b + (a ^^^ m7) + e) L = lane b L + lane (a ^^^ m7) L + lane e L := by
    rw [lane_add (fun L => by rw [e1]; have := hb L; have := hx L; have := he L; omega), e1]
  have := congrArg (lane · L) (Nat.eq_of_beq_eq_true hc)
  rw [show Nat.land (Nat.add (Nat.add b (Nat.xor a m7)) e) h = (b + (a ^^^ m7) + e) &&& h from rfl, lane_and, e2, hh,
    lane_xor, h7, h1] at this
  have hle : 128 ≤ lane b L + (lane a L ^^^ 127) + 1 := by
    have := Nat.and_le_left (n := lane b L + (lane a L ^^^ 127) + 1) (m := 128); omega
  have hx7 : ∀ n, n < 128 → n ^^^ 127 = 127 - n := by decide
  rw [hx7 _ (Nat.lt_succ_of_le (ha L))] at hle
  have := ha L
  omega

/-- In the table `T` the varied index has stride `s` bytes and `n` values, inside `hi` blocks of `s·n` bytes: every pair of
    `tr`, in all contexts at once. -/
def chkG (T m7 e s n hi : Nat) (tr : List (Nat × Nat)) : Bool :=
  F64.flet (lanes 128 s hi (Nat.mul s n)) fun h => tr.all fun t =>
    cmpAll m7 e h (Nat.shiftRight T (Nat.mul 8 (Nat.mul s t.1))) (Nat.shiftRight T (Nat.mul 8 (Nat.mul s t.2)))

theorem chkG_elim {T m7 e s n hi N : Nat} {tr : List (Nat × Nat)} (hT : ∀ L, lane T L ≤ 127)
    (hm : ∀ L, lane m7 L ≤ 127) (he : ∀ L, lane e L ≤ 1) (h7 : ∀ L, L < N → lane m7 L = 127)
    (h1 : ∀ L, L < N → lane e L = 1) (hn : 0 < n) (h : chkG T m7 e s n hi tr = true) {t : Nat × Nat} (ht : t ∈ tr)
    {c r : Nat} (hc : c < hi) (hr : r < s) (hN : s * n * c + r < N) :
    lane T (s * t.1 + (s * n * c + r)) ≤ lane T (s * t.2 + (s * n * c + r)) := by
  unfold chkG at h
  rw [flet_eq] at h
  have := cmpAll_elim (a := T >>> (8 * (s * t.1))) (b := T >>> (8 * (s * t.2)))
    (fun L => by rw [lane_shiftRight]; exact hT _) (fun L => by rw [lane_shiftRight]; exact hT _) hm he
    (List.all_eq_true.mp h t ht) (h7 _ hN) (h1 _ hN)
    (lane_lanes (by decide) (Nat.le_mul_of_pos_right s hn) hc hr)
  rwa [lane_shiftRight, lane_shiftRight] at this

/-- a list of pairs `(a, b)` with `b < 64` as a set of bits: bit `64·a + b` -/
def pairBits : List (Nat × Nat) → Nat
  | [] => 0
  | t :: r => Nat.lor (Nat.shiftLeft 1 (Nat.add (Nat.mul 64 t.1) t.2)) (pairBits r)

def hasPair (m a b : Nat) : Bool := Nat.beq (Nat.land 1 (Nat.shiftRight m (Nat.add (Nat.mul 64 a) b))) 1

theorem hasPair_elim {tr : List (Nat × Nat)} (hb : ∀ t ∈ tr, t.2 < 64) {a b : Nat} (hb' : b < 64)
    (h : hasPair (pairBits tr) a b = true) : (a, b) ∈ tr := by
  replace h : (pairBits tr).testBit (64 * a + b) = true := by
    have := Nat.eq_of_beq_eq_true h
    show (1 &&& pairBits tr >>> (64 * a + b) != 0) = true
    simp [show 1 &&& pairBits tr >>> (64 * a + b) = 1 from this]
  induction tr with
  | nil => simp [pairBits] at h
  | cons t r ih =>
    have e : pairBits (t :: r) = 1 <<< (64 * t.1 + t.2) ||| pairBits r := rfl
    rw [e, Nat.testBit_or, Nat.one_shiftLeft, Nat.testBit_two_pow, Bool.or_eq_true, decide_eq_true_eq] at h
    have := hb t (List.mem_cons_self ..)
    rcases h with h | h
    · have : t = (a, b) := Prod.ext (by simp only; omega) (by simp only; omega)
      rw [this]; exact List.mem_cons_self ..
    · exact List.mem_cons_of_mem _ (ih (fun t ht => hb t (List.mem_cons_of_mem _ ht)) h)

end Proofs.Mono4
