import Cvss.Proofs.Parse2Loop
import Cvss.Proofs.Table
/-!
# v2.0 parser proofs: closed facts about the tables (all by evaluation)

Everything here is a closed term about the Spec metric table `Spec.V2.metrics`, the Spec `shapes` and the
**regenerated** `GenV20.tbl_order`; it is re-evaluated on every check, so a mutated table makes these fail.
-/
namespace Proofs.Parse2
open Model (Bytes Res cutColon splitN idx2 eValue eOrder eTooShort)
open Spec (joinSlash render Pair abvs legal isMetric findMetric Metric valueOf)
open Spec.V2 (metrics base temporal environmental shapes)

abbrev tbl : List (List Bytes) := GenV20.tbl_order

theorem tbl_eq : GenV20.tbl_order = [abvs base, abvs temporal, abvs environmental] := by decide

theorem tbl_flatten : GenV20.tbl_order.flatten = abvs metrics := by simp [tbl_eq, abvs, metrics]

theorem good : Table.GoodTable metrics := ⟨by decide, by decide, by decide⟩

theorem base_mandatory : (base.all fun m => m.mandatory) = true := by decide
theorem temporal_optional : (temporal.all fun m => m.mandatory) = false := by decide
theorem environmental_optional : (environmental.all fun m => m.mandatory) = false := by decide

theorem opt_undef : ∀ m ∈ temporal ++ environmental, m.undef = some (Spec.b "ND") := by decide

theorem base_sub : ∀ m ∈ base, m ∈ metrics := fun _ hm => List.mem_append_left _ (List.mem_append_left _ hm)
theorem temporal_sub : ∀ m ∈ temporal, m ∈ metrics := fun _ hm => List.mem_append_left _ (List.mem_append_right _ hm)
theorem environmental_sub : ∀ m ∈ environmental, m ∈ metrics := fun _ hm => List.mem_append_right _ hm

theorem empty_not_metric : ([] : Bytes) ∉ abvs metrics := by decide

theorem shapes_len : ∀ sh ∈ shapes, sh ≠ [] ∧ sh.length ≤ 14 := by decide

theorem shapes_nodup : ∀ sh ∈ shapes, sh.Nodup := by decide

theorem shapes_sub : ∀ sh ∈ shapes, ∀ a ∈ sh, a ∈ abvs metrics := by decide

theorem shapes_head : ∀ sh ∈ shapes, sh.head? = some [65, 86] := by decide

theorem shapes_mandatory : ∀ sh ∈ shapes, ∀ m ∈ metrics, m.mandatory = true → m.abv ∈ sh := by decide

theorem shapes_cases : ∀ nT ∈ [[], abvs temporal], ∀ nE ∈ [[], abvs environmental],
    abvs base ++ nT ++ nE ∈ shapes := by decide

theorem abvs_metrics_shape : abvs metrics ∈ shapes := by simp [shapes, abvs, metrics]

theorem shapes_lengths : ∀ sh ∈ shapes, sh.length ∈ Spec.V2.completeLengths := by decide

/-- the state reached from `(0,0)` (`(4,0)` if the run fails) -/
def after (names : List Bytes) : Nat × Nat :=
  match nrun tbl names 0 0 with
  | .ok st => st
  | _ => (4, 0)

theorem F_run : ∀ sh ∈ shapes, ∀ k < sh.length + 1, nrun tbl (sh.take k) 0 0 = .ok (after (sh.take k)) := by
  decide +kernel

theorem F_complete : ∀ sh ∈ shapes, (after sh).2 = 0 := by decide +kernel

theorem F_match : ∀ sh ∈ shapes, ∀ k < sh.length,
    (nstep tbl (after (sh.take k)).1 (after (sh.take k)).2 (sh.getD k [])).isOk = true := by decide +kernel

/-- the language of the automaton from state `(g,i)`, for lists of length ≤ fuel -/
def lang (order : List (List Bytes)) : Nat → Nat → Nat → List (List Bytes)
  | 0, _, i => if i = 0 then [[]] else []
  | fuel + 1, g, i =>
    (if i = 0 then [[]] else []) ++
      order.flatten.flatMap (fun a =>
        match nstep order g i a with
        | .ok (g', i') => (lang order fuel g' i').map (a :: ·)
        | _ => [])

theorem nrun_ok_lang (order : List (List Bytes)) (names : List Bytes) (fuel g i g' : Nat)
    (h : nrun order names g i = .ok (g', 0)) (hlen : names.length ≤ fuel) :
    names ∈ lang order fuel g i := by
  induction names generalizing fuel g i with
  | nil =>
    simp only [nrun, Res.ok.injEq, Prod.mk.injEq] at h
    cases fuel <;> simp [lang, h.2]
  | cons a rest ih =>
    cases fuel with
    | zero => simp at hlen
    | succ fuel =>
      simp only [nrun] at h
      cases hn : nstep order g i a with
      | ok st =>
        rw [hn] at h
        have hmem := nstep_ok_mem hn
        have := ih fuel st.1 st.2 h (by simpa using hlen)
        simp only [lang, List.mem_append, List.mem_flatMap]
        refine Or.inr ⟨a, hmem, ?_⟩
        rw [hn]
        exact List.mem_map.mpr ⟨rest, this, rfl⟩
      | err e => rw [hn] at h; cases h
      | panic => rw [hn] at h; cases h

/-- what the automaton accepts (within the 14 parts `split` can produce) is a shape -/
theorem lang_shapes : ∀ l ∈ lang tbl 14 0 0, l ≠ [] → l ∈ shapes := by decide +kernel

theorem nrun_ok_shapes (names : List Bytes) (g' : Nat) (h : nrun tbl names 0 0 = .ok (g', 0))
    (hlen : names.length ≤ 14) (hne : names ≠ []) : names ∈ shapes :=
  lang_shapes names (nrun_ok_lang tbl names 14 0 0 g' h hlen) hne

/-! ## facts for the error contract (C18) -/

def endsEnv (names : List Bytes) : Bool := (abvs environmental).isSuffixOf names

def good3 (o : Option (Nat × Go.Err)) : Bool :=
  match o with
  | some (p, e) => decide (p ≤ 13) && decide (e = eOrder)
  | none => false

theorem good3_spec {o : Option (Nat × Go.Err)} (h : good3 o = true) : ∃ p, p ≤ 13 ∧ o = some (p, eOrder) := by
  unfold good3 at h
  split at h
  · rename_i p e
    simp only [Bool.and_eq_true, decide_eq_true_eq] at h
    exact ⟨p, h.1, by rw [h.2]⟩
  · cases h

/-- an element taken out and put back at another position: refused by the name automaton, always with
    `ErrInvalidMetricOrder` and within the first 14 parts (no exception: the result has the length of the
    shape, so nothing ever lands *after* a complete environmental group) -/
theorem F_move : ∀ sh ∈ shapes, ∀ i < sh.length, ∀ j < sh.length, j ≠ i →
    good3 (nfail tbl (Spec.insertAt (sh.eraseIdx i) j (sh.getD i [])) 0 0) = true := by decide +kernel

/-- positions at which an inserted element lands after a complete environmental group -/
def afterEnvPos (names : List Bytes) (i j : Nat) : Bool :=
  endsEnv names && (j == names.length || (i + 1 == names.length && j + 1 == names.length))

theorem F_rep : ∀ sh ∈ shapes, ∀ i < sh.length, ∀ j < sh.length + 1, afterEnvPos sh i j = false →
    good3 (nfail tbl (Spec.insertAt sh j (sh.getD i [])) 0 0) = true := by decide +kernel

theorem F_unk : ∀ sh ∈ shapes, ∀ j < sh.length + 1, (endsEnv sh && j == sh.length) = false →
    j ≤ 13 ∧ nstep tbl (after (sh.take j)).1 (after (sh.take j)).2 [] = .err eOrder := by decide +kernel

/-- a proper non-empty prefix of a shape that is not itself a shape ends inside a group -/
theorem F_trunc_exact : ∀ sh ∈ shapes, ∀ n < sh.length, 1 ≤ n → sh.take n ∉ shapes →
    (after (sh.take n)).2 ≠ 0 := by decide +kernel

theorem F_env : ∀ sh ∈ shapes, endsEnv sh = true →
    (after sh).1 = 3 ∧ (sh.length = 11 ∨ sh.length = 14) := by decide +kernel

theorem F_env_last : ∀ sh ∈ shapes, endsEnv sh = true →
    sh.take (sh.length - 1) ++ [sh.getD (sh.length - 1) []] = sh := by decide +kernel

end Proofs.Parse2
