import Cvss.Proofs.Parse2Err
import Cvss.Proofs.Parse2Read
/-!
# C18 (v2.0): the documented error values — partial, with the known finding F3 characterised exactly

Full statement (FALSE, see `Cvss/Findings/C18v2.lean` for the negation on a concrete witness):

    ∀ w d s e, (∃ s0, Witness s0 w) → d.apply .v20 w = some (s, e) → parse s = .err ⟨e.1, e.2⟩

What is missing: exactly the defects with `afterEnv w d = true` — an element inserted (repeated or unknown
abbreviation) after a complete environmental group: `w` ends with `CDP/TD/CR/IR/AR` and the element is
inserted at position `w.length`, or it is a copy of the last element `AR:x` inserted just before it (which
produces the same kind of string: a complete vector followed by one more `AR:…`). For these the
documentation promises `ErrInvalidMetricOrder` (3) and the parser returns `ErrInvalidMetricValue` (4):
`v2_errors_afterEnv`. Every other defect gets the documented value: `v2_errors_partial`
(illegal value ⇒ 4; misplaced — swapped neighbours `swap i` and, in general, `move i j` — / repeated / unknown ⇒ 3;
truncation inside a started group ⇒ 2).

"Misplaced" holds without exception (`moved_metric`, and `afterEnv w (.move i j) = false` always): a moved vector has
as many elements as the original, so the first element the parser refuses is never *after* a complete
environmental group; in particular moving an earlier element behind a complete environmental group, or moving the
last `AR` forward, gives ErrInvalidMetricOrder (examples below). F3 needs an *additional* element.

`Defect.truncate` leaves out two cuts that are inside a group (`n = 9` of base+environmental, `n = 11` of
base+temporal+environmental, because 9 and 11 are complete lengths of *other* shapes); `truncated_inside_group`
proves ErrTooShortVector for every cut whose kept part is not itself a complete vector.
-/
namespace C18.V2
open Proofs Proofs.Parse2
open Model (Bytes Res)
open Spec (Defect Pair)
open Spec.V2 (metrics Witness)

/-- the side condition, an explicit decidable predicate -/
def afterEnv (w : List Pair) (d : Defect) : Bool := Proofs.Parse2.afterEnv w d

theorem afterEnv_def (w : List Pair) (d : Defect) :
    afterEnv w d =
      match d with
      | .repeated i j _ =>
        (Spec.abvs Spec.V2.environmental).isSuffixOf (w.map (·.1)) &&
          (j == (w.map (·.1)).length || (i + 1 == (w.map (·.1)).length && j + 1 == (w.map (·.1)).length))
      | .unknown j _ _ => (Spec.abvs Spec.V2.environmental).isSuffixOf (w.map (·.1)) && j == w.length
      | _ => false := by
  cases d <;> rfl

section
variable (K : Contract Model.O20 metrics)

theorem v2_errors_partial (w : List Pair) (d : Defect) (s : Bytes) (e : Spec.ErrVal)
    (hw : ∃ s0, Witness s0 w) (h : d.apply .v20 w = some (s, e)) (hna : afterEnv w d = false) :
    parseK K s = .err ⟨e.1, e.2⟩ :=
  err_partial K hw d s e h hna

/-- misplaced, general form, no side condition: element `i` taken out and put back at position `j ≠ i` -/
theorem moved_metric (w : List Pair) (hw : ∃ s0, Witness s0 w) {i j : Nat} {p : Pair}
    (hp : w[i]? = some p) (hji : j ≠ i) (hj : j < w.length) :
    parseK K (Spec.joinSlash ((Spec.insertAt (w.eraseIdx i) j p).map Spec.render)) = .err Model.eOrder :=
  err_move K hw hp hji hj

/-- a `move` is never in the F3 situation -/
theorem afterEnv_move (w : List Pair) (i j : Nat) : afterEnv w (.move i j) = false := rfl

/-- cut short inside a started group, exact form: every proper non-empty prefix whose abbreviations are not
    themselves a complete vector (`Defect.truncate` is the special case `n ∉ {6, 9, 11, 14}`) -/
theorem truncated_inside_group (w : List Pair) (hw : ∃ s0, Witness s0 w) (n : Nat) (h1 : 1 ≤ n) (h2 : n < w.length)
    (h3 : (w.take n).map (·.1) ∉ Spec.V2.shapes) :
    parseK K (Spec.joinSlash ((w.take n).map Spec.render)) = .err Model.eTooShort :=
  err_truncate_exact K hw n h1 h2 h3

/-- the finding, exactly: under `afterEnv` code 3 is promised and code 4 is returned -/
theorem v2_errors_afterEnv (w : List Pair) (d : Defect) (s : Bytes) (e : Spec.ErrVal)
    (hw : ∃ s0, Witness s0 w) (h : d.apply .v20 w = some (s, e)) (ha : afterEnv w d = true) :
    parseK K s = .err ⟨4, []⟩ ∧ e = (3, []) :=
  err_afterEnv K hw d s e h ha

/-- so the documented value is returned **iff** the defect is not after a complete environmental group -/
theorem v2_errors_iff (w : List Pair) (d : Defect) (s : Bytes) (e : Spec.ErrVal)
    (hw : ∃ s0, Witness s0 w) (h : d.apply .v20 w = some (s, e)) :
    parseK K s = .err ⟨e.1, e.2⟩ ↔ afterEnv w d = false := by
  constructor
  · intro hp
    cases ha : afterEnv w d with
    | false => rfl
    | true =>
      obtain ⟨h4, he⟩ := v2_errors_afterEnv K w d s e hw h ha
      rw [h4, he] at hp
      exact absurd hp (by decide)
  · exact v2_errors_partial K w d s e hw h

/-- about `Model.parse20` itself, for a contract whose zero/`Set` are the generated ones -/
theorem model_v2_errors_partial (hz : K.zero = Model.O20.zero) (hs : K.set = Model.O20.set)
    (w : List Pair) (d : Defect) (s : Bytes) (e : Spec.ErrVal)
    (hw : ∃ s0, Witness s0 w) (h : d.apply .v20 w = some (s, e)) (hna : afterEnv w d = false) :
    Model.parse20 s = .err ⟨e.1, e.2⟩ := by
  rw [parse20_eq_parseK K hz hs]; exact v2_errors_partial K w d s e hw h hna

end

/-! The hypotheses are satisfiable, for each kind of defect, and the model (with the real generated `Set`)
returns the documented value on them. -/

def wFull : List Pair := [(Spec.b "AV", Spec.b "L"), (Spec.b "AC", Spec.b "H"), (Spec.b "Au", Spec.b "M"),
  (Spec.b "C", Spec.b "N"), (Spec.b "I", Spec.b "N"), (Spec.b "A", Spec.b "N"),
  (Spec.b "E", Spec.b "F"), (Spec.b "RL", Spec.b "OF"), (Spec.b "RC", Spec.b "C"),
  (Spec.b "CDP", Spec.b "ND"), (Spec.b "TD", Spec.b "ND"), (Spec.b "CR", Spec.b "ND"),
  (Spec.b "IR", Spec.b "ND"), (Spec.b "AR", Spec.b "ND")]

theorem wFull_witness : ∃ s0, Witness s0 wFull :=
  ⟨Spec.b "AV:L/AC:H/Au:M/C:N/I:N/A:N/E:F/RL:OF/RC:C/CDP:ND/TD:ND/CR:ND/IR:ND/AR:ND",
    (Proofs.Parse2.read_iff _ _).mp (by decide +kernel)⟩

def good (d : Defect) (code : Nat) : Bool :=
  match d.apply .v20 wFull with
  | some (s, e) => !afterEnv wFull d && e.1 == code && Model.parse20 s == .err ⟨code, []⟩
  | none => false

example : good (.illegalValue 7 (Spec.b "XX")) 4 = true := by decide +kernel
example : good (.repeated 0 14 (Spec.b "N")) 3 = false := by decide +kernel   -- the finding (afterEnv)
example : good (.repeated 0 13 (Spec.b "N")) 3 = true := by decide +kernel    -- 15 elements, before the last
example : good (.repeated 13 5 (Spec.b "H")) 3 = true := by decide +kernel
example : good (.unknown 6 (Spec.b "XY") (Spec.b "N")) 3 = true := by decide +kernel
example : good (.swap 5) 3 = true := by decide +kernel
example : good (.truncate 7) 2 = true := by decide +kernel
example : good (.move 0 13) 3 = true := by decide +kernel     -- `AV` moved behind the complete environmental group
example : good (.move 13 9) 3 = true := by decide +kernel     -- the last `AR` moved to the front of its group
example : good (.move 6 13) 3 = true := by decide +kernel     -- temporal `E` moved to the very end
example : good (.move 13 0) 3 = true := by decide +kernel
/-- all 14·13 moves of the full vector: applicable, promised 3, returned 3 by the model with the generated `Set` -/
example : ∀ i < 14, ∀ j < 14, j ≠ i → good (.move i j) 3 = true := by decide +kernel
example : (Defect.move 0 13).apply .v20 wFull =
    some (Spec.b "AC:H/Au:M/C:N/I:N/A:N/E:F/RL:OF/RC:C/CDP:ND/TD:ND/CR:ND/IR:ND/AR:ND/AV:L", (3, [])) := by decide +kernel

/-- base+environmental, cut after 9 elements (inside the environmental group): not covered by `Defect.truncate`,
    covered by `truncated_inside_group`; the model says ErrTooShortVector -/
example : (Defect.truncate 9).apply .v20 (wFull.take 6 ++ wFull.drop 9) = none := by decide +kernel
example : Model.parse20 (Spec.b "AV:L/AC:H/Au:M/C:N/I:N/A:N/CDP:ND/TD:ND/CR:ND") = .err Model.eTooShort := by decide +kernel
example : ((wFull.take 6 ++ wFull.drop 9).take 9).map (·.1) ∉ Spec.V2.shapes := by decide +kernel

end C18.V2
