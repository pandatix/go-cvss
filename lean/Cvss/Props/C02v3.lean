import Cvss.Proofs.Parse3Canon
import Cvss.Proofs.Parse3Inst
/-!
# C02 (v3.0 / v3.1): `Vector()` then `ParseVector` returns the same object

For every well-formed object `c` (all of them at once): `parse (vector c) = ok c`. Generic in the header, the
`Contract` for `Get`/`Set` and the `VecContract` for `Vector()` (which says `Vector()` spells the Spec's
canonical form of the object's own values).
-/
namespace C02.V3
open Proofs Proofs.Parse3
open Spec (Bytes Pair)

variable {O : Type} (K : Contract O Spec.V3.metrics) (hdr : Bytes)
  (VK : VecContract O Spec.V3.metrics K (Spec.V3.canonical hdr))

/-- **C02** -/
theorem parse_vector (c : O) (hc : K.WF c) :
    Model.parse3 (hdr ++ [47]) K.zero K.set (VK.vector c) = .ok c := by
  rw [VK.vector_eq c hc]
  exact parse3_canonical_pairs K hdr c hc

/-- corollary: `Vector()` is injective on well-formed objects -/
theorem vector_injective (c c' : O) (hc : K.WF c) (hc' : K.WF c') (h : VK.vector c = VK.vector c') : c = c' := by
  have h1 := parse_vector K hdr VK c hc
  have h2 := parse_vector K hdr VK c' hc'
  rw [h, h2] at h1
  cases h1; rfl

/-- corollary: `Vector()` of a well-formed object is grammatical -/
theorem vector_grammatical (c : O) (hc : K.WF c) : Spec.V3.G hdr (VK.vector c) := by
  rw [VK.vector_eq c hc]
  exact ⟨_, canonical_witness hdr _ (good_pairs K c hc)⟩

/-- the hypothesis `K.WF c` is satisfiable by non-trivial objects: every parser result is well-formed
    (and `C06.V3`'s example shows the parser does accept a shuffled vector, for every contract) -/
example (s : Bytes) (c : O) (h : Model.parse3 (hdr ++ [47]) K.zero K.set s = .ok c) : K.WF c := by
  obtain ⟨w, _, rfl⟩ := parse3_sound K hdr s c h
  exact K.wf_setAll w K.zero K.wf_zero

/-! ## Instances. **Final instantiation**: supply `contract30/31` and `vecContract30/31`; the equations are `rfl`. -/
section Instances
open Model (O30 O31)
variable (K30 : Contract O30 Spec.V3.metrics) (hz30 : K30.zero = O30.zero) (hs30 : K30.set = O30.set)
  (VK30 : VecContract O30 Spec.V3.metrics K30 (Spec.V3.canonical Spec.V3.header30)) (hv30 : VK30.vector = O30.vector)
variable (K31 : Contract O31 Spec.V3.metrics) (hz31 : K31.zero = O31.zero) (hs31 : K31.set = O31.set)
  (VK31 : VecContract O31 Spec.V3.metrics K31 (Spec.V3.canonical Spec.V3.header31)) (hv31 : VK31.vector = O31.vector)

include hz30 hs30 hv30 in
theorem parse_vector_30 (c : O30) (hc : K30.WF c) : Model.parse30 c.vector = .ok c := by
  rw [parse30_eq_K K30 hz30 hs30, ← hv30]; exact parse_vector K30 _ VK30 c hc
include hz31 hs31 hv31 in
theorem parse_vector_31 (c : O31) (hc : K31.WF c) : Model.parse31 c.vector = .ok c := by
  rw [parse31_eq_K K31 hz31 hs31, ← hv31]; exact parse_vector K31 _ VK31 c hc
end Instances

end C02.V3
