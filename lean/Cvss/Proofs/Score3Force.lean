import Cvss.Proofs.Score3Util
/-! Forcing an exact decimal to a literal, as `F64.flet` does for a `Nat`: the kernel shares the evaluation of
    identical closed terms, so a table should hand its expensive exact steps literal arguments. -/
namespace Proofs.Score3
open Spec.V3

def forceDec {α : Sort u} (x : Dec) (k : Dec → α) : α :=
  match x with
  | ⟨.ofNat n, e⟩ => F64.flet n fun n => F64.flet e fun e => k ⟨.ofNat n, e⟩
  | ⟨.negSucc n, e⟩ => F64.flet n fun n => F64.flet e fun e => k ⟨.negSucc n, e⟩

theorem forceDec_eq {α : Sort u} (x : Dec) (k : Dec → α) : forceDec x k = k x := by
  obtain ⟨n, e⟩ := x
  cases n <;> simp only [forceDec, flet_eq]

end Proofs.Score3
