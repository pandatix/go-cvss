import Cvss.Proofs.Score3MonoTab
/-! C12 (v3.1), Spec enumeration of the modified base score: the values of `MISS` and of the exploitability, and the
    score on them with the scope unchanged -/
namespace Proofs.Score3.Mono
theorem monoM_ok : monoM = true := by decide +kernel
theorem monoE_ok : monoE = true := by decide +kernel
theorem chunkG_0 : (List.range 7).all (chunkG 0) = true := by decide +kernel
end Proofs.Score3.Mono
