import Cvss.Proofs.Score4Groups
import Cvss.Proofs.Score4TailAll
/-!
# v4.0 score: composition

`core`: on a well-formed object the generated `Score` is, bit for bit, `F64.tenth` of the Spec's score on the value
strings its field codes stand for. Steps: field codes (`score_codes`, `wf_codes`), shape (`Score_core = ScoreH`,
definitional), MacroVector (`mvc_eq`), effective codes (`mod_` vs `orElse`: `st_wf`); then on codes (`core_codes`):
per-EQ enumerations, loops (`loops_eq`), float tail (`point_all`).
-/
namespace Proofs.Score4
open GenV40 Model
open Proofs.B40 (code)
open Spec.V4 (orElse)

/-- the six effective impact codes are all `N` -/
def allN (vcVal viVal vaVal scVal siVal saVal : Nat) : Bool :=
  ((((((Nat.beq vcVal (2 : Nat)) && (Nat.beq viVal (2 : Nat))) && (Nat.beq vaVal (2 : Nat))) && (Nat.beq scVal (2 : Nat))) && (Nat.beq siVal (2 : Nat))) && (Nat.beq saVal (2 : Nat)))

def scoreMV (avVal acVal atVal prVal uiVal vcVal viVal vaVal scVal siVal saVal crVal irVal arVal : Nat)
    (mv : Nat × Nat × Nat × Nat × Nat × Nat) : Nat :=
  match mv with
  | (eq1, eq2, eq3, eq4, eq5, eq6) =>
    scoreTail avVal acVal atVal prVal uiVal vcVal viVal vaVal scVal siVal saVal crVal irVal arVal eq1 eq2 eq3 eq4 eq5 eq6

/-- `ScoreH` without the forcing lets -/
def ScoreH2 (r0 r1 r2 r3 r4 r5 r6 r7 r8 r9 r10 r11 r12 r13 r14 r15 r16 r17 r18 r19 r20 r21 r22 r23 r24 r25 : Nat) : Nat :=
  cond (allN (mod_ r10 r11) (mod_ r14 r15) (mod_ r18 r19) (mod_ r12 r13) (mod_ r16 r17) (mod_ r20 r21))
    (0x0000000000000000 : Nat)
    (scoreMV (mod_ r0 r1) (mod_ r2 r3) (mod_ r4 r5) (mod_ r6 r7) (mod_ r8 r9) (mod_ r10 r11) (mod_ r14 r15) (mod_ r18 r19)
      (mod_ r12 r13) (mod_ r16 r17) (mod_ r20 r21) (reqFix r22) (reqFix r23) (reqFix r24)
      (macroVector_core r0 r1 r2 r3 r4 r5 r6 r7 r8 r9 r10 r11 r12 r13 r14 r15 r17 r16 r18 r19 r21 r20 r25 r22 r23 r24))

theorem ScoreH_eq2 (r0 r1 r2 r3 r4 r5 r6 r7 r8 r9 r10 r11 r12 r13 r14 r15 r16 r17 r18 r19 r20 r21 r22 r23 r24 r25 : Nat) :
    ScoreH r0 r1 r2 r3 r4 r5 r6 r7 r8 r9 r10 r11 r12 r13 r14 r15 r16 r17 r18 r19 r20 r21 r22 r23 r24 r25 =
      ScoreH2 r0 r1 r2 r3 r4 r5 r6 r7 r8 r9 r10 r11 r12 r13 r14 r15 r16 r17 r18 r19 r20 r21 r22 r23 r24 r25 := by
  unfold ScoreH ScoreH2 allN reqFix scoreMV
  simp only [flet_eq]

def scoreS (AV AC AT PR UI VC VI VA SC SI SA E CR IR AR : List Nat) : Nat :=
  Spec.V4.scoreE ⟨AV, AC, AT, PR, UI, VC, VI, VA, SC, SI, SA, E, CR, IR, AR⟩

theorem scoreS_eq (AV AC AT PR UI VC VI VA SC SI SA E CR IR AR : List Nat) :
    scoreS AV AC AT PR UI VC VI VA SC SI SA E CR IR AR =
      if (Spec.V4.is VC "N" && Spec.V4.is VI "N" && Spec.V4.is VA "N" && Spec.V4.is SC "N" && Spec.V4.is SI "N" &&
          Spec.V4.is SA "N") = true then 0
      else Spec.V4.scoreOf (Spec.V4.eq1 AV PR UI, Spec.V4.eq2 AC AT, Spec.V4.eq3 VC VI VA, Spec.V4.eq4 SC SI SA,
            Spec.V4.eq5 E, Spec.V4.eq6 VC VI VA CR IR AR)
          (Spec.V4.dist1 AV PR UI) (Spec.V4.dist2 AC AT) (Spec.V4.dist36 VC VI VA CR IR AR) (Spec.V4.dist4 SC SI SA)
          (Spec.V4.dist5 E) := rfl

theorem fin_next (eqsv lower m1 m2 m36 m4 m5 eq1 eq2 eq3 eq4 eq5 eq6 d1 d2 d36 d4 d5 : Nat) :
    fin eqsv lower m1 m2 m36 m4 m5 eq1 eq2 eq3 eq4 eq5 eq6 (Go.Ctl.next (d1, d2, d36, d4, d5)) =
      post eqsv lower m1 m2 m36 m4 m5 eq1 eq2 eq3 eq4 eq5 eq6 d1 d2 d36 d4 d5 := rfl

theorem scoreTail_eq (av ac at_ pr ui vc vi va sc si sa cr ir ar eq1 eq2 eq3 eq4 eq5 eq6 d1 d2 d36 d4 : Nat)
    (hl : loops av ac at_ pr ui vc vi va sc si sa cr ir ar eq1 eq2 eq3 eq4 eq6 =
      Go.Ctl.next (F64.ofNat d1, F64.ofNat d2, F64.ofNat d36, F64.ofNat d4, Z)) :
    scoreTail av ac at_ pr ui vc vi va sc si sa cr ir ar eq1 eq2 eq3 eq4 eq5 eq6 =
      tailF eq1 eq2 eq3 eq4 eq5 eq6 d1 d2 d36 d4 := by
  unfold scoreTail tailF
  rw [hl]
  simp only [fin_next]
  rfl

/-- the score on codes: effective codes of the nine pairs of `pairs`, raw codes of SI/MSI, SA/MSA, CR, IR, AR, E, all
    in range. The no-impact shortcut returns the literal `+0.0 = F64.tenth 0`; otherwise the loops select the highest
    severity vectors of `g1 … g4` and the float tail is `point_all`. -/
theorem core_codes {av ac at_ pr ui vc vi va sc si msi sa msa cr ir ar e : Nat}
    (hav : av < 4) (hac : ac < 2) (hat : at_ < 2) (hpr : pr < 3) (hui : ui < 3) (hvc : vc < 3) (hvi : vi < 3) (hva : va < 3)
    (hsc : sc < 3) (hsi : si < 3) (hmsi : msi < 5) (hsa : sa < 3) (hmsa : msa < 5)
    (hcr : cr < 4) (hir : ir < 4) (har : ar < 4) (he : e < 4) :
    cond (allN vc vi va sc (mod_ si msi) (mod_ sa msa)) (0x0000000000000000 : Nat)
      (scoreMV av ac at_ pr ui vc vi va sc (mod_ si msi) (mod_ sa msa) (reqFix cr) (reqFix ir) (reqFix ar)
        (eq1c av pr ui, eq2c ac at_, eq3c vc vi va, eq4r sc msi si msa sa, eq5c e, eq6c vc vi va cr ir ar)) =
      F64.tenth (scoreS (nmAV av) (nmAC ac) (nmAT at_) (nmPR pr) (nmUI ui) (nmVC vc) (nmVI vi) (nmVA va) (nmSC sc)
        (orElse (nmMSI msi) (nmSI si)) (orElse (nmMSA msa) (nmSA sa)) (orElse (nmE e) (Spec.b "A"))
        (orElse (nmCR cr) (Spec.b "H")) (orElse (nmIR ir) (Spec.b "H")) (orElse (nmAR ar) (Spec.b "H"))) := by
  obtain ⟨x1, s1, p1, l1, d1, b1⟩ := g1 hav hpr hui
  obtain ⟨x2, s2, p2, l2, d2, b2⟩ := g2 hac hat
  obtain ⟨x3, s3, p3, l3, l6, d3, b3, b6, nx⟩ := g36 hvc hvi hva hcr hir har
  obtain ⟨x4, s4, p4, l4, d4, b4⟩ := g4 hsc hsi hmsi hsa hmsa
  obtain ⟨l5, b5, d5⟩ := g5 he
  obtain ⟨nVC, _, _, _⟩ := nN hvc
  obtain ⟨_, nVI, _, _⟩ := nN hvi
  obtain ⟨_, _, nVA, _⟩ := nN hva
  obtain ⟨_, _, _, nSC⟩ := nN hsc
  obtain ⟨nSI, _⟩ := nNS hsi hmsi
  obtain ⟨_, nSA⟩ := nNS hsa hmsa
  rw [scoreS_eq]
  unfold allN
  rw [nVC, nVI, nVA, nSC, nSI, nSA]
  unfold effS
  cases hN : (Spec.V4.is (nmVC vc) "N" && Spec.V4.is (nmVI vi) "N" && Spec.V4.is (nmVA va) "N" &&
      Spec.V4.is (nmSC sc) "N" && Spec.V4.is (orElse (nmMSI msi) (nmSI si)) "N" &&
      Spec.V4.is (orElse (nmMSA msa) (nmSA sa)) "N")
  · -- some impact: the MacroVector algorithm
    rw [condF]
    unfold scoreMV
    simp only []
    have hl := loops_eq av ac at_ pr ui vc vi va sc (mod_ si msi) (mod_ sa msa) (reqFix cr) (reqFix ir) (reqFix ar)
      (eq1c av pr ui) (eq2c ac at_) (eq3c vc vi va) (eq4r sc msi si msa sa) (eq6c vc vi va cr ir ar)
      x1 x2 x3 x4 s1 s2 s3 s4
    rw [p1, p2, p3, p4] at hl
    rw [scoreTail_eq _ _ _ _ _ _ _ _ _ _ _ _ _ _ _ _ _ _ _ _ _ _ _ _ hl]
    have ht := (point_all b1 b2 b3 b4 b5 b6 (not_and_of_beq nx) d1 d2 d3 d4).1
    unfold effS reqS at *
    rw [← l1, ← l2, ← l3, ← l4, ← l5, ← l6, d5]
    simpa using ht
  · -- no impact
    rw [condT]
    simp only [if_true]
    decide +kernel

/-- **core**: on a well-formed object the generated `Score` returns the bit pattern `F64.tenth k` (never `-0.0`)
    for `k` the Spec's score on the strings its field codes denote -/
theorem core (c : O40) (h : c.wf = true) :
    c.score =
      F64.tenth (scoreS (orElse (nmMAV (code 15 c)) (nmAV (code 0 c))) (orElse (nmMAC (code 16 c)) (nmAC (code 1 c)))
        (orElse (nmMAT (code 17 c)) (nmAT (code 2 c))) (orElse (nmMPR (code 18 c)) (nmPR (code 3 c)))
        (orElse (nmMUI (code 19 c)) (nmUI (code 4 c))) (orElse (nmMVC (code 20 c)) (nmVC (code 5 c)))
        (orElse (nmMVI (code 21 c)) (nmVI (code 6 c))) (orElse (nmMVA (code 22 c)) (nmVA (code 7 c)))
        (orElse (nmMSC (code 23 c)) (nmSC (code 8 c))) (orElse (nmMSI (code 24 c)) (nmSI (code 9 c)))
        (orElse (nmMSA (code 25 c)) (nmSA (code 10 c))) (orElse (nmE (code 11 c)) (Spec.b "A"))
        (orElse (nmCR (code 12 c)) (Spec.b "H")) (orElse (nmIR (code 13 c)) (Spec.b "H"))
        (orElse (nmAR (code 14 c)) (Spec.b "H"))) := by
  have hc := wf_codes h
  obtain ⟨eAV, hav⟩ := st_wf h (j := 0) (jm := 15) (by decide)
  obtain ⟨eAC, hac⟩ := st_wf h (j := 1) (jm := 16) (by decide)
  obtain ⟨eAT, hat⟩ := st_wf h (j := 2) (jm := 17) (by decide)
  obtain ⟨ePR, hpr⟩ := st_wf h (j := 3) (jm := 18) (by decide)
  obtain ⟨eUI, hui⟩ := st_wf h (j := 4) (jm := 19) (by decide)
  obtain ⟨eVC, hvc⟩ := st_wf h (j := 5) (jm := 20) (by decide)
  obtain ⟨eVI, hvi⟩ := st_wf h (j := 6) (jm := 21) (by decide)
  obtain ⟨eVA, hva⟩ := st_wf h (j := 7) (jm := 22) (by decide)
  obtain ⟨eSC, hsc⟩ := st_wf h (j := 8) (jm := 23) (by decide)
  rw [score_codes, Score_core_eq_ScoreH, ScoreH_eq2]
  unfold ScoreH2
  rw [mvc_eq, eAV, eAC, eAT, ePR, eUI, eVC, eVI, eVA, eSC]
  exact core_codes hav hac hat hpr hui hvc hvi hva hsc (hc 9 (by decide)) (hc 24 (by decide)) (hc 10 (by decide))
    (hc 25 (by decide)) (hc 12 (by decide)) (hc 13 (by decide)) (hc 14 (by decide)) (hc 11 (by decide))

end Proofs.Score4
