import Cvss.Proofs.Parse4Main
/-!
# C13 (v4.0 part): an accepted v4.0 string starts with the specification's header `CVSS:4.0`
-/
namespace C13.V4
open Model (Bytes O40 Res)
open Proofs.P4

variable (K : Proofs.Contract O40 Spec.V4.metrics)

/-- acceptance implies the header is a prefix; the header is the *regenerated* constant, proved equal to the Spec's -/
theorem header_prefix {s : Bytes} {c : O40} (h : parseK K s = .ok c) : Spec.V4.header <+: s := by
  obtain ⟨w, hw, _⟩ := parseK_ok K h
  exact ⟨_, hw.1.symm⟩

theorem header_prefix_gen {s : Bytes} {c : O40} (h : parseK K s = .ok c) : GenV40.const_header <+: s := by
  rw [header_eq]; exact header_prefix K h

/-- without the header the error is `ErrInvalidCVSSHeader`, whatever follows -/
theorem no_header {s : Bytes} (h : ¬ Spec.V4.header <+: s) : parseK K s = .err Model.eHeader := by
  rw [parseK_unfold, if_neg fun hp => h (List.isPrefixOf_iff_prefix.mp hp)]

theorem header_value : Spec.V4.header = [67, 86, 83, 83, 58, 52, 46, 48] := by decide

theorem header_prefix_model (hz : K.zero = O40.zero) (hs : K.set = O40.set) {s : Bytes} {c : O40}
    (h : Model.parse40 s = .ok c) : Spec.V4.header <+: s := by
  rw [parse40_eq_parseK K hz hs] at h; exact header_prefix K h

end C13.V4
