import Cvss.Proofs.Score3Util
import Cvss.Proofs.F64Eval
/-!
# C03: shape of the generated score functions and the enumeration predicates (v3.1; what a version shares)

`T` is the common last step of `TemporalScore` and `EnvironmentalScore` (`roundup (b·e·rl·rc)`), `Inner` the
"modified base score" inside `EnvironmentalScore` (0 when ModifiedImpact ≤ 0). Both only *call* generated
functions; the shape lemmas tie them to the generated bodies by unfolding, so a change of a constant or operator
in those Go bodies (after regeneration) breaks a shape lemma, and a change in a called function (`roundup`,
`pow13`, the weight tables, `cia`, `ciar`, `mod`) or in `BaseScore`/`Impact`/`Exploitability` breaks an enumeration.
-/
namespace Proofs.Score3
open Spec Spec.V3

/-! ## Enumeration predicates

`base` and `inner` stand for a version's `BaseScore_core` and `Inner`, `v31` for the version's ModifiedImpact formula. -/
section
variable (v31 : Bool) (base : Nat → Nat → Nat → Nat → Nat → Nat → Nat → Nat → Nat → Nat)
  (inner : Nat → Nat → Nat → Nat → Nat → Nat → Nat → Nat → Nat → Nat → Nat → Nat)

/-- (a) Base: model = tenth (Spec), and both readings of `Roundup` agree -/
def okBaseOn (av ac pr ui s c i a : Nat) : Bool :=
  isTenth (base c i a s av ac pr s ui) (specBase av ac pr ui s c i a) &&
  (decide (specImpact s c i a ≤ 0) || agreeA (baseArg (Nat.beq s 1) (specImpact s c i a) (specExpl av ac pr ui s)))
def allBaseOn : Bool :=
  (List.range 2).all fun s => (List.range 3).all fun c => (List.range 3).all fun i => (List.range 3).all fun a =>
  (List.range 4).all fun av => (List.range 2).all fun ac => (List.range 3).all fun pr => (List.range 2).all fun ui =>
    okBaseOn base av ac pr ui s c i a

/-- (c) the modified base score inside Environmental -/
def okInnerOn (mav mac mpr mui ms mc mi ma cr ir ar : Nat) : Bool :=
  isTenth (inner mav mac mpr mui ms mc mi ma cr ir ar) (specInner v31 mav mac mpr mui ms mc mi ma cr ir ar) &&
  (decide (specMImpact v31 ms mc mi ma cr ir ar ≤ 0) ||
    agreeA (baseArg (Nat.beq ms 1) (specMImpact v31 ms mc mi ma cr ir ar) (specExpl mav mac mpr mui ms)))
/-- one chunk: Modified scope, attack vector and complexity fixed; 729 impact/requirement classes (requirement
    codes 1..3, `X` is covered by `Inner_nR`) × 6 (privileges, user interaction) = 4,374 tuples -/
def chunkEnvOn (ms mav mac : Nat) : Bool :=
  (List.range 3).all fun mc => (List.range 3).all fun mi => (List.range 3).all fun ma =>
  (List.range 3).all fun cr => (List.range 3).all fun ir => (List.range 3).all fun ar =>
  (List.range 3).all fun mpr => (List.range 2).all fun mui =>
    okInnerOn v31 inner mav mac mpr mui ms mc mi ma (Nat.succ cr) (Nat.succ ir) (Nat.succ ar)

variable {v31 inner}
theorem chunkEnvOn_elim {ms mav mac : Nat} (h : chunkEnvOn v31 inner ms mav mac = true)
    {mpr mui mc mi ma cr ir ar : Nat} (hmpr : mpr < 3) (hmui : mui < 2) (hmc : mc < 3) (hmi : mi < 3) (hma : ma < 3)
    (hcr : 1 ≤ cr ∧ cr ≤ 3) (hir : 1 ≤ ir ∧ ir ≤ 3) (har : 1 ≤ ar ∧ ar ≤ 3) :
    okInnerOn v31 inner mav mac mpr mui ms mc mi ma cr ir ar = true := by
  have := all_range (all_range (all_range (all_range (all_range (all_range (all_range (all_range h hmc) hmi) hma)
    (i := cr - 1) (by omega)) (i := ir - 1) (by omega)) (i := ar - 1) (by omega)) hmpr) hmui
  have e1 : Nat.succ (cr - 1) = cr := by omega
  have e2 : Nat.succ (ir - 1) = ir := by omega
  have e3 : Nat.succ (ar - 1) = ar := by omega
  rwa [e1, e2, e3] at this
end

end Proofs.Score3

namespace Proofs.Score3.V31
open Spec Spec.V3 GenV31

/-- `true` for v3.1 -/
abbrev ver : Bool := true

/-- last step of Temporal and Environmental: `roundup (((b·e)·rl)·rc)` -/
def T (b e rl rc : Nat) : Nat := roundup (F64.mul (F64.mul (F64.mul b e) rl) rc)

/-- the modified base score computed inside `EnvironmentalScore`, from the *effective* codes -/
def Inner (mav mac mpr mui ms mc mi ma cr ir ar : Nat) : Nat :=
  F64.flet (F64.min (F64.sub (0x3ff0000000000000 : Nat) (F64.mul (F64.mul (F64.sub (0x3ff0000000000000 : Nat) (F64.mul (ciar cr) (cia mc))) (F64.sub (0x3ff0000000000000 : Nat) (F64.mul (ciar ir) (cia mi)))) (F64.sub (0x3ff0000000000000 : Nat) (F64.mul (ciar ar) (cia ma))))) (0x3fed47ae147ae148 : Nat)) fun miss =>
  F64.flet (cond (Nat.beq ms (0 : Nat))
      (F64.mul (0x4019ae147ae147ae : Nat) miss)
      (F64.sub (F64.mul (0x401e147ae147ae14 : Nat) (F64.sub miss (0x3f9db22d0e560419 : Nat))) (F64.mul (0x400a000000000000 : Nat) (pow13 (F64.sub (F64.mul miss (0x3fef23a29c779a6b : Nat)) (0x3f947ae147ae147b : Nat)))))) fun modifiedImpact =>
  F64.flet (F64.mul (F64.mul (F64.mul (F64.mul (0x402070a3d70a3d71 : Nat) (attackVector mav)) (attackComplexity mac)) (privilegesRequired mpr ms)) (userInteraction mui)) fun modifiedExploitability =>
  cond (F64.le modifiedImpact (0x0000000000000000 : Nat))
    (0x0000000000000000 : Nat)
    (cond (Nat.beq ms (0 : Nat))
      (roundup (F64.min (F64.add modifiedImpact modifiedExploitability) (0x4024000000000000 : Nat)))
      (roundup (F64.min (F64.mul (0x3ff147ae147ae148 : Nat) (F64.add modifiedImpact modifiedExploitability)) (0x4024000000000000 : Nat))))

theorem T_zero : ∀ e, e < 5 → ∀ rl, rl < 5 → ∀ rc, rc < 4 →
    T 0 (exploitCodeMaturity e) (remediationLevel rl) (reportConfidence rc) = 0 := by decide +kernel

theorem env_shape (r0 r1 r2 r3 r4 r5 r6 r7 r8 r9 r10 r11 r12 r13 r14 r15 r16 r17 r18 r19 r20 r21 : Nat)
    (h19 : r19 < 5) (h20 : r20 < 5) (h21 : r21 < 4) :
    EnvironmentalScore_core r0 r1 r2 r3 r4 r5 r6 r7 r8 r9 r10 r11 r12 r13 r14 r15 r16 r17 r18 r19 r20 r21 =
    T (Inner (mod_ r0 r1) (mod_ r2 r3) (mod_ r4 r5) (mod_ r6 r7) (mod_ r8 r9) (mod_ r10 r11) (mod_ r12 r13) (mod_ r14 r15) r16 r17 r18)
      (exploitCodeMaturity r19) (remediationLevel r20) (reportConfidence r21) := by
  simp only [EnvironmentalScore_core, flet_eq, Inner]
  cases h1 : F64.le _ (0x0000000000000000 : Nat) with
  | true =>
    simp only [cond_true]
    exact (T_zero r19 h19 r20 h20 r21 h21).symm
  | false =>
    simp only [cond_false]
    cases h2 : Nat.beq (mod_ r8 r9) 0 <;> simp only [cond_true, cond_false, T]

theorem temporal_shape (r0 r1 r2 r3 r4 r5 r6 r7 r8 r9 r10 r11 : Nat) :
    TemporalScore_core r0 r1 r2 r3 r4 r5 r6 r7 r8 r9 r10 r11 =
    T (BaseScore_core r3 r4 r5 r6 r7 r8 r9 r10 r11) (exploitCodeMaturity r0) (remediationLevel r1) (reportConfidence r2) := by
  simp only [TemporalScore_core, flet_eq, T]

/-- `ciar X = ciar M` -/
theorem ciar_nR : ∀ r, r < 4 → ciar r = ciar (nR r) := by decide
theorem Inner_nR (mav mac mpr mui ms mc mi ma cr ir ar : Nat) (hcr : cr < 4) (hir : ir < 4) (har : ar < 4) :
    Inner mav mac mpr mui ms mc mi ma cr ir ar = Inner mav mac mpr mui ms mc mi ma (nR cr) (nR ir) (nR ar) := by
  simp only [Inner, ← ciar_nR cr hcr, ← ciar_nR ir hir, ← ciar_nR ar har]

/-- the scope code in `BaseScore_core`/`Impact_core` is only tested for zero -/
theorem base_scope (c i a su av ac pr s ui : Nat) (h : Nat.beq su 0 = Nat.beq s 0) :
    BaseScore_core c i a su av ac pr s ui = BaseScore_core c i a s av ac pr s ui := by
  simp only [BaseScore_core, Impact_core, h]
theorem impact_scope (c i a su s : Nat) (h : Nat.beq su 0 = Nat.beq s 0) :
    Impact_core c i a su = Impact_core c i a s := by
  simp only [Impact_core, h]

/-! ## The predicates of this version -/

def okBase : Nat → Nat → Nat → Nat → Nat → Nat → Nat → Nat → Bool := okBaseOn BaseScore_core
def allBase : Bool := allBaseOn BaseScore_core
def okInner : Nat → Nat → Nat → Nat → Nat → Nat → Nat → Nat → Nat → Nat → Nat → Bool := okInnerOn ver Inner
def chunkEnv : Nat → Nat → Nat → Bool := chunkEnvOn ver Inner

/-- (b) the Temporal step on a tenth `k/10` -/
def okT (k e rl rc : Nat) : Bool :=
  isTenth (T (F64.tenth k) (exploitCodeMaturity e) (remediationLevel rl) (reportConfidence rc)) (specT (Int.ofNat k) e rl rc) &&
  agreeA (tenths (Int.ofNat k) * cE e * cRL rl * cRC rc)
/-- temporal codes: `X` (0) weighs like the top value (1), in the code and in the Spec -/
def nX (c : Nat) : Nat := cond (Nat.beq c 0) 1 c
theorem nX_cases (c : Nat) : (c = 0 ∧ nX c = 1) ∨ (c ≠ 0 ∧ nX c = c) := by
  unfold nX
  cases h : Nat.beq c 0
  · exact Or.inr ⟨Nat.ne_of_beq_eq_false h, rfl⟩
  · exact Or.inl ⟨Nat.eq_of_beq_eq_true h, rfl⟩
theorem okT_nX (k e rl rc : Nat) : okT k e rl rc = okT k (nX e) (nX rl) (nX rc) := by
  have hE : exploitCodeMaturity 0 = exploitCodeMaturity 1 ∧ cE 0 = cE 1 := ⟨rfl, rfl⟩
  have hRL : remediationLevel 0 = remediationLevel 1 ∧ cRL 0 = cRL 1 := ⟨rfl, rfl⟩
  have hRC : reportConfidence 0 = reportConfidence 1 ∧ cRC 0 = cRC 1 := ⟨rfl, rfl⟩
  rcases nX_cases e with ⟨rfl, he⟩ | ⟨_, he⟩ <;> rcases nX_cases rl with ⟨rfl, hrl⟩ | ⟨_, hrl⟩ <;>
    rcases nX_cases rc with ⟨rfl, hrc⟩ | ⟨_, hrc⟩ <;>
    simp only [he, hrl, hrc, okT, specT, hE.1, hE.2, hRL.1, hRL.2, hRC.1, hRC.2]
/-- all 101 tenths × the 4 × 4 × 3 temporal codes other than `X` -/
def allT : Bool :=
  (List.range 101).all fun k => (List.range 4).all fun e => (List.range 4).all fun rl => (List.range 3).all fun rc =>
    okT k (Nat.succ e) (Nat.succ rl) (Nat.succ rc)

end Proofs.Score3.V31
