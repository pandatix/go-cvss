import Cvss.Proofs.ByteFacts40
/-!
# CVSS v4.0: the Get/Set contract, proved from the generated bit-field code (C07, C09)

`layout40` collects the per-arm ties of `Layout40` (to `GenV40.Get` / `GenV40.Set`) and the bit facts of
`ByteFacts40`; `BitsCommon` derives from it `contract40 : Proofs.Contract O40 Spec.V4.metrics`, the instance
the parser proofs use, whose laws hold for **every** object `c : O40` — any nine `Nat`s, in particular every
byte state, well formed or not.

What is *not* true for all byte states: "a successful `Set` changes only the bits of its metric".
`Set("U", v)` writes `u8 = (v & 3) << 6` and thereby clears the six unused low bits of `u8` (`set_U_u8`);
every other arm leaves `u8` alone (`set_notU_u8`). No `Get` reads those bits, so `get_set_other` is
unaffected, but `Set(m, Get(m))` is the identity only on well-formed objects (`Bits.set_get_id`).
-/
namespace Proofs.B40
open Spec (legal)
open Model (O40)
open Bits (Layout)

theorem gvals_nodup : ∀ k, k < 32 → (gvals k).Nodup := by decide +kernel
theorem gvals_spec : ∀ k, k < 32 → ∀ v, v ∈ gvals k ↔ v ∈ vals k :=
  have h : ∀ k, k < 32 → Bits.sameMembers (gvals k) (vals k) = true := by decide +kernel
  fun k hk => Bits.sameMembers_iff (h k hk)
theorem nv_le : ∀ k, k < 32 → nv k ≤ 256 := by decide +kernel

theorem wf_zero : O40.zero.wf = true := by decide +kernel

theorem wfB_iff (c : O40) : c.wf = true ↔ c.IsBytes ∧ c.u8 % 64 = 0 ∧ Model.legalGets ms c.get = true := by
  simp [O40.wf, O40.bytes, O40.IsBytes, and_assoc]

def layout40 : Layout O40 ms where
  zero := O40.zero
  get := O40.get
  set := O40.set
  wfB := O40.wf
  IsB := O40.IsBytes
  Spare c := c.u8 % 64 = 0
  codes := codes
  upd := upd
  vals := gvals
  vals_nodup := gvals_nodup
  vals_len k hk := gvals_length k ▸ nv_le k hk
  vals_spec := gvals_spec
  codes_len := codes_length
  get_known k hk c := get_idx c k hk
  get_default := get_default
  set_known := set_known
  set_default := set_default
  upd_codes k hk c i hi := upd_codes k hk c i (gvals_length k ▸ hi)
  upd_isB k hk c i hi := upd_isBytes k hk c i (gvals_length k ▸ hi)
  upd_spare k hk c i _ := upd_spare k hk c i
  codes_inj c c' hc hc' hs hs' := eq_of_codes c c' hc hc' (hs.trans hs'.symm)
  wfB_iff := wfB_iff
  wf_zero := wf_zero
  zero_opt := by decide +kernel

/-- **the v4.0 Get/Set contract**, with `WF c := c.wf = true`. The data fields are spelled out so that
    `contract40.set` unfolds to `O40.set` in one step where the parser proofs compare the two. -/
def contract40 : Proofs.Contract O40 Spec.V4.metrics :=
  { layout40.contract tableOK with
    zero := O40.zero, get := O40.get, set := O40.set, WF := fun c => c.wf = true, wf_zero := wf_zero }

theorem wf_iff (c : O40) : c.wf = true ↔ c.IsBytes ∧ c.u8 % 64 = 0 ∧ ∀ k, k < 32 → code k c < nv k := by
  simp only [← gvals_length]; exact layout40.wf_iff tableOK c

/-- with `set_notU_u8` / `set_U_u8` for the unused bits and `eq_of_codes`, this describes the bytes after a successful
    `Set` completely -/
theorem set_codes (c : O40) {k : Nat} (hk : k < 32) {v : List Nat} (hv : v ∈ vals k) :
    codes (c.set (abv k) v).1 = (codes c).set k (fidx v (gvals k)) := by
  have hg := (gvals_spec k hk v).mpr hv
  obtain ⟨i, hi, hgi, hr⟩ := Bits.validate_found v (gvals k) (layout40.vals_len k hk) hg
  obtain rfl : i = fidx v (gvals k) :=
    Bits.nodup_getD_inj [] _ _ _ (gvals_nodup k hk) hi (fidx_lt hg) (hgi.trans (getD_fidx hg).symm)
  rw [set_known k hk, hr]
  exact layout40.upd_codes k hk c _ hi

theorem set_isBytes (c : O40) (a v : List Nat) (hc : c.IsBytes) : (c.set a v).1.IsBytes :=
  layout40.isB_set tableOK c a v hc

theorem set_notU_u8 (c : O40) (a v : List Nat) (ha : a ≠ abv 31) : (c.set a v).1.u8 = c.u8 := by
  cases hl : legal ms a v with
  | false => exact congrArg (·.u8) (Bits.set_refuses contract40 c a v hl).2
  | true =>
    obtain ⟨k, hk, rfl, i, _, _, hs⟩ := layout40.set_legal tableOK c hl
    have hk' : k < 31 := Nat.lt_of_le_of_ne (Nat.le_of_lt_succ hk) fun e => ha (e ▸ rfl)
    exact (congrArg (·.1.u8) hs).trans (upd_u8 k hk' c i)

theorem set_U_u8 (c : O40) (v : List Nat) (h : legal ms (abv 31) v = true) :
    (c.set (abv 31) v).1.u8 % 64 = 0 := by
  obtain ⟨k, hk, e, i, _, _, hs⟩ := layout40.set_legal tableOK c h
  obtain rfl : 31 = k := Bits.abv_inj tableOK (by decide) hk e
  exact (congrArg (·.1.u8 % 64) hs).trans (upd_u8_U c i)

end Proofs.B40
