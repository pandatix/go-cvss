import Cvss.Proofs.Parse3Loop
import Cvss.Proofs.DefectMove
/-!
# v3 parser proofs: the error value for each kind of single defect (for C18)

Each lemma takes a witness list (`IsWit`), damages it in one way and computes `Model.parse3` on the
rendering. Generic in the header and in the `Contract`.
-/
namespace Proofs.Parse3
open Spec (Bytes Pair Metric render joinSlash legal isMetric findMetric abvs valueOf allLegal SLASH COLON insertAt)

variable {O : Type}

/-- `hdr/p₁/…/pₙ` -/
def rend (hdr : Bytes) (L : List Pair) : Bytes := hdr ++ SLASH :: joinSlash (L.map render)

theorem parse3_rend (hdr : Bytes) (zero : O) (set : O → Bytes → Bytes → O × Go.Err) (L : List Pair)
    (hne : L ≠ []) (hs : ∀ p ∈ L, SLASH ∉ render p) :
    Model.parse3 (hdr ++ [SLASH]) zero set (rend hdr L) = Model.loop3 set (L.map render) zero [] := by
  unfold rend
  apply parse3_join
  · simpa using hne
  · intro x hx
    obtain ⟨p, hp, rfl⟩ := List.mem_map.mp hx
    exact hs p hp

theorem loop3_prefix (K : Contract O Spec.V3.metrics) (l1 : List Pair) (hl : allLegal Spec.V3.metrics l1)
    (hn : (l1.map (·.1)).Nodup) (rest : List Bytes) (c : O) (seen : List Bytes)
    (hd : ∀ x ∈ l1.map (·.1), x ∉ seen) :
    Model.loop3 K.set (l1.map render ++ rest) c seen =
      Model.loop3 K.set rest (K.setAll c l1) ((l1.map (·.1)).reverse ++ seen) := by
  rw [loop3_legal K l1 hl, (firstDup_none_iff _ _).mpr ⟨hn, hd⟩]

/-- header defect in the Spec's terms: the part of the string before its first `/` is not the header
    (this includes the header followed by junk) -/
theorem defect_header_headOf (hdr : Bytes) (hh : SLASH ∉ hdr) (zero : O) (set : O → Bytes → Bytes → O × Go.Err)
    (s : Bytes) (h : Spec.headOf s ≠ hdr) : Model.parse3 (hdr ++ [SLASH]) zero set s = .err Model.eHeader :=
  parse3_of_not_prefix fun hp => h ((Spec.headOf_eq_iff s hdr hh).mpr (Or.inr hp))

theorem defect_illegal (K : Contract O Spec.V3.metrics) (hdr : Bytes) (l1 l2 : List Pair) (a x v : Bytes)
    (hw : IsWit (l1 ++ (a, x) :: l2)) (hv : legal Spec.V3.metrics a v = false) (hs : SLASH ∉ v) :
    Model.parse3 (hdr ++ [SLASH]) K.zero K.set (rend hdr (l1 ++ (a, v) :: l2)) = .err Model.eValue := by
  have hax : legal Spec.V3.metrics a x = true := hw.1 (a, x) (by simp)
  obtain ⟨hcol, hsl, _, _⟩ := good.legal_clean (p := (a, x)) hax
  have hl1 : allLegal Spec.V3.metrics l1 := fun p hp => hw.1 p (by simp [hp])
  have hl2 : allLegal Spec.V3.metrics l2 := fun p hp => hw.1 p (by simp [hp])
  have hn := hw.2.1
  rw [List.map_append, List.map_cons, List.nodup_append] at hn
  obtain ⟨hn1, hn2, hn3⟩ := hn
  have hfresh : a ∉ (l1.map (·.1)).reverse ++ [] := by
    intro hin
    have : a ∈ l1.map (·.1) := by simpa using hin
    exact hn3 a this a (by simp) rfl
  have hcut : Model.cutColon (render (a, v)) = (a, v) := Lex.cutColon_append hcol v
  rw [parse3_rend]
  · rw [List.map_append, List.map_cons, loop3_prefix K l1 hl1 hn1 _ _ _ (by simp), loop3_cons, hcut,
      kvmSet_fresh _ a (Table.isMetric_of_legal hax) hfresh]
    simp only [K.set_illegal _ a v (Table.isMetric_of_legal hax) hv]
    rw [if_neg Contract.eValue_ne_nil]
  · simp
  · intro p hp
    rcases List.mem_append.mp hp with hp | hp
    · exact render_no_slash (hl1 p hp)
    · rcases List.mem_cons.mp hp with rfl | hp
      · exact Lex.render_noslash (p := (a, v)) hsl hs
      · exact render_no_slash (hl2 p hp)

theorem defect_remove (K : Contract O Spec.V3.metrics) (hdr : Bytes) (l1 l2 : List Pair) (a x : Bytes)
    (hw : IsWit (l1 ++ (a, x) :: l2)) (ha : a ∈ abvs Spec.V3.base) :
    Model.parse3 (hdr ++ [SLASH]) K.zero K.set (rend hdr (l1 ++ l2)) = .err (Model.eMissing a) := by
  have hl : allLegal Spec.V3.metrics (l1 ++ l2) := by
    intro p hp
    rcases List.mem_append.mp hp with hp | hp
    · exact hw.1 p (by simp [hp])
    · exact hw.1 p (by simp [hp])
  have hn := hw.2.1
  rw [List.map_append, List.map_cons] at hn
  have hn' : ((l1 ++ l2).map (·.1)).Nodup := by
    rw [List.map_append]
    exact hn.sublist (List.Sublist.append_left (List.sublist_cons_self _ _) _)
  have hnot : a ∉ (l1 ++ l2).map (·.1) := by
    rw [List.map_append]
    have := (List.perm_middle.nodup_iff.mp hn)
    rw [List.nodup_cons] at this
    exact this.1
  have hothers : ∀ b ∈ abvs Spec.V3.base, b ≠ a → b ∈ (l1 ++ l2).map (·.1) := by
    intro b hb hne
    obtain ⟨m, hm, rfl⟩ := List.mem_map.mp hb
    have := hw.2.2 m hm
    rw [List.map_append, List.map_cons, List.mem_append, List.mem_cons] at this
    rw [List.map_append, List.mem_append]
    rcases this with h | h | h
    · exact Or.inl h
    · exact absurd h hne
    · exact Or.inr h
  have hne : l1 ++ l2 ≠ [] := by
    obtain ⟨h1, h2, h3⟩ := tbl_two_base
    intro he
    by_cases hav : Spec.b "AV" = a
    · have := hothers _ h2 (fun h => h3 (hav.trans h.symm))
      rw [he] at this; cases this
    · have := hothers _ h1 hav
      rw [he] at this; cases this
  rw [parse3_rend _ _ _ _ hne (fun p hp => render_no_slash (hl p hp))]
  have := loop3_prefix K (l1 ++ l2) hl hn' [] K.zero [] (by simp)
  rw [List.append_nil] at this
  rw [this, loop3_nil, firstMissing_unique _ a ha
    (by rw [List.append_nil, List.mem_reverse]; exact hnot)
    (fun b hb hne => by rw [List.append_nil, List.mem_reverse]; exact hothers b hb hne)]

theorem defect_repeated (K : Contract O Spec.V3.metrics) (hdr : Bytes) (w : List Pair) (a v : Bytes) (j : Nat)
    (hw : IsWit w) (ha : a ∈ w.map (·.1)) (hv : legal Spec.V3.metrics a v = true) :
    Model.parse3 (hdr ++ [SLASH]) K.zero K.set (rend hdr (insertAt w j (a, v))) = .err (Model.eDefinedN a) := by
  unfold insertAt
  have hl : allLegal Spec.V3.metrics (w.take j ++ (a, v) :: w.drop j) := by
    intro p hp
    rcases List.mem_append.mp hp with hp | hp
    · exact hw.1 p (List.mem_of_mem_take hp)
    · rcases List.mem_cons.mp hp with rfl | hp
      · exact hv
      · exact hw.1 p (List.mem_of_mem_drop hp)
  rw [parse3_rend _ _ _ _ (by simp) (fun p hp => render_no_slash (hl p hp))]
  have := loop3_legal K _ hl [] K.zero []
  rw [List.append_nil] at this
  rw [this]
  have hd : firstDup [] ((w.take j ++ (a, v) :: w.drop j).map (·.1)) = some a := by
    rw [List.map_append, List.map_cons, List.map_take, List.map_drop]
    have hn := hw.2.1
    generalize w.map (·.1) = n at ha hn
    show firstDup [] (n.take j ++ a :: n.drop j) = some a
    have hsplit : n = n.take j ++ n.drop j := (List.take_append_drop j n).symm
    rw [hsplit, List.mem_append] at ha
    rcases ha with ha | ha
    · exact firstDup_eq_some _ _ _ _ (hn.sublist (List.take_sublist j n)) (by simp) (Or.inl ha)
    · obtain ⟨d1, d2, hd⟩ := List.append_of_mem ha
      rw [hd, ← List.cons_append, ← List.append_assoc]
      apply firstDup_eq_some _ _ _ _ _ (by simp) (Or.inl (by simp))
      rw [hsplit, hd, ← List.append_assoc] at hn
      have h2 := List.perm_middle.nodup_iff.mp hn
      rw [List.perm_middle.nodup_iff]
      exact h2.sublist (List.Sublist.cons_cons _ (List.sublist_append_left _ _))
  rw [hd]

theorem defect_unknown (K : Contract O Spec.V3.metrics) (hdr : Bytes) (w : List Pair) (a v : Bytes) (j : Nat)
    (hw : IsWit w) (ha : isMetric Spec.V3.metrics a = false) (hc : Spec.clean a = true) (hv : SLASH ∉ v) :
    Model.parse3 (hdr ++ [SLASH]) K.zero K.set (rend hdr (insertAt w j (a, v))) =
      .err (Model.eInvalidMetric a) := by
  unfold insertAt
  have hc' : SLASH ∉ a ∧ COLON ∉ a := by
    unfold Spec.clean at hc
    rw [Bool.and_eq_true, Bool.not_eq_true', Bool.not_eq_true'] at hc
    constructor
    · intro h; have := List.contains_iff_mem.mpr h; rw [hc.1] at this; cases this
    · intro h; have := List.contains_iff_mem.mpr h; rw [hc.2] at this; cases this
  have hl1 : allLegal Spec.V3.metrics (w.take j) := fun p hp => hw.1 p (List.mem_of_mem_take hp)
  have hl2 : allLegal Spec.V3.metrics (w.drop j) := fun p hp => hw.1 p (List.mem_of_mem_drop hp)
  have hn1 : ((w.take j).map (·.1)).Nodup := by
    rw [List.map_take]; exact hw.2.1.sublist (List.take_sublist _ _)
  have hcut : Model.cutColon (render (a, v)) = (a, v) := Lex.cutColon_append hc'.2 v
  rw [parse3_rend]
  · rw [List.map_append, List.map_cons, loop3_prefix K _ hl1 hn1 _ _ _ (by simp), loop3_cons, hcut,
      kvmSet_unknown _ a ha]
  · simp
  · intro p hp
    rcases List.mem_append.mp hp with hp | hp
    · exact render_no_slash (hl1 p hp)
    · rcases List.mem_cons.mp hp with rfl | hp
      · exact Lex.render_noslash (p := (a, v)) hc'.1 hv
      · exact render_no_slash (hl2 p hp)

theorem split_at_getElem? {α : Type} {w : List α} {i : Nat} {p : α} (h : w[i]? = some p) :
    ∃ l1 l2, w = l1 ++ p :: l2 ∧ l1.length = i := by
  obtain ⟨hi, rfl⟩ := List.getElem?_eq_some_iff.mp h
  refine ⟨w.take i, w.drop (i + 1), ?_, by simp [Nat.le_of_lt hi]⟩
  rw [List.getElem_cons_drop, List.take_append_drop]

end Proofs.Parse3
