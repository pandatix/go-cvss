import Cvss.Proofs.Score3MonoObj
import Cvss.Proofs.Bits30
import Cvss.Proofs.Bits31
/-!
# C12 (v3.0 / v3.1 part) — more severe never scores lower

"Changing a single metric to a more severe value of the specification's ordering (others fixed) never decreases the
score." For every well-formed object `c`, **every** metric `a` (all 22) and legal values `v₁`, `v₂` with
`Spec.atLeastAsSevere Spec.V3.metrics Spec.V3.rank (values of c) a v₁ v₂` (order of `Spec/Effective.lean`: AV N>A>L>P,
AC L>H, PR N>L>H, UI N>R, S C>U, C/I/A H>L>N, E H>F>P>U, RL U>W>T>O, RC C>R>U, CR/IR/AR H>M>L, `X` as its default;
Modified metrics like their base metric, a Modified `X` ranks as the base metric's current value):

* v3.1: `BaseScore`, `TemporalScore` **and `EnvironmentalScore`** of `c.Set(a, v₁)` are `≤` (IEEE, `F64.le`) those of
  `c.Set(a, v₂)`;
* v3.0: `BaseScore` and `TemporalScore`.  For the v3.0 `EnvironmentalScore` the statement is **false** — already for
  the v3.0 specification equations (the reason the v3.1 ModifiedImpact formula was changed): `v30_environmental_not_monotone`.

Metrics a score does not depend on (e.g. `E` for BaseScore, `AV` when `MAV` is defined) are included: the score is
then unchanged. Scope (`S`, `MS`: C > U, with the scope-dependent PR weight, the changed-scope Impact formula and the
factor 1.08) is included.

Proof: monotonicity of the exact Spec (`Proofs/Score3Mono*.lean`: kernel enumeration of the equations on metric codes
for the Base score and the Temporal step, per component and context, and for the modified base score on the values of
`MISS` and of the exploitability, which are monotone in the codes; then product order),
transferred by C03 (`score = tenth k`) and the Get/Set contract (`Bits30/31`).
-/
namespace Props.C12v3
open Model Spec Proofs.Score3.Mono

abbrev ms : List Metric := Spec.V3.metrics

section v31
variable (c : O31) (h : c.wf = true) (a v₁ v₂ : Spec.Bytes) (l1 : legal ms a v₁ = true) (l2 : legal ms a v₂ = true)
  (sev : atLeastAsSevere ms Spec.V3.rank (fun x => (c.get x).1) a v₁ v₂ = true)
include h l1 l2 sev

theorem base_v31 : F64.le (c.set a v₁).1.baseScore (c.set a v₂).1.baseScore = true :=
  set_le Bits31.contract31 Props.C03.base_v31 c h l1 l2 (base_spec_mono (legalVec Bits31.contract31 c h) l1 l2 sev true).1

theorem temporal_v31 : F64.le (c.set a v₁).1.temporalScore (c.set a v₂).1.temporalScore = true :=
  set_le Bits31.contract31 Props.C03.temporal_v31 c h l1 l2 (temporal_spec_mono (legalVec Bits31.contract31 c h) l1 l2 sev true)

theorem environmental_v31 : F64.le (c.set a v₁).1.environmentalScore (c.set a v₂).1.environmentalScore = true :=
  set_le Bits31.contract31 Props.C03.environmental_v31 c h l1 l2 (env_spec_mono (legalVec Bits31.contract31 c h) l1 l2 sev)
end v31

section v30
variable (c : O30) (h : c.wf = true) (a v₁ v₂ : Spec.Bytes) (l1 : legal ms a v₁ = true) (l2 : legal ms a v₂ = true)
  (sev : atLeastAsSevere ms Spec.V3.rank (fun x => (c.get x).1) a v₁ v₂ = true)
include h l1 l2 sev

theorem base_v30 : F64.le (c.set a v₁).1.baseScore (c.set a v₂).1.baseScore = true :=
  set_le Bits30.contract30 Props.C03.base_v30 c h l1 l2 (base_spec_mono (legalVec Bits30.contract30 c h) l1 l2 sev false).1

theorem temporal_v30 : F64.le (c.set a v₁).1.temporalScore (c.set a v₂).1.temporalScore = true :=
  set_le Bits30.contract30 Props.C03.temporal_v30 c h l1 l2 (temporal_spec_mono (legalVec Bits30.contract30 c h) l1 l2 sev false)
end v30

/-! ## the Spec itself (no code): the statement on the FIRST equations -/

/-- for a legal assignment `f` of value strings, the exact v3.1 Environmental score (tenths) does not decrease; same
    for Base and Temporal of both versions (`base_spec_mono`, `temporal_spec_mono`) -/
theorem spec_environmental_v31 (f : Spec.Bytes → Spec.Bytes) (hf : LegalVec f) (a v₁ v₂ : Spec.Bytes)
    (l1 : legal ms a v₁ = true) (l2 : legal ms a v₂ = true) (sev : atLeastAsSevere ms Spec.V3.rank f a v₁ v₂ = true) :
    Spec.V3.environmentalK true (EffKeys.upd f a v₁) ≤ Spec.V3.environmentalK true (EffKeys.upd f a v₂) :=
  env_spec_mono hf l1 l2 sev

/-- `CVSS:3.x/AV:N/AC:L/PR:N/UI:N/S:U/C:N/I:N/A:N/CR:L/IR:H/AR:H/MAV:P/MAC:H/MPR:H/MUI:R/MS:C/MC:N/MI:L/MA:H` -/
def w31 : O31 := ⟨1, 80, 6, 178, 235, 144⟩
def w30 : O30 := ⟨1, 80, 6, 178, 235, 144⟩

/-- a non-trivial instance: `MC:N → MC:L` (more severe) on `w31`; scores 6.9 ≤ 6.9 -/
example : w31.wf = true ∧ legal ms (b "MC") (b "N") = true ∧ legal ms (b "MC") (b "L") = true ∧
    atLeastAsSevere ms Spec.V3.rank (fun x => (w31.get x).1) (b "MC") (b "N") (b "L") = true ∧
    (w31.set (b "MC") (b "N")).1.environmentalScore = F64.tenth 69 ∧
    (w31.set (b "MC") (b "L")).1.environmentalScore = F64.tenth 69 := by decide +kernel
/-- a step through a Modified `X`: `MS:X` (ranks as `S:U`) `→ MS:C`; scores 0.0 ≤ 6.9 … -/
example : atLeastAsSevere ms Spec.V3.rank (fun x => (w31.get x).1) (b "MS") (b "X") (b "C") = true ∧
    F64.le (w31.set (b "MS") (b "X")).1.environmentalScore (w31.set (b "MS") (b "C")).1.environmentalScore = true ∧
    (w31.set (b "MS") (b "X")).1.environmentalScore ≠ (w31.set (b "MS") (b "C")).1.environmentalScore := by decide +kernel

/-- **v3.0 EnvironmentalScore is not monotone**: on `w30`, raising `MC` from `N` to the more severe `L` lowers the score
    from 6.9 to 6.8. The same happens in the exact v3.0 specification equations (`Spec.V3.environmentalK false` gives 69
    and 68 tenths), so this is a property of CVSS v3.0, faithfully reproduced by the code — not an implementation defect. -/
theorem v30_environmental_not_monotone :
    w30.wf = true ∧ legal ms (b "MC") (b "N") = true ∧ legal ms (b "MC") (b "L") = true ∧
    atLeastAsSevere ms Spec.V3.rank (fun x => (w30.get x).1) (b "MC") (b "N") (b "L") = true ∧
    F64.le (w30.set (b "MC") (b "N")).1.environmentalScore (w30.set (b "MC") (b "L")).1.environmentalScore = false ∧
    (w30.set (b "MC") (b "N")).1.environmentalScore = F64.tenth 69 ∧
    (w30.set (b "MC") (b "L")).1.environmentalScore = F64.tenth 68 ∧
    Spec.V3.environmentalK false (fun x => ((w30.set (b "MC") (b "N")).1.get x).1) = 69 ∧
    Spec.V3.environmentalK false (fun x => ((w30.set (b "MC") (b "L")).1.get x).1) = 68 := by decide +kernel

end Props.C12v3
