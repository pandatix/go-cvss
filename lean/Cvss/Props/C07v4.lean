import Cvss.Proofs.Reach40
/-!
# C07 (CVSS v4.0) — Get/Set round trip, frame, failed Set, equality of objects

"On any reachable object, a successful Set(m, v) makes Get(m) return v and leaves the value of every other metric
unchanged; a failed Set (unknown metric or illegal value) leaves the whole object unchanged. Two objects holding
the same metric values are equal under ==, whatever sequence of calls produced them."

All of it is proved from the generated `GenV40.Get` / `GenV40.Set`. The Get/Set parts hold for **every** object
`c : O40` (any nine `Nat`s, hence every byte state), which is stronger than "reachable"; the equality part needs
well-formedness (= reachability, `reachable_iff_wf`) because `Set("U", …)` clears the six unused bits of `u8`
that no `Get` can see (`set_U_clears_unused_bits`, `raw_counterexample`).
-/
namespace C07.V40
open Model (O40)
open Spec (b legal isMetric)
open Proofs.B40

/-- a `Set` that returns a nil error stored a legal value, reads back, and leaves all 31 other metrics alone -/
theorem set_success (c : O40) (m v : List Nat) (h : (c.set m v).2 = Go.errNil) :
    legal Spec.V4.metrics m v = true ∧ (c.set m v).1.get m = (v, Go.errNil) ∧
      ∀ m', isMetric Spec.V4.metrics m' = true → m' ≠ m → (c.set m v).1.get m' = c.get m' :=
  have hl := (Bits.set_ok_iff contract40 c m v).mp h
  ⟨hl, contract40.get_set_same c m v hl, fun m' hm' hne => contract40.get_set_other c m v m' hl hm' hne⟩

/-- a `Set` that returns an error (unknown metric or illegal value) leaves the whole object unchanged -/
theorem set_failure (c : O40) (m v : List Nat) (h : (c.set m v).2 ≠ Go.errNil) : (c.set m v).1 = c :=
  Bits.set_fail_unchanged contract40 c m v h

/-- … and it fails exactly when the metric is unknown or the value is not one of the metric's Spec values -/
theorem set_fails_iff (c : O40) (m v : List Nat) :
    (c.set m v).2 ≠ Go.errNil ↔ (isMetric Spec.V4.metrics m = false ∨ legal Spec.V4.metrics m v = false) := by
  constructor
  · intro h
    rcases Bits.set_cases contract40 c m v with ⟨_, hs⟩ | ⟨hm, _⟩ | ⟨_, hl, _⟩
    · exact absurd hs h
    · exact Or.inl hm
    · exact Or.inr hl
  · rintro (hm | hl)
    · exact fun e => Bits.eInvalidMetric_ne_nil m ((congrArg Prod.snd (contract40.set_unknown c m v hm)).symm.trans e)
    · exact (Bits.set_refuses contract40 c m v hl).1

/-- two reachable objects holding the same metric values are the same object (Go `==` on the struct),
    whatever sequence of calls produced them -/
theorem eq_of_same_values (c c' : O40) (hr : O40.Reachable c) (hr' : O40.Reachable c')
    (h : ∀ m ∈ Spec.V4.metrics, (c.get m.abv).1 = (c'.get m.abv).1) : c = c' :=
  have w := (reachable_iff_wf c).1 hr
  have w' := (reachable_iff_wf c').1 hr'
  contract40.ext c c' w w' fun m hm =>
    Prod.ext (h m hm) ((contract40.wf_get c w m hm).1.trans (contract40.wf_get c' w' m hm).1.symm)

/-- storing the value a metric already has is the identity on reachable objects -/
theorem set_same_value (c : O40) (hr : O40.Reachable c) (m : Spec.Metric) (hm : m ∈ Spec.V4.metrics) :
    c.set m.abv (c.get m.abv).1 = (c, Go.errNil) :=
  Bits.set_get_id contract40 tableOK c ((reachable_iff_wf c).1 hr) m hm

theorem set_bytes (c : O40) (m v : List Nat) (hc : c.IsBytes) : (c.set m v).1.IsBytes := set_isBytes c m v hc

/-- What is *not* true on arbitrary byte states: `Set("U", v)` does not preserve the unused low six bits of
    `u8` — it zeroes them (`u8 = (v & 0b011) << 6`), all other arms keep `u8`. -/
theorem set_U_clears_unused_bits (c : O40) (v : List Nat) (h : legal Spec.V4.metrics (b "U") v = true) :
    (c.set (b "U") v).1.u8 % 64 = 0 := set_U_u8 c v h
theorem set_other_keeps_u8 (c : O40) (m v : List Nat) (h : m ≠ b "U") : (c.set m v).1.u8 = c.u8 :=
  set_notU_u8 c m v h

/-- hence on a non-well-formed byte state a successful `Set(m, Get(m))` can change the object
    (`rawU = ⟨0,…,0,1⟩`: `Get("U") = "X"`, `Set("U","X")` yields the zero object). -/
theorem raw_counterexample :
    rawU.IsBytes ∧ rawU.get (b "U") = (b "X", Go.errNil) ∧
      rawU.set (b "U") (b "X") = (O40.zero, Go.errNil) ∧ O40.zero ≠ rawU :=
  ⟨by unfold O40.IsBytes rawU; decide, by decide +kernel, by decide +kernel, by decide⟩

/-! Satisfiability of the hypotheses on concrete non-trivial objects. -/
def c1 : O40 := (((O40.zero.set (b "AV") (b "L")).1.set (b "MSI") (b "S")).1.set (b "U") (b "Amber")).1
def c2 : O40 := ((((O40.zero.set (b "U") (b "Amber")).1.set (b "MSI") (b "N")).1.set (b "AV") (b "L")).1.set (b "MSI") (b "S")).1
example : O40.Reachable c1 := .set _ _ _ (.set _ _ _ (.set _ _ _ .zero))
example : (c1.set (b "MAC") (b "L")).2 = Go.errNil ∧ (c1.set (b "MAC") (b "L")).1.get (b "MAC") = (b "L", Go.errNil)
    ∧ (c1.set (b "MAC") (b "L")).1.get (b "MSI") = (b "S", Go.errNil) := by decide +kernel
example : (c1.set (b "MAC") (b "N")).2 ≠ Go.errNil ∧ (c1.set (b "mac") (b "L")).2 ≠ Go.errNil := by decide +kernel
/-- different histories, same values, same object -/
example : c1 = c2 := by decide +kernel

end C07.V40
