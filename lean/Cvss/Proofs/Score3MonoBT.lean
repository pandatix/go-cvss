import Cvss.Proofs.Score3MonoTab
/-! C12 (v3.0 and v3.1), Spec enumeration: Base (2 × 1,296 tuples, all 8 components) and the Temporal step -/
namespace Proofs.Score3.Mono
theorem monoBase_ok : monoBase = true := by decide +kernel
theorem monoT_ok : monoT = true := by decide +kernel
end Proofs.Score3.Mono
