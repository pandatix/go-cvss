import Cvss.Proofs.Score2Base
import Cvss.Proofs.Score2F
import Cvss.Proofs.Score2T2
import Cvss.Proofs.Score2RB0
import Cvss.Proofs.Score2RB1
import Cvss.Proofs.Score2RB2
/-!
# C05/C11/C12 (v2.0): the evaluated tables as universally quantified statements

Nothing is evaluated here; the table theorems (`decide +kernel`) are only re-packaged as `∀ codes in range, …`,
the code 0 of an optional metric being covered by `okRB_ndR`, `okT2_nd`, `okF_nd`.
-/
namespace Proofs.Score2
open Spec.V2

theorem lt3 {n : Nat} (h : n < 3) : n = 0 ∨ n = 1 ∨ n = 2 := by omega

theorem base_tbl {c i a av ac au : Nat} (hc : c < 3) (hi : i < 3) (ha : a < 3) (hav : av < 3) (hac : ac < 3)
    (hau : au < 3) : okBase c i a av ac au = true :=
  all_range (all_range (all_range (all_range (all_range (all_range base_chunk hc) hi) ha) hav) hac) hau

theorem sub_tbl {p q r : Nat} (hp : p < 3) (hq : q < 3) (hr : r < 3) :
    (closeTo (GenV20.Impact_core p q r) (XI p q r) && closeTo (GenV20.Exploitability_core p q r) (XE p q r)) = true :=
  all_range (all_range (all_range sub_chunk hp) hq) hr

theorem monoBase_tbl {c i a av ac au : Nat} (hc : c < 3) (hi : i < 3) (ha : a < 3) (hav : av < 3) (hac : ac < 3)
    (hau : au < 3) : monoBase c i a av ac au = true :=
  all_range (all_range (all_range (all_range (all_range (all_range mono_base_chunk hc) hi) ha) hav) hac) hau

theorem rb_all : ∀ c, c < 3 → rbTable c = true
  | 0, _ => rb_table_0
  | 1, _ => rb_table_1
  | 2, _ => rb_table_2
  | c + 3, h => absurd h (by omega)

/-- the entry of the table: requirement codes from `reqs`, `(i, ir)` not above `(c, cr)` -/
theorem rb_entry {c i a cr ir ar av ac au : Nat} (hc : c < 3) (ha : a < 3) (hcr : cr ∈ reqs c) (hir : ir ∈ reqs i)
    (har : ar ∈ reqs a) (hle : i < c ∨ (i = c ∧ ir ≤ cr)) (hav : av < 3) (hac : ac < 3) (hau : au < 3) :
    okRB c i a cr ir ar av ac au = true := by
  have hf : ir ∈ (reqs i).filter fun ir => Nat.blt i c || Nat.ble ir cr := by
    rw [List.mem_filter, Bool.or_eq_true, Nat.blt_eq, Nat.ble_eq]
    exact ⟨hir, hle.imp id And.right⟩
  exact all_range (all_range (all_range (all_mem (all_mem (all_mem (all_range (all_range (rb_all c hc) (i := i) (by omega)) ha)
    hcr) hf) har) hav) hac) hau

theorem rb_tbl {c i a cr ir ar av ac au : Nat} (hc : c < 3) (hi : i < 3) (ha : a < 3) (hcr : cr < 4) (hir : ir < 4)
    (har : ar < 4) (hav : av < 3) (hac : ac < 3) (hau : au < 3) : okRB c i a cr ir ar av ac au = true := by
  rw [← okRB_ndR c i a hcr hir har]
  have mc := ndR_mem c hcr
  have mi := ndR_mem i hir
  by_cases hle : i < c ∨ (i = c ∧ ndR i ir ≤ ndR c cr)
  · exact rb_entry hc ha mc mi (ndR_mem a har) hle hav hac hau
  · rw [okRB_swap hc hi (reqs_lt c mc) (reqs_lt i mi)]
    exact rb_entry hi ha mi mc (ndR_mem a har) (by omega) hav hac hau

theorem bitsOK_cases {fl : Nat} {k : Int} (h : bitsOK fl k = true) : fl = tenthI k ∨ (k = 0 ∧ fl = NEG0) := by
  simp only [bitsOK, Bool.or_eq_true, Bool.and_eq_true, decide_eq_true_eq] at h
  rcases h with h | ⟨h1, h2⟩
  · exact Or.inl (Nat.eq_of_beq_eq_true h)
  · exact Or.inr ⟨h1, Nat.eq_of_beq_eq_true h2⟩

theorem inK_eq (j : Nat) : inK j = (j : Int) - 2 := by
  simp [inK, Int.subNatNat_eq_coe]

theorem exists_inK {kb : Int} (h1 : -2 ≤ kb) (h2 : kb ≤ 100) : ∃ j, j < 103 ∧ inK j = kb :=
  ⟨(kb + 2).toNat, by omega, by rw [inK_eq]; omega⟩

theorem t2_tbl {kb : Int} (h1 : -2 ≤ kb) (h2 : kb ≤ 100) {fl : Nat} (hb : bitsOK fl kb = true)
    {e rl rc : Nat} (he : e < 5) (hrl : rl < 5) (hrc : rc < 4) : okT2 fl kb e rl rc = true := by
  have h : t2Codes fl kb = true := by
    rcases bitsOK_cases hb with rfl | ⟨rfl, rfl⟩
    · obtain ⟨j, hj, rfl⟩ := exists_inK h1 h2
      simpa only [iflet_eq, flet_eq] using all_range t2_table hj
    · exact t2_neg0
  rw [← okT2_nd]
  exact all_mem (all_mem (all_mem h (nd_mem (by decide) (by decide) (Nat.le_of_lt_succ he)))
    (nd_mem (by decide) (by decide) (Nat.le_of_lt_succ hrl))) (nd_mem (by decide) (by decide) (Nat.le_of_lt_succ hrc))

theorem f_tbl {kt : Int} (h1 : -2 ≤ kt) (h2 : kt ≤ 100) {fl : Nat} (hb : bitsOK fl kt = true)
    {cdp td : Nat} (hcdp : cdp < 6) (htd : td < 5) : okF fl kt cdp td = true := by
  have h : fCodes fl kt = true := by
    rcases bitsOK_cases hb with rfl | ⟨rfl, rfl⟩
    · obtain ⟨j, hj, rfl⟩ := exists_inK h1 h2
      simpa only [iflet_eq, flet_eq] using all_range f_table hj
    · exact f_neg0
  rw [← okF_nd]
  exact all_mem (all_mem h (nd_mem (by decide) (by decide) (Nat.le_of_lt_succ hcdp)))
    (nd_mem (by decide) (by decide) (Nat.le_of_lt_succ htd))

theorem eq_tbl {k : Int} (h1 : -2 ≤ k) (h2 : k ≤ 100) {fl : Nat} (hb : bitsOK fl k = true) :
    F64.eq fl (tenthI k) = true ∧ F64.isFin fl = true := by
  have h := eq_chunk
  simp only [eqChunk, Bool.and_eq_true] at h
  rcases bitsOK_cases hb with rfl | ⟨rfl, rfl⟩
  · obtain ⟨j, hj, rfl⟩ := exists_inK h1 h2
    have := all_range h.1.1 hj
    simpa only [iflet_eq, flet_eq, Bool.and_eq_true] using this
  · exact ⟨h.1.2, h.2⟩

end Proofs.Score2
