import Cvss.Proofs.Vec30
import Cvss.Proofs.Bits31
/-!
# v3.1: the generated `Vector()` writes the Spec canonical form, and `lenVec()` is its length

* `vector_eq` (A): for **every** object `c`
  `c.vector = Spec.V3.canonical header31 (metrics.map fun m => (m.abv, (c.get m.abv).1))`, from the generated
  `Vector_core` as for v3.0 (`Vec30.lean`); the two differ in one byte of the header.
* `length_formula` (B, every object): `c.vector.length + #{metrics that do not read as a legal value} = c.lenVec`.
  The generated `Get` and `lenVec` of package 31 are those of package 30, definition for definition, and the
  headers are equally long, so this is `Vec30.length_formula` on the same six bytes.
-/
namespace Proofs.Vec31
open Spec Proofs.Vec
open Model (O31)

theorem mand_eq (b pre v : Spec.Bytes) : GenV31.mandatory b pre v = b ++ (pre ++ v) :=
  List.append_assoc b pre v

theorem nm_eq (b pre v : Spec.Bytes) : GenV31.notMandatory b pre v = b ++ opt pre v :=
  notMandatory_eq b pre v

theorem core_shape (r0 r1 r2 r3 r4 r5 r6 r7 r8 r9 r10 r11 r12 r13 r14 r15 r16 r17 r18 r19 r20 r21 r22 r23 r24
    r25 r26 r27 r28 r29 r30 r31 r32 r33 : Nat) :
    GenV31.Vector_core r0 r1 r2 r3 r4 r5 r6 r7 r8 r9 r10 r11 r12 r13 r14 r15 r16 r17 r18 r19 r20 r21 r22 r23 r24
      r25 r26 r27 r28 r29 r30 r31 r32 r33
    = V3.header31 ++ emit V3.metrics
        (GenV31.get_core r15 r16 r17 r18 r19 r20 r21 r22 r0 r23 r24 r25 r26 r27 r28 r12 r29 r30 r31 r8 r32 r33) := by
  simp only [GenV31.Vector_core, flet_eq, mand_eq, nm_eq]
  generalize GenV31.get_core r15 r16 r17 r18 r19 r20 r21 r22 r0 r23 r24 r25 r26 r27 r28 r12 r29 r30 r31 r8 r32 r33 = G
  simp [emit, piece, opt, render, V3.metrics, V3.base, V3.temporal, V3.environmental, V3.header31, mand, optX,
    Spec.b, SLASH, COLON]

/-- the private `get` of `Vector()` is the first component of the public `Get` -/
theorem get_fst (c : O31) : (fun a => (c.get a).1) = GenV31.get c.u0 c.u1 c.u2 c.u3 c.u4 c.u5 := rfl

theorem vector_shape (c : O31) : c.vector = V3.header31 ++ emit V3.metrics (fun a => (c.get a).1) := by
  rw [get_fst]
  unfold O31.vector GenV31.Vector GenV31.get
  rw [core_shape]

/-- **(A)** `Vector()` spells the canonical form of the object's own values — for every object. -/
theorem vector_eq (c : O31) :
    c.vector = V3.canonical V3.header31 (V3.metrics.map fun m => (m.abv, (c.get m.abv).1)) := by
  rw [vector_shape]; exact (V3_canonical_eq V3.header31 _).symm

open Bits31 (to30)

/-- by unfolding `GenV31.Get` and `GenV30.Get`: a change to either package's `Get` or `lenVec` alone breaks these -/
theorem get_to30 (c : O31) : (to30 c).get = c.get := rfl
theorem lenVec_to30 (c : O31) : (to30 c).lenVec = c.lenVec :=
  show GenV30.lenVec c.u0 c.u1 c.u2 c.u3 c.u4 c.u5 = GenV31.lenVec c.u0 c.u1 c.u2 c.u3 c.u4 c.u5 from rfl

theorem length_to30 (c : O31) : (to30 c).vector.length = c.vector.length := by
  rw [vector_shape, Vec30.vector_shape, get_to30, List.length_append, List.length_append]
  exact congrArg (· + _) (by decide : V3.header30.length = V3.header31.length)

/-- **(B)** for every object: `len(Vector())` + number of metrics reading as an illegal value = `lenVec()` -/
theorem length_formula (c : O31) :
    c.vector.length + (V3.metrics.map fun m => bad m (c.get m.abv).1).sum = c.lenVec := by
  rw [← length_to30, ← get_to30, ← lenVec_to30]
  exact Vec30.length_formula (to30 c)

/-- a sample: a well-formed object, and what `Vector()` writes for it -/
example : (⟨110, 194, 1, 16, 0, 48⟩ : O31).wf = true := by decide +kernel
example : (⟨110, 194, 1, 16, 0, 48⟩ : O31).vector
    = b "CVSS:3.1/AV:A/AC:H/PR:L/UI:R/S:C/C:L/I:N/A:H/E:F/IR:M/MAV:P/MA:N" := by decide +kernel

/-- On non-well-formed byte states the equality fails: code 5 in the `E` field reads as `""`; `lenVec` adds 4 for
    `/E:` + one letter, `Vector` writes only `/E:` (the buffer is over-allocated by one byte, never outgrown). -/
theorem length_ne_example :
    (⟨0, 5, 0, 0, 0, 0⟩ : O31).vector.length = 47 ∧ (⟨0, 5, 0, 0, 0, 0⟩ : O31).lenVec = 48 :=
  ⟨(length_to30 _).symm.trans Vec30.length_ne_example.1, (lenVec_to30 _).symm.trans Vec30.length_ne_example.2⟩

end Proofs.Vec31
