import Cvss.Proofs.Parse4Main
/-!
# C01 (v4.0): `ParseVector` accepts exactly the grammar

`parse K` is the hand-written model `Model.parse40` with the generated `Set`/zero replaced by those of an
arbitrary Get/Set contract `K` (`model_parse`: it *is* `Model.parse40` for the contract of the generated
code). All statements are for every byte string, no length bound.
-/
namespace C01.V4
open Spec (Pair render SLASH COLON abvs b)
open Model (Bytes O40 Res)
open Proofs.P4

variable (K : Proofs.Contract O40 Spec.V4.metrics)

abbrev parse : Bytes → Res O40 := parseK K

theorem model_parse_with : Model.parse40 = parse40With GenV40.const_header GenV40.tbl_order O40.zero O40.set := rfl

theorem model_parse (hz : K.zero = O40.zero) (hs : K.set = O40.set) : Model.parse40 = parse K :=
  parse40_eq_parseK K hz hs

/-- the regenerated tables are the specification's (a changed header or order table breaks these) -/
theorem header_table : GenV40.const_header = Spec.V4.header := header_eq
theorem order_table : GenV40.tbl_order =
    [abvs Spec.V4.base, abvs Spec.V4.threat, abvs Spec.V4.environmental, abvs Spec.V4.supplemental] := order_eq

/-- **C01.** accepted ⇔ grammatical, for every byte string -/
theorem accepts_iff (s : Bytes) : (parse K s).isOk = true ↔ Spec.V4.G s := parseK_isOk_iff K s

theorem no_panic (s : Bytes) : parse K s ≠ .panic := parseK_ne_panic K s

theorem read_iff (s : Bytes) (w : List Pair) : Spec.V4.read? s = some w ↔ Spec.V4.Witness s w :=
  Proofs.P4.read_iff s w

theorem read_isSome_iff (s : Bytes) : (Spec.V4.read? s).isSome = true ↔ Spec.V4.G s := by
  constructor
  · intro h
    obtain ⟨w, hw⟩ := Option.isSome_iff_exists.mp h
    exact ⟨w, (read_iff s w).mp hw⟩
  · rintro ⟨w, hw⟩
    rw [(read_iff s w).mpr hw]; rfl

theorem witness_unique {s : Bytes} {w w' : List Pair} (h : Spec.V4.Witness s w) (h' : Spec.V4.Witness s w') : w = w' :=
  Proofs.P4.witness_unique h h'

/-- the header comes first, and nothing precedes it -/
theorem header_first {s : Bytes} (h : (parse K s).isOk = true) : Spec.V4.header <+: s := by
  obtain ⟨w, hw, _⟩ := (accepts_iff K s).mp h
  exact ⟨_, hw.symm⟩

/-- all eleven base metrics, in the order of Table 23, come first -/
theorem base_in_order {s : Bytes} {w : List Pair} (h : Spec.V4.Witness s w) :
    (w.map (·.1)).take 11 = abvs Spec.V4.base := by
  obtain ⟨_, _, opt, _, h2⟩ := h
  rw [h2, List.take_left' base_length]

/-- the optional metrics follow in the fixed order of Table 23, each at most once -/
theorem optional_in_order {s : Bytes} {w : List Pair} (h : Spec.V4.Witness s w) :
    ((w.map (·.1)).drop 11).Sublist (abvs Spec.V4.optional) ∧ (w.map (·.1)).Nodup := by
  refine ⟨?_, (witness_iff.mp h).2.nodup⟩
  obtain ⟨_, _, opt, h1, h2⟩ := h
  rw [h2, List.drop_left' base_length]; exact h1

/-- case-sensitive, byte-exact: every element is an abbreviation of the table, a colon, and one of
    the values the table lists for it -/
theorem byte_exact {s : Bytes} {w : List Pair} (h : Spec.V4.Witness s w) :
    ∀ p ∈ w, ∃ m ∈ Spec.V4.metrics, p.1 = m.abv ∧ p.2 ∈ m.values := by
  intro p hp
  obtain ⟨m, hm, ha, h2⟩ := Proofs.Table.legal_mem (h.2.1 p hp)
  exact ⟨m, hm, ha.symm, h2⟩

/-- the elements of an accepted string (between the `/`s after the header) are exactly the renderings
    `abv:value` of the witness: no empty element, nothing but one colon-separated pair per element -/
theorem elements {s : Bytes} {w : List Pair} (h : Spec.V4.Witness s w) :
    Spec.splitSlash (s.drop (Spec.V4.header.length + 1)) = w.map render := by
  obtain ⟨rfl, hv⟩ := witness_iff.mp h
  have hne : w ≠ [] := fun e => by have := hv.length; rw [e] at this; simp at this
  rw [← List.drop_drop, List.drop_left, body_eq hne, List.drop_one, List.tail_cons,
    Proofs.Lex.splitSlash_join_render hne (fun q hq => (hv.lex q hq).2)]

/-- no empty element (so no `//` and no trailing `/`) -/
theorem no_empty_element {s : Bytes} (h : Spec.V4.G s) :
    ∀ el ∈ Spec.splitSlash (s.drop (Spec.V4.header.length + 1)), el ≠ [] := by
  obtain ⟨w, hw⟩ := h
  rw [elements hw]
  intro el hel
  obtain ⟨p, _, rfl⟩ := List.mem_map.mp hel
  simp [render]

theorem no_trailing_slash {s : Bytes} (h : Spec.V4.G s) : s.getLast? ≠ some SLASH := by
  obtain ⟨w, hw⟩ := h
  obtain ⟨rfl, hv⟩ := witness_iff.mp hw
  have hlen := hv.length
  rcases List.eq_nil_or_concat w with e | ⟨w', p, e⟩
  · subst e; simp at hlen
  · subst e
    rw [List.concat_eq_append, body_append, body_cons, body_nil, List.append_nil, ← List.append_assoc,
      show SLASH :: render p = [SLASH] ++ render p from rfl, ← List.append_assoc, List.getLast?_append]
    have hne : (render p).getLast? ≠ none := by
      rw [ne_eq, List.getLast?_eq_none_iff]; simp [render]
    cases hg : (render p).getLast? with
    | none => exact absurd hg hne
    | some x =>
      simp only [Option.some_or, ne_eq, Option.some.injEq]
      intro hx
      subst hx
      exact (hv.lex p (by simp)).2 (List.mem_of_getLast? hg)

/-! ## concrete strings (evaluated through the recogniser) -/

theorem not_G_of_read {s : Bytes} (h : Spec.V4.read? s = none) : ¬ Spec.V4.G s := by
  intro hg
  have := (read_isSome_iff s).mpr hg
  rw [h] at this; simp at this

/-- a full vector with threat, environmental and supplemental metrics is grammatical -/
example : Spec.V4.G (b "CVSS:4.0/AV:N/AC:L/AT:N/PR:N/UI:N/VC:H/VI:H/VA:H/SC:N/SI:N/SA:N/E:A/MSI:S/U:Red") :=
  (read_isSome_iff _).mp (by decide +kernel)
/-- lower-case header, abbreviation or value: rejected -/
example : ¬ Spec.V4.G (b "cvss:4.0/AV:N/AC:L/AT:N/PR:N/UI:N/VC:H/VI:H/VA:H/SC:N/SI:N/SA:N") := not_G_of_read (by decide +kernel)
example : ¬ Spec.V4.G (b "CVSS:4.0/av:N/AC:L/AT:N/PR:N/UI:N/VC:H/VI:H/VA:H/SC:N/SI:N/SA:N") := not_G_of_read (by decide +kernel)
example : ¬ Spec.V4.G (b "CVSS:4.0/AV:n/AC:L/AT:N/PR:N/UI:N/VC:H/VI:H/VA:H/SC:N/SI:N/SA:N") := not_G_of_read (by decide +kernel)
example : ¬ Spec.V4.G (b "CVSS:4.0/AV:N/AC:L/AT:N/PR:N/UI:N/VC:H/VI:H/VA:H/SC:N/SI:N/SA:N/U:red") := not_G_of_read (by decide +kernel)
/-- trailing `/`, empty element, optional metric repeated or out of order, base metric missing: rejected -/
example : ¬ Spec.V4.G (b "CVSS:4.0/AV:N/AC:L/AT:N/PR:N/UI:N/VC:H/VI:H/VA:H/SC:N/SI:N/SA:N/") := not_G_of_read (by decide +kernel)
example : ¬ Spec.V4.G (b "CVSS:4.0/AV:N/AC:L/AT:N/PR:N/UI:N/VC:H/VI:H/VA:H/SC:N/SI:N/SA:N//E:A") := not_G_of_read (by decide +kernel)
example : ¬ Spec.V4.G (b "CVSS:4.0/AV:N/AC:L/AT:N/PR:N/UI:N/VC:H/VI:H/VA:H/SC:N/SI:N/SA:N/E:A/E:A") := not_G_of_read (by decide +kernel)
example : ¬ Spec.V4.G (b "CVSS:4.0/AV:N/AC:L/AT:N/PR:N/UI:N/VC:H/VI:H/VA:H/SC:N/SI:N/SA:N/CR:H/E:A") := not_G_of_read (by decide +kernel)
example : ¬ Spec.V4.G (b "CVSS:4.0/AV:N/AC:L/PR:N/UI:N/VC:H/VI:H/VA:H/SC:N/SI:N/SA:N") := not_G_of_read (by decide +kernel)
example : ¬ Spec.V4.G (b "CVSS:4.0AV:N/AC:L/AT:N/PR:N/UI:N/VC:H/VI:H/VA:H/SC:N/SI:N/SA:N") := not_G_of_read (by decide +kernel)

/-! ## for `Model.parse40` itself, given the contract instance of the generated code -/

theorem accepts_iff_model (hz : K.zero = O40.zero) (hs : K.set = O40.set) (s : Bytes) :
    (Model.parse40 s).isOk = true ↔ Spec.V4.G s := by
  rw [model_parse K hz hs]; exact accepts_iff K s

theorem no_panic_model (hz : K.zero = O40.zero) (hs : K.set = O40.set) (s : Bytes) : Model.parse40 s ≠ .panic := by
  rw [model_parse K hz hs]; exact no_panic K s

end C01.V4
