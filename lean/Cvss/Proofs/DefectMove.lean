import Cvss.Spec.Errors
/-!
# List facts for the `move` defect, and `Defect.apply` read backwards (C18)

`Spec.Defect.move i j` turns `w` into `insertAt (w.eraseIdx i) j w[i]`: element `i` is taken out and put
back so that it ends up at position `j` of the result. Facts used by the v2.0 and v4.0 proofs: the
result has the same length and the same elements, the moved element sits at `j`, and its new neighbour
(`j+1` when moved to the front, `j-1` when moved to the back) is the element that was at position `j`
of the original list — so the two stand in the opposite order.
-/
namespace Proofs.Move
open Spec (insertAt)

theorem getElem?_insertAt {α} (xs : List α) (j : Nat) (x : α) (hj : j ≤ xs.length) (k : Nat) :
    (insertAt xs j x)[k]? = if k < j then xs[k]? else if k = j then some x else xs[k - 1]? := by
  unfold insertAt
  rw [List.getElem?_append, List.length_take, Nat.min_eq_left hj]
  by_cases h1 : k < j
  · rw [if_pos h1, if_pos h1, List.getElem?_take, if_pos h1]
  · rw [if_neg h1, if_neg h1, List.getElem?_cons]
    by_cases h2 : k = j
    · rw [if_pos h2, if_pos (by omega)]
    · rw [if_neg h2, if_neg (by omega), List.getElem?_drop]
      congr 1; omega

theorem length_insertAt {α} (xs : List α) (j : Nat) (x : α) : (insertAt xs j x).length = xs.length + 1 := by
  have : (insertAt xs j x).length = (xs.take j ++ xs.drop j).length + 1 := by
    simp only [insertAt, List.length_append, List.length_cons]; omega
  rw [this, List.take_append_drop]

theorem mem_insertAt {α} {xs : List α} {j : Nat} {x q : α} (h : q ∈ insertAt xs j x) : q ∈ xs ∨ q = x := by
  unfold insertAt at h
  rcases List.mem_append.mp h with h | h
  · exact Or.inl (List.mem_of_mem_take h)
  · rcases List.mem_cons.mp h with h | h
    · exact Or.inr h
    · exact Or.inl (List.mem_of_mem_drop h)

theorem map_insertAt {α β} (f : α → β) (xs : List α) (j : Nat) (x : α) :
    (insertAt xs j x).map f = insertAt (xs.map f) j (f x) := by
  unfold insertAt
  rw [List.map_append, List.map_cons, List.map_take, List.map_drop]

theorem map_eraseIdx {α β} (f : α → β) (xs : List α) (i : Nat) : (xs.eraseIdx i).map f = (xs.map f).eraseIdx i := by
  apply List.ext_getElem?
  intro k
  rw [List.getElem?_map, List.getElem?_eraseIdx, List.getElem?_eraseIdx]
  split <;> rw [List.getElem?_map]

section moved
variable {α : Type} {w : List α} {i j : Nat} {p : α}

theorem length_moved (hp : w[i]? = some p) : (insertAt (w.eraseIdx i) j p).length = w.length := by
  have hi := (List.getElem?_eq_some_iff.mp hp).1
  rw [length_insertAt, List.length_eraseIdx, if_pos hi]; omega

theorem mem_moved (hp : w[i]? = some p) {q : α} (h : q ∈ insertAt (w.eraseIdx i) j p) : q ∈ w := by
  rcases mem_insertAt h with h | rfl
  · exact List.mem_of_mem_eraseIdx h
  · exact List.mem_of_getElem? hp

theorem moved_at (hp : w[i]? = some p) (hj : j < w.length) : (insertAt (w.eraseIdx i) j p)[j]? = some p := by
  have hi := (List.getElem?_eq_some_iff.mp hp).1
  rw [getElem?_insertAt _ _ _ (by rw [List.length_eraseIdx, if_pos hi]; omega), if_neg (Nat.lt_irrefl _), if_pos rfl]

theorem moved_next (hp : w[i]? = some p) (hji : j < i) : (insertAt (w.eraseIdx i) j p)[j + 1]? = w[j]? := by
  have hi := (List.getElem?_eq_some_iff.mp hp).1
  rw [getElem?_insertAt _ _ _ (by rw [List.length_eraseIdx, if_pos hi]; omega), if_neg (by omega), if_neg (by omega),
    List.getElem?_eraseIdx, if_pos (by omega)]
  rfl

theorem moved_prev (hp : w[i]? = some p) (hij : i < j) (hj : j < w.length) :
    (insertAt (w.eraseIdx i) j p)[j - 1]? = w[j]? := by
  have hi := (List.getElem?_eq_some_iff.mp hp).1
  rw [getElem?_insertAt _ _ _ (by rw [List.length_eraseIdx, if_pos hi]; omega), if_pos (by omega),
    List.getElem?_eraseIdx, if_neg (by omega)]
  congr 1; omega

end moved

theorem pairwise_getElem? {α} {R : α → α → Prop} {l : List α} (h : l.Pairwise R) {a b : Nat} {x y : α}
    (hab : a < b) (hx : l[a]? = some x) (hy : l[b]? = some y) : R x y := by
  obtain ⟨ha, rfl⟩ := List.getElem?_eq_some_iff.mp hx
  obtain ⟨hb, rfl⟩ := List.getElem?_eq_some_iff.mp hy
  exact List.pairwise_iff_getElem.mp h a b ha hb hab

theorem moved_not_increasing {α : Type} (rank : α → Nat) {w : List α} {i j : Nat} {p : α}
    (hw : w.Pairwise (fun a b => rank a < rank b)) (hp : w[i]? = some p) (hji : j ≠ i) (hj : j < w.length) :
    ¬ (insertAt (w.eraseIdx i) j p).Pairwise (fun a b => rank a < rank b) := by
  intro hr
  obtain ⟨q, hq⟩ : ∃ q, w[j]? = some q := ⟨w[j], List.getElem?_eq_getElem hj⟩
  have hat := moved_at hp hj
  rcases Nat.lt_or_gt_of_ne hji with h | h
  · have h1 := pairwise_getElem? hr (Nat.lt_succ_self j) hat ((moved_next hp h).trans hq)
    have h2 := pairwise_getElem? hw h hq hp
    omega
  · have h1 := pairwise_getElem? hr (show j - 1 < j by omega) ((moved_prev hp h hj).trans hq) hat
    have h2 := pairwise_getElem? hw h hp hq
    omega

theorem swap_eq_move {α} {w : List α} {i : Nat} {p q : α} (hp : w[i]? = some p) (hq : w[i + 1]? = some q) :
    (w.set i q).set (i + 1) p = insertAt (w.eraseIdx i) (i + 1) p := by
  obtain ⟨hi, rfl⟩ := List.getElem?_eq_some_iff.mp hp
  obtain ⟨hi1, rfl⟩ := List.getElem?_eq_some_iff.mp hq
  apply List.ext_getElem?
  intro k
  rw [getElem?_insertAt _ _ _ (by rw [List.length_eraseIdx, if_pos hi]; omega), List.getElem?_set, List.getElem?_set,
    List.getElem?_eraseIdx, List.getElem?_eraseIdx]
  by_cases h1 : k < i + 1
  · by_cases h2 : k = i
    · subst h2; simp [hi, hi1]
    · simp [h1, show k < i by omega, show i + 1 ≠ k by omega, Ne.symm h2]
  · by_cases h3 : k = i + 1
    · subst h3; simp [hi1]
    · have : k - 1 + 1 = k := by omega
      simp [h1, h3, Ne.symm h3, show ¬ k - 1 < i by omega, show i ≠ k by omega, this]
end Proofs.Move

namespace Proofs.Defect
open Spec (Defect Version Pair Bytes ErrVal insertAt legal isMetric abvs SLASH COLON)

variable {ver : Version} {w : List Pair} {s : Bytes} {e : ErrVal}

theorem clean_iff {a : Bytes} : Spec.clean a = true ↔ SLASH ∉ a ∧ COLON ∉ a := by
  simp [Spec.clean]

theorem header_eq_some {p : Bytes} (h : (Defect.header p).apply ver w = some (s, e)) :
    ver ≠ .v20 ∧ Spec.headOf s ≠ ver.header ∧ e = (1, []) := by
  simp only [Defect.apply] at h
  split at h
  · cases h
  · rename_i h20
    split at h
    · cases h
    · rename_i hh
      cases h
      exact ⟨h20, hh, rfl⟩

theorem illegalValue_eq_some {i : Nat} {v : Bytes} (h : (Defect.illegalValue i v).apply ver w = some (s, e)) :
    ∃ a x, w[i]? = some (a, x) ∧ legal ver.metrics a v = false ∧ SLASH ∉ v ∧
      s = ver.render (w.set i (a, v)) ∧ e = (4, []) := by
  simp only [Defect.apply] at h
  split at h
  · cases h
  · rename_i a x hi
    split at h
    · cases h
    · rename_i hc
      cases h
      simp only [Bool.or_eq_true, not_or, Bool.not_eq_true, List.contains_eq_mem, decide_eq_false_iff_not] at hc
      exact ⟨a, x, hi, hc.1, hc.2, rfl, rfl⟩

theorem removeMandatory_eq_some {i : Nat} (h : (Defect.removeMandatory i).apply ver w = some (s, e)) :
    (ver = .v30 ∨ ver = .v31) ∧ ∃ a x, w[i]? = some (a, x) ∧ a ∈ abvs Spec.V3.base ∧
      s = ver.render (w.eraseIdx i) ∧ e = (103, a) := by
  simp only [Defect.apply] at h
  split at h
  · rename_i a x hi
    split at h
    · cases h; exact ⟨Or.inl rfl, a, x, hi, List.contains_iff_mem.mp ‹_›, rfl, rfl⟩
    · cases h
  · rename_i a x hi
    split at h
    · cases h; exact ⟨Or.inr rfl, a, x, hi, List.contains_iff_mem.mp ‹_›, rfl, rfl⟩
    · cases h
  · cases h

/-- `*ErrDefinedN` / `*ErrInvalidMetric` in v3, the order sentinel elsewhere -/
def named (ver : Version) (code : Nat) (a : Bytes) : ErrVal :=
  match ver with
  | .v30 | .v31 => (code, a)
  | _ => (3, [])

theorem repeated_eq_some {i j : Nat} {v : Bytes} (h : (Defect.repeated i j v).apply ver w = some (s, e)) :
    ∃ a x, w[i]? = some (a, x) ∧ legal ver.metrics a v = true ∧ j ≤ w.length ∧
      s = ver.render (insertAt w j (a, v)) ∧ e = named ver 102 a := by
  simp only [Defect.apply] at h
  split at h
  · cases h
  · rename_i a x hi
    split at h
    · cases h
    · rename_i hc
      simp only [Bool.or_eq_true, not_or, Bool.not_eq_true', Bool.not_eq_false, decide_eq_true_eq, Nat.not_lt] at hc
      refine ⟨a, x, hi, hc.1, hc.2, ?_⟩
      cases ver <;> (cases h; exact ⟨rfl, rfl⟩)

theorem unknown_eq_some {j : Nat} {a v : Bytes} (h : (Defect.unknown j a v).apply ver w = some (s, e)) :
    isMetric ver.metrics a = false ∧ Spec.clean a = true ∧ SLASH ∉ v ∧ j ≤ w.length ∧
      s = ver.render (insertAt w j (a, v)) ∧ e = named ver 101 a := by
  simp only [Defect.apply] at h
  split at h
  · cases h
  · rename_i hc
    simp only [Bool.or_eq_true, not_or, Bool.not_eq_true, Bool.not_eq_true', Bool.not_eq_false, List.contains_eq_mem,
      decide_eq_true_eq, Nat.not_lt] at hc
    obtain ⟨⟨⟨h1, h2⟩, h3⟩, h4⟩ := hc
    refine ⟨h1, h2, h3, h4, ?_⟩
    cases ver <;> (cases h; exact ⟨rfl, rfl⟩)

theorem swap_eq_some {i : Nat} (h : (Defect.swap i).apply ver w = some (s, e)) :
    (ver = .v20 ∨ ver = .v40) ∧ ∃ p q, w[i]? = some p ∧ w[i + 1]? = some q ∧
      s = ver.render ((w.set i q).set (i + 1) p) ∧ e = (3, []) := by
  simp only [Defect.apply] at h
  split at h
  · cases h
  · cases h
  · rename_i ver' _ _ _ p q h30 h31 hp hq
    cases h
    refine ⟨?_, p, q, hp, hq, rfl, rfl⟩
    cases ver'
    · exact Or.inl rfl
    · exact absurd rfl h30
    · exact absurd rfl h31
    · exact Or.inr rfl
  · cases h

theorem truncate_eq_some {n : Nat} (h : (Defect.truncate n).apply ver w = some (s, e)) :
    s = ver.render (w.take n) ∧ e = (2, []) ∧
      ((ver = .v20 ∧ 1 ≤ n ∧ n < w.length ∧ n ∉ Spec.V2.completeLengths) ∨ (ver = .v40 ∧ n < 11)) := by
  simp only [Defect.apply] at h
  split at h
  · split at h
    · rename_i hc
      cases h
      exact ⟨rfl, rfl, Or.inl ⟨rfl, hc.1, hc.2.1, by simpa using hc.2.2⟩⟩
    · cases h
  · split at h
    · cases h; exact ⟨rfl, rfl, Or.inr ⟨rfl, ‹_›⟩⟩
    · cases h
  · cases h

theorem move_eq_some {i j : Nat} (h : (Defect.move i j).apply ver w = some (s, e)) :
    (ver = .v20 ∨ ver = .v40) ∧ ∃ p, w[i]? = some p ∧ j ≠ i ∧ j < w.length ∧
      s = ver.render (insertAt (w.eraseIdx i) j p) ∧ e = (3, []) := by
  simp only [Defect.apply] at h
  split at h
  · cases h
  · cases h
  · rename_i h30 h31
    split at h
    · cases h
    · rename_i p hp
      split at h
      · cases h
      · cases h
        refine ⟨?_, p, hp, by omega, by omega, rfl, rfl⟩
        cases ver
        · exact Or.inl rfl
        · exact absurd rfl h30
        · exact absurd rfl h31
        · exact Or.inr rfl

end Proofs.Defect
