import Cvss.Proofs.Parse3Read
import Cvss.Proofs.Parse3Inst
/-!
# C06 (v3.0 / v3.1): a parsed vector means what it says

If the parser accepts `s` and returns `c`, then for the (unique) reading `w` of `s` by the *Spec's* grammar,
`Get` on every metric returns what `w` says: the written value, else the not-defined value `X`.
The result is well-formed. Generic in the header and the `Contract`.
-/
namespace C06.V3
open Proofs Proofs.Parse3
open Spec (Bytes Pair valueOf)

variable {O : Type} (K : Contract O Spec.V3.metrics) (hdr : Bytes)

/-- the object the parser returns is the fold of `Set`s over the Spec's reading of the string -/
theorem parsed_is_fold (s : Bytes) (c : O) (h : Model.parse3 (hdr ++ [47]) K.zero K.set s = .ok c)
    (w : List Pair) (hw : Spec.V3.Witness hdr s w) : c = K.setAll K.zero w := by
  obtain ⟨hs, hw'⟩ := (witness_iff _ _ _).mp hw
  subst hs
  have := parse3_witness K hdr w hw'
  rw [show hdr ++ [47] = hdr ++ [Spec.SLASH] from rfl, this] at h
  cases h; rfl

/-- **C06** -/
theorem means_what_it_says (s : Bytes) (c : O) (h : Model.parse3 (hdr ++ [47]) K.zero K.set s = .ok c) :
    ∀ w, Spec.V3.Witness hdr s w → ∀ m ∈ Spec.V3.metrics,
      K.get c m.abv = (valueOf Spec.V3.metrics w m.abv, Go.errNil) := by
  intro w hw
  rw [parsed_is_fold K hdr s c h w hw]
  exact fun m hm => K.get_setAll_zero good ((witness_iff _ _ _).mp hw).2.complete hm

/-- … and there is such a reading (so the statement above is never vacuous) -/
theorem has_reading (s : Bytes) (c : O) (h : Model.parse3 (hdr ++ [47]) K.zero K.set s = .ok c) :
    ∃ w, Spec.V3.Witness hdr s w := by
  obtain ⟨w, hw, _⟩ := parse3_sound K hdr s c h
  exact ⟨w, hw⟩

theorem wf (s : Bytes) (c : O) (h : Model.parse3 (hdr ++ [47]) K.zero K.set s = .ok c) : K.WF c := by
  obtain ⟨w, _, rfl⟩ := parse3_sound K hdr s c h
  exact K.wf_setAll w K.zero K.wf_zero

/-- reading: a written pair reads back as written … -/
theorem written (s : Bytes) (c : O) (h : Model.parse3 (hdr ++ [47]) K.zero K.set s = .ok c)
    (w : List Pair) (hw : Spec.V3.Witness hdr s w) (p : Pair) (hp : p ∈ w) : K.get c p.1 = (p.2, Go.errNil) := by
  obtain ⟨m, hm, habv, _⟩ := Table.legal_mem (hw.2.1 p hp)
  have := means_what_it_says K hdr s c h w hw m hm
  rwa [habv, Table.valueOf_of_mem _ hw.2.2.1 hp] at this

/-- … and an optional metric that is not written reads as its not-defined value -/
theorem unwritten (s : Bytes) (c : O) (h : Model.parse3 (hdr ++ [47]) K.zero K.set s = .ok c)
    (w : List Pair) (hw : Spec.V3.Witness hdr s w) (m : Spec.Metric) (hm : m ∈ Spec.V3.metrics)
    (hn : m.abv ∉ w.map (·.1)) : ∃ u, m.undef = some u ∧ K.get c m.abv = (u, Go.errNil) := by
  obtain ⟨u, _, hu⟩ := ((witness_iff _ _ _).mp hw).2.complete.undef_of_not_mem good hm hn
  refine ⟨u, hu, ?_⟩
  rw [means_what_it_says K hdr s c h w hw m hm, Table.valueOf_of_not_mem (good.find_self hm) hn, hu]
  rfl

/-- the hypotheses are satisfiable for every contract: a shuffled vector with an explicit `X` is accepted -/
example : ∃ c, Model.parse3 (Spec.V3.header31 ++ [47]) K.zero K.set
    (Spec.b "CVSS:3.1/S:U/C:H/I:H/A:H/AV:N/AC:L/PR:N/UI:N/MAV:X/E:F") = .ok c := by
  have h : Spec.V3.G Spec.V3.header31 (Spec.b "CVSS:3.1/S:U/C:H/I:H/A:H/AV:N/AC:L/PR:N/UI:N/MAV:X/E:F") := by decide +kernel
  obtain ⟨w, hs, hw⟩ := h
  rw [hs]
  exact ⟨_, parse3_witness K _ w hw⟩

/-! ## Instances (`Model.parse30` / `Model.parse31`).
**Final instantiation**: supply `contract30` / `contract31`; `hz`, `hs`, `hg` are then `rfl`. -/
section Instances
open Model (O30 O31)
variable (K30 : Contract O30 Spec.V3.metrics) (hz30 : K30.zero = O30.zero) (hs30 : K30.set = O30.set)
  (hg30 : K30.get = O30.get)
variable (K31 : Contract O31 Spec.V3.metrics) (hz31 : K31.zero = O31.zero) (hs31 : K31.set = O31.set)
  (hg31 : K31.get = O31.get)

include hz30 hs30 hg30 in
theorem means_what_it_says_30 (s : Bytes) (c : O30) (h : Model.parse30 s = .ok c) :
    ∀ w, Spec.V3.Witness Spec.V3.header30 s w → ∀ m ∈ Spec.V3.metrics,
      c.get m.abv = (valueOf Spec.V3.metrics w m.abv, Go.errNil) := by
  rw [parse30_eq_K K30 hz30 hs30] at h
  rw [← hg30]; exact means_what_it_says K30 _ s c h

include hz31 hs31 hg31 in
theorem means_what_it_says_31 (s : Bytes) (c : O31) (h : Model.parse31 s = .ok c) :
    ∀ w, Spec.V3.Witness Spec.V3.header31 s w → ∀ m ∈ Spec.V3.metrics,
      c.get m.abv = (valueOf Spec.V3.metrics w m.abv, Go.errNil) := by
  rw [parse31_eq_K K31 hz31 hs31] at h
  rw [← hg31]; exact means_what_it_says K31 _ s c h

include hz30 hs30 in
theorem wf_30 (s : Bytes) (c : O30) (h : Model.parse30 s = .ok c) : K30.WF c := by
  rw [parse30_eq_K K30 hz30 hs30] at h; exact wf K30 _ s c h
include hz31 hs31 in
theorem wf_31 (s : Bytes) (c : O31) (h : Model.parse31 s = .ok c) : K31.WF c := by
  rw [parse31_eq_K K31 hz31 hs31] at h; exact wf K31 _ s c h
end Instances

end C06.V3
