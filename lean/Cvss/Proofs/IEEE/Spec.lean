import Cvss.Proofs.IEEE.Mag
/-!
# Correct rounding, stated on `Spec.F64Val.ofBits`

`IsRNE n d r`: the 64-bit pattern `r` is the IEEE-754 binary64 round-to-nearest-even image of the rational
number `n / d` (`n : Int`, `d : Nat`, `d > 0`).  No real numbers: every comparison is cross-multiplied.
-/
namespace IEEE
open Spec F64Order

/-- `|m/den − n/d|`, scaled by `den · d` -/
def dist (n : Int) (d : Nat) (m : Int) : Nat := (m * d - n * den).natAbs

/-- the overflow threshold `2^1024 − 2^970 = (2^54 − 1) · 2^970`: the midpoint between the largest finite
    double `(2^53 − 1) · 2^971` and `2^1024`.  A value of magnitude `≥ ovf` rounds to ∞ (IEEE-754 §4.3.1). -/
def ovf : Nat := (2^54 - 1) * 2^970

/-- **`r` is `n/d` rounded to nearest, ties to even** (binary64, overflow to ±∞):
  * `r` is a 64-bit pattern and not a NaN;
  * `r` is `+∞` iff `n/d ≥ 2^1024 − 2^970`, `−∞` iff `n/d ≤ −(2^1024 − 2^970)`;
  * otherwise `r` is finite with value `m/den`, and no finite double is strictly closer to `n/d`; if another
    finite double value `m' ≠ m` is equally close, the significand of `r` is even (lowest bit of the pattern);
  * a non-zero `n/d` gives its sign to `r` (also when the result is a zero).
  For `n = 0` both `+0` and `−0` satisfy the predicate; the theorems about the operations state the sign
  of zero results separately. -/
structure IsRNE (n : Int) (d : Nat) (r : Nat) : Prop where
  bits : r < 2^64
  notNaN : F64Val.ofBits r ≠ .nan
  posInf : F64Val.ofBits r = .posInf ↔ (ovf : Int) * d ≤ n
  negInf : F64Val.ofBits r = .negInf ↔ n ≤ -((ovf : Int) * d)
  nearest : ∀ m, F64Val.ofBits r = .fin m → ∀ q m', F64Val.ofBits q = .fin m' → dist n d m ≤ dist n d m'
  even : ∀ m, F64Val.ofBits r = .fin m → ∀ q m', F64Val.ofBits q = .fin m' → m' ≠ m →
    dist n d m = dist n d m' → r % 2 = 0
  sign : (n < 0 → signBit r = 1) ∧ (0 < n → signBit r = 0)

theorem ovf_mid : wp (PINF - 1) + wp PINF = 2 * (ovf * Spec.F64Val.den) := by decide +kernel
theorem ovf_pos : 0 < ovf := by decide +kernel
theorem pinf_pred_odd : (PINF - 1) % 2 = 1 := by decide
theorem pinf_even : PINF % 2 = 0 := by decide
theorem p63_even : P63 % 2 = 0 := by decide

theorem ovf_mid_mul (d : Nat) : wp (PINF - 1) * d + wp PINF * d = 2 * ((ovf * d) * den) := by
  rw [← Nat.add_mul, ovf_mid, ← den_eq]; generalize ovf = O; generalize den = D; ac_rfl

theorem dist_same (s a d W : Nat) : dist (sv s a) d (sv s W) = adist (W * d) (a * den) := by
  unfold dist adist sv; generalize den = D
  split
  · omega
  · rw [Int.neg_mul, Int.neg_mul]; omega
theorem dist_opp (s a d W : Nat) : dist (sv s a) d (-sv s W) = W * d + a * den := by
  unfold dist sv; generalize den = D
  split
  · rw [Int.neg_mul]; omega
  · rw [Int.neg_neg, Int.neg_mul]; omega

theorem IsRNEMag.inf_iff {a d p : Nat} (hd : 0 < d) (h : IsRNEMag a d p) : p = PINF ↔ ovf * d ≤ a := by
  obtain ⟨hp, hn, ht⟩ := h
  have hmid := ovf_mid_mul d
  have hs1 := wpd_strict d hd (show PINF - 1 < PINF by decide)
  have hdp := den_pos
  have hcmp : (ovf * d ≤ a → (ovf * d) * den ≤ a * den) ∧ (a < ovf * d → a * den < (ovf * d) * den) :=
    ⟨fun h => Nat.mul_le_mul_right _ h, fun h => Nat.mul_lt_mul_of_pos_right h hdp⟩
  generalize ovf * d = OD at *
  constructor
  · intro hpi
    subst hpi
    have h1 := hn (PINF - 1) (by omega)
    apply Classical.byContradiction
    intro hc
    have := hcmp.2 (by omega)
    unfold adist at h1
    omega
  · intro hle
    apply Classical.byContradiction
    intro hne
    have hlt : p ≤ PINF - 1 := by omega
    have h1 := hn PINF (Nat.le_refl _)
    have h2 := wpd_mono d hlt
    have := hcmp.1 hle
    have ht1 := ht PINF (Nat.le_refl _) (fun h => hne h.symm)
    by_cases hpm : p = PINF - 1
    · subst hpm
      have := pinf_pred_odd
      unfold adist at h1 ht1
      omega
    · have h3 := wpd_strict d hd (show p < PINF - 1 by omega)
      unfold adist at h1
      omega

theorem isRNE_of_mag (s a d p : Nat) (hs : s ≤ 1) (hd : 0 < d) (h : IsRNEMag a d p) :
    IsRNE (sv s a) d (s * P63 + p) := by
  have hinf := h.inf_iff hd
  obtain ⟨hp, hnear, htie⟩ := h
  have hovd : 0 < ovf * d := Nat.mul_pos ovf_pos hd
  have hp63 : p < P63 := Nat.lt_of_le_of_lt hp (by decide)
  have hsb := signBit_pack s p hs hp63
  have hmod := mod_pack s p hp63
  have h0 := hnear 0 (by decide)
  rw [wp_zero, Nat.zero_mul] at h0
  -- against any finite `m'`: it is `σ·W` (compare magnitudes), `±0`, or on the other side of zero
  have key : ∀ q m', F64Val.ofBits q = .fin m' →
      dist (sv s a) d (sv s (wp p)) ≤ dist (sv s a) d m' ∧
      (m' ≠ sv s (wp p) → dist (sv s a) d (sv s (wp p)) = dist (sv s a) d m' → p % 2 = 0) := by
    intro q m' hq
    obtain ⟨hq0, rfl⟩ := (ofBits_fin_iff q m').mp hq
    have ht := signBit_le q
    generalize signBit q = t at *
    generalize q % P63 = q0 at *
    have hsame : ∀ q0, q0 < PINF → dist (sv s a) d (sv s (wp p)) ≤ dist (sv s a) d (sv s (wp q0)) ∧
        (sv s (wp q0) ≠ sv s (wp p) →
          dist (sv s a) d (sv s (wp p)) = dist (sv s a) d (sv s (wp q0)) → p % 2 = 0) := by
      intro q0 hq0
      rw [dist_same, dist_same]
      exact ⟨hnear q0 (by omega), fun hne heq => htie q0 (by omega) (fun h => hne (by rw [h])) heq⟩
    by_cases hz : q0 = 0
    · have : sv t (wp q0) = sv s (wp 0) := by rw [hz, wp_zero]; unfold sv; split <;> split <;> rfl
      rw [this]; exact hsame 0 (by decide)
    · by_cases hst : t = s
      · rw [hst]; exact hsame q0 hq0
      · have : sv t (wp q0) = -sv s (wp q0) := by rw [← sv_flip s _ hs]; congr 1; omega
        have : 0 < wp q0 * d := Nat.mul_pos (Nat.pos_of_ne_zero (mt (wp_eq_zero_iff q0).mp hz)) hd
        rw [‹sv t (wp q0) = _›, dist_same, dist_opp]
        unfold adist at h0 ⊢
        exact ⟨by omega, fun _ h => by omega⟩
  have hfin : ∀ m, F64Val.ofBits (s * P63 + p) = .fin m → m = sv s (wp p) := by
    intro m hm; rw [((ofBits_fin_iff _ m).mp hm).2, hsb, hmod]
  refine ⟨by simp only [P63, PINF] at *; omega, ?_, ?_, ?_, ?_, ?_, ?_⟩
  · rw [ne_eq, ofBits_nan_iff_mod, hmod]; omega
  · rw [ofBits_posInf_iff, hsb, hmod, hinf, ← Int.natCast_mul, le_sv_iff _ s a hovd, and_comm]
  · rw [ofBits_negInf_iff, hsb, hmod, hinf, ← Int.natCast_mul, sv_le_neg_iff _ s a hovd hs, and_comm]
  · intro m hm q m' hq
    rw [hfin m hm]; exact (key q m' hq).1
  · intro m hm q m' hq hne heq
    rw [hfin m hm] at hne heq
    have := (key q m' hq).2 hne heq
    have := p63_even
    generalize P63 = X at *
    rcases (by omega : s = 0 ∨ s = 1) with rfl | rfl <;> omega
  · rw [hsb]
    exact ⟨fun h => by have := (sv_neg_iff s a).mp h; omega, fun h => ((sv_pos_iff s a).mp h).1⟩

end IEEE
