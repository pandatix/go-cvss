import Cvss.Proofs.Parse2Err
import Cvss.Proofs.Parse2Read
/-!
# Finding F3 (C18, v2.0): the full error contract is false

Any element after a complete environmental group yields `ErrInvalidMetricValue` (4), not the documented
`ErrInvalidMetricOrder` (3): the `default:` arm of `switch slci` (a 12th element after base+environmental)
and the 14th split part keeping the remainder (a 15th element after a full vector). Proved by evaluating
`Model.parse20` (with the real generated `Set`) on concrete witnesses, and for an arbitrary contract.
-/
namespace Findings.C18.V2
open Proofs Proofs.Parse2
open Model (Bytes Res)
open Spec (Defect Pair)
open Spec.V2 (metrics Witness)

/-- `AV:L/AC:H/Au:M/C:N/I:N/A:N/CDP:ND/TD:ND/CR:ND/IR:ND/AR:ND` -/
def w : List Pair := [(Spec.b "AV", Spec.b "L"), (Spec.b "AC", Spec.b "H"), (Spec.b "Au", Spec.b "M"),
  (Spec.b "C", Spec.b "N"), (Spec.b "I", Spec.b "N"), (Spec.b "A", Spec.b "N"),
  (Spec.b "CDP", Spec.b "ND"), (Spec.b "TD", Spec.b "ND"), (Spec.b "CR", Spec.b "ND"),
  (Spec.b "IR", Spec.b "ND"), (Spec.b "AR", Spec.b "ND")]

theorem w_witness : Witness (Spec.b "AV:L/AC:H/Au:M/C:N/I:N/A:N/CDP:ND/TD:ND/CR:ND/IR:ND/AR:ND") w :=
  (Proofs.Parse2.read_iff _ _).mp (by decide +kernel)

/-- repeated `AV:N` at the end: documented 3 … -/
theorem promised :
    (Defect.repeated 0 11 (Spec.b "N")).apply .v20 w =
      some (Spec.b "AV:L/AC:H/Au:M/C:N/I:N/A:N/CDP:ND/TD:ND/CR:ND/IR:ND/AR:ND/AV:N", (3, [])) := by decide +kernel

/-- … returned 4 (the `default:` arm) -/
theorem returned :
    Model.parse20 (Spec.b "AV:L/AC:H/Au:M/C:N/I:N/A:N/CDP:ND/TD:ND/CR:ND/IR:ND/AR:ND/AV:N") = .err ⟨4, []⟩ := by
  decide +kernel

/-- the same after a full 14-element vector (the remainder-keeping 14th part) -/
theorem returned_full :
    Model.parse20 (Spec.b "AV:L/AC:H/Au:M/C:N/I:N/A:N/E:F/RL:OF/RC:C/CDP:ND/TD:ND/CR:ND/IR:ND/AR:ND/AV:N")
      = .err ⟨4, []⟩ := by decide +kernel

/-- the full C18 statement for v2.0, negated -/
theorem v2_misplaced_after_env :
    ¬ ∀ (w : List Pair) (d : Defect) (s : Bytes) (e : Spec.ErrVal), (∃ s0, Witness s0 w) →
        d.apply .v20 w = some (s, e) → Model.parse20 s = .err ⟨e.1, e.2⟩ := by
  intro h
  have := h w _ _ _ ⟨_, w_witness⟩ promised
  rw [returned] at this
  exact absurd this (by decide)

/-- and for the parser of an arbitrary contract (so the finding does not depend on the bit-field code) -/
theorem v2_misplaced_after_env_contract (K : Contract Model.O20 metrics) :
    ¬ ∀ (w : List Pair) (d : Defect) (s : Bytes) (e : Spec.ErrVal), (∃ s0, Witness s0 w) →
        d.apply .v20 w = some (s, e) → parseK K s = .err ⟨e.1, e.2⟩ := by
  intro h
  have h3 := h w _ _ _ ⟨_, w_witness⟩ promised
  have h4 := (err_afterEnv K ⟨_, w_witness⟩ _ _ _ promised (by decide)).1
  rw [h4] at h3
  exact absurd h3 (by decide)

end Findings.C18.V2
