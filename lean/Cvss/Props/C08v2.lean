import Cvss.Proofs.Parse2Canon
import Cvss.Proofs.Parse2Read
/-!
# C08 (v2.0): parse then serialise gives the canonical form

`Vector()` is used only through `VecContract` (on a well-formed object it spells `Spec.V2.canonical` of
the object's own values), `Get`/`Set` only through `Contract`.
-/
namespace C08.V2
open Proofs Proofs.Parse2
open Model (Bytes Res)
open Spec (Pair)
open Spec.V2 (metrics Witness G canonical)

/-- the canonical spelling of a grammatical vector is grammatical -/
theorem canonical_grammatical {w : List Pair} (hw : ∃ s, Witness s w) : G (canonical w) := by
  obtain ⟨s, _, hsh, hl⟩ := hw
  exact ⟨canonW w, (canonW_witness hsh hl).1⟩

/-- `canonical` is idempotent: the canonical spelling of (the witness of) a canonical string is that string -/
theorem canonical_idem {w : List Pair} (hw : ∃ s, Witness s w) :
    ∀ w', Witness (canonical w) w' → canonical w' = canonical w := by
  obtain ⟨s, _, hsh, hl⟩ := hw
  intro w' hw'
  have := witness_unique hw' (canonW_witness hsh hl).1
  subst this
  rw [canonical_eq, canonW_idem hsh hl, ← canonical_eq]

/-- the canonical spelling means the same as the original: every metric has the same value -/
theorem canonical_same_values {w : List Pair} (hw : ∃ s, Witness s w) :
    ∀ w', Witness (canonical w) w' → ∀ m ∈ metrics, Spec.valueOf metrics w' m.abv = Spec.valueOf metrics w m.abv := by
  obtain ⟨s, _, hsh, hl⟩ := hw
  intro w' hw'
  have := witness_unique hw' (canonW_witness hsh hl).1
  subst this
  exact (canonW_witness hsh hl).2

section
variable (K : Contract Model.O20 metrics) (VK : VecContract Model.O20 metrics K canonical)

/-- parse then `Vector()` is the canonical spelling of the witness -/
theorem vector_canonical {s : Bytes} {c : Model.O20} (h : parseK K s = .ok c) :
    ∀ w, Witness s w → VK.vector c = canonical w := by
  intro w hw
  rw [VK.vector_eq c (parse_wf K h), canonical_pairs_parsed K h hw]

/-- parse, `Vector()`, parse again: the same object (hence `Vector()` again is the same string) -/
theorem vector_idem {s : Bytes} {c : Model.O20} (h : parseK K s = .ok c) : parseK K (VK.vector c) = .ok c := by
  rw [VK.vector_eq c (parse_wf K h)]
  exact parse_canonical_pairs K (parse_wf K h)

/-- a canonical string comes back unchanged -/
theorem canonical_fixed {s : Bytes} {c : Model.O20} (h : parseK K s = .ok c) :
    ∀ w, Witness s w → s = canonical w → VK.vector c = s := by
  intro w hw hs
  rw [vector_canonical K VK h w hw, ← hs]

/-- about `Model.parse20` itself, for a contract whose zero/`Set` are the generated ones -/
theorem model_vector_canonical (hz : K.zero = Model.O20.zero) (hs : K.set = Model.O20.set)
    {s : Bytes} {c : Model.O20} (h : Model.parse20 s = .ok c) : ∀ w, Witness s w → VK.vector c = canonical w := by
  rw [parse20_eq_parseK K hz hs] at h; exact vector_canonical K VK h

end

/-- the hypotheses are satisfiable and the statement is not vacuous: an all-`ND` environmental group is
    dropped, an explicit temporal `ND` is kept because the group has a defined value (real generated code) -/
example : Model.parse20 (Spec.b "AV:L/AC:H/Au:M/C:N/I:N/A:N/E:ND/RL:OF/RC:ND/CDP:ND/TD:ND/CR:ND/IR:ND/AR:ND")
    = .ok ⟨32, 0, 64, 0⟩ := by decide +kernel
example : Model.O20.vector ⟨32, 0, 64, 0⟩ = Spec.b "AV:L/AC:H/Au:M/C:N/I:N/A:N/E:ND/RL:OF/RC:ND" := by decide +kernel
example : ∃ w, Witness (Spec.b "AV:L/AC:H/Au:M/C:N/I:N/A:N/E:ND/RL:OF/RC:ND/CDP:ND/TD:ND/CR:ND/IR:ND/AR:ND") w ∧
    canonical w = Spec.b "AV:L/AC:H/Au:M/C:N/I:N/A:N/E:ND/RL:OF/RC:ND" := by
  cases h : Spec.V2.read? (Spec.b "AV:L/AC:H/Au:M/C:N/I:N/A:N/E:ND/RL:OF/RC:ND/CDP:ND/TD:ND/CR:ND/IR:ND/AR:ND") with
  | none => exact absurd h (by decide +kernel)
  | some w =>
    refine ⟨w, (Proofs.Parse2.read_iff _ _).mp h, ?_⟩
    have : (Spec.V2.read? (Spec.b "AV:L/AC:H/Au:M/C:N/I:N/A:N/E:ND/RL:OF/RC:ND/CDP:ND/TD:ND/CR:ND/IR:ND/AR:ND")).map canonical
        = some (Spec.b "AV:L/AC:H/Au:M/C:N/I:N/A:N/E:ND/RL:OF/RC:ND") := by decide +kernel
    rw [h] at this
    simpa using this

end C08.V2
