import Cvss.Proofs.Mono4All
import Cvss.Proofs.Mono4Tab
import Cvss.Proofs.Mono4Cover36
/-!
# v4.0 monotonicity on effective values (Spec level)

`effMono_X`: for a vector of legal effective values, replacing the value of ONE metric `X` by an at least as
severe legal value does not decrease `Spec.V4.scoreE`. On legal effective values `scoreE` is `scoreSum` of the five
group summaries (`scoreE_sum`, from the primitive form of `scoreOf` in `Mono4All`); a step in one metric is a listed
transition of its group (`Mono4Cover`); along listed transitions `scoreSum` does not decrease (`Mono4Tab`).
-/
namespace Proofs.Mono4
open Spec Spec.V4

structure LegalE (e : Eff) : Prop where
  AV : e.AV ∈ Vof "AV"
  AC : e.AC ∈ Vof "AC"
  AT : e.AT ∈ Vof "AT"
  PR : e.PR ∈ Vof "PR"
  UI : e.UI ∈ Vof "UI"
  VC : e.VC ∈ Vof "VC"
  VI : e.VI ∈ Vof "VI"
  VA : e.VA ∈ Vof "VA"
  SC : e.SC ∈ Vof "SC"
  SI : e.SI ∈ Vof "SI"
  SA : e.SA ∈ Vof "SA"
  E : e.E ∈ Vof "E"
  CR : e.CR ∈ Vof "CR"
  IR : e.IR ∈ Vof "IR"
  AR : e.AR ∈ Vof "AR"

theorem eq5_mem (x : Bytes) : eq5 x ∈ S5 := by
  unfold eq5 S5
  split
  · simp
  · split <;> simp

/-- EQ5 has one highest vector per level, which is the value itself -/
theorem dist5_eq_zero {x : Bytes} (h : x ∈ Vof "E") : dist5 x = 0 := by
  have : ((Vof "E").all fun x => dist5 x == 0) = true := by decide
  simpa using List.all_eq_true.mp this x h

def sumE (e : Eff) : Nat :=
  scoreSum (sum1 e.AV e.PR e.UI) (sum2 e.AC e.AT) (sum36 e.VC e.VI e.VA e.CR e.IR e.AR) (sum4 e.SC e.SI e.SA) (eq5 e.E)

theorem sums_mem {e : Eff} (h : LegalE e) : sum1 e.AV e.PR e.UI ∈ S1 ∧ sum2 e.AC e.AT ∈ S2 ∧
    sum36 e.VC e.VI e.VA e.CR e.IR e.AR ∈ S36 ∧ sum4 e.SC e.SI e.SA ∈ S4 :=
  ⟨(cov1_at h.AV h.PR h.UI).1, (cov2_at h.AC h.AT).1, (cov36_at h.VC h.VI h.VA h.CR h.IR h.AR).1,
    (cov4_at h.SC h.SI h.SA).1⟩

theorem scoreE_sum {e : Eff} (h : LegalE e) : scoreE e = if noImpact e = true then 0 else sumE e := by
  have m := sums_mem h
  unfold scoreE
  split
  · rfl
  · rw [dist5_eq_zero h.E]
    exact (bridge_sum m.1 m.2.1 m.2.2.1 m.2.2.2 (eq5_mem e.E)).1

/-- scores compared through the summaries; `hN`: a vector without impact comes from one without impact -/
theorem scoreE_le_of_sums {e e' : Eff} (h : LegalE e) (h' : LegalE e') (hN : noImpact e' = true → noImpact e = true)
    (hle : sumE e ≤ sumE e') : scoreE e ≤ scoreE e' := by
  rw [scoreE_sum h, scoreE_sum h']
  split
  · exact Nat.zero_le _
  · rename_i hn
    rw [if_neg fun hq => hn (hN hq)]
    exact hle

theorem noImpact_of {e e' : Eff} (h : noImpact e' = true) (hVC : is e'.VC "N" = true → is e.VC "N" = true)
    (hVI : is e'.VI "N" = true → is e.VI "N" = true) (hVA : is e'.VA "N" = true → is e.VA "N" = true)
    (hSC : is e'.SC "N" = true → is e.SC "N" = true) (hSI : is e'.SI "N" = true → is e.SI "N" = true)
    (hSA : is e'.SA "N" = true → is e.SA "N" = true) : noImpact e = true := by
  unfold noImpact at h ⊢
  simp only [Bool.and_eq_true] at h ⊢
  exact ⟨⟨⟨⟨⟨hVC h.1.1.1.1.1, hVI h.1.1.1.1.2⟩, hVA h.1.1.1.2⟩, hSC h.1.1.2⟩, hSI h.1.2⟩, hSA h.2⟩

/-- `scoreE` does not decrease when the value that `set` replaces (a legal effective value of metric `B`) moves to an
    at least as severe one -/
def MonoIn (B : String) (set : Eff → Bytes → Eff) : Prop :=
  ∀ e x y, LegalE (set e x) → y ∈ Vof B → sev (b B) y ≤ sev (b B) x → scoreE (set e x) ≤ scoreE (set e y)

theorem effMono_AV : MonoIn "AV" fun e x => { e with AV := x } := by
  intro e x y h hy hs
  obtain ⟨hl, -⟩ := (cov1_at h.AV h.PR h.UI).2.1 y hy hs
  have m := sums_mem h
  exact scoreE_le_of_sums h { h with AV := hy } (id) (mono1 m.2.1 m.2.2.1 m.2.2.2 (eq5_mem _) hl)

theorem effMono_PR : MonoIn "PR" fun e x => { e with PR := x } := by
  intro e x y h hy hs
  obtain ⟨hl, -⟩ := (cov1_at h.AV h.PR h.UI).2.2.1 y hy hs
  have m := sums_mem h
  exact scoreE_le_of_sums h { h with PR := hy } (id) (mono1 m.2.1 m.2.2.1 m.2.2.2 (eq5_mem _) hl)

theorem effMono_UI : MonoIn "UI" fun e x => { e with UI := x } := by
  intro e x y h hy hs
  obtain ⟨hl, -⟩ := (cov1_at h.AV h.PR h.UI).2.2.2 y hy hs
  have m := sums_mem h
  exact scoreE_le_of_sums h { h with UI := hy } (id) (mono1 m.2.1 m.2.2.1 m.2.2.2 (eq5_mem _) hl)

theorem effMono_AC : MonoIn "AC" fun e x => { e with AC := x } := by
  intro e x y h hy hs
  obtain ⟨hl, -⟩ := (cov2_at h.AC h.AT).2.1 y hy hs
  have m := sums_mem h
  exact scoreE_le_of_sums h { h with AC := hy } (id) (mono2 m.1 m.2.2.1 m.2.2.2 (eq5_mem _) hl)

theorem effMono_AT : MonoIn "AT" fun e x => { e with AT := x } := by
  intro e x y h hy hs
  obtain ⟨hl, -⟩ := (cov2_at h.AC h.AT).2.2 y hy hs
  have m := sums_mem h
  exact scoreE_le_of_sums h { h with AT := hy } (id) (mono2 m.1 m.2.2.1 m.2.2.2 (eq5_mem _) hl)

theorem effMono_VC : MonoIn "VC" fun e x => { e with VC := x } := by
  intro e x y h hy hs
  obtain ⟨hl, hN⟩ := (cov36_at h.VC h.VI h.VA h.CR h.IR h.AR).2.1 y hy hs
  have m := sums_mem h
  exact scoreE_le_of_sums h { h with VC := hy } (fun hq => noImpact_of hq (hN rfl) id id id id id) (mono36 m.1 m.2.1 m.2.2.2 (eq5_mem _) hl)

theorem effMono_VI : MonoIn "VI" fun e x => { e with VI := x } := by
  intro e x y h hy hs
  obtain ⟨hl, hN⟩ := (cov36_at h.VC h.VI h.VA h.CR h.IR h.AR).2.2.1 y hy hs
  have m := sums_mem h
  exact scoreE_le_of_sums h { h with VI := hy } (fun hq => noImpact_of hq id (hN rfl) id id id id) (mono36 m.1 m.2.1 m.2.2.2 (eq5_mem _) hl)

theorem effMono_VA : MonoIn "VA" fun e x => { e with VA := x } := by
  intro e x y h hy hs
  obtain ⟨hl, hN⟩ := (cov36_at h.VC h.VI h.VA h.CR h.IR h.AR).2.2.2.1 y hy hs
  have m := sums_mem h
  exact scoreE_le_of_sums h { h with VA := hy } (fun hq => noImpact_of hq id id (hN rfl) id id id) (mono36 m.1 m.2.1 m.2.2.2 (eq5_mem _) hl)

theorem effMono_CR : MonoIn "CR" fun e x => { e with CR := x } := by
  intro e x y h hy hs
  obtain ⟨hl, -⟩ := (cov36_at h.VC h.VI h.VA h.CR h.IR h.AR).2.2.2.2.1 y hy hs
  have m := sums_mem h
  exact scoreE_le_of_sums h { h with CR := hy } (id) (mono36 m.1 m.2.1 m.2.2.2 (eq5_mem _) hl)

theorem effMono_IR : MonoIn "IR" fun e x => { e with IR := x } := by
  intro e x y h hy hs
  obtain ⟨hl, -⟩ := (cov36_at h.VC h.VI h.VA h.CR h.IR h.AR).2.2.2.2.2.1 y hy hs
  have m := sums_mem h
  exact scoreE_le_of_sums h { h with IR := hy } (id) (mono36 m.1 m.2.1 m.2.2.2 (eq5_mem _) hl)

theorem effMono_AR : MonoIn "AR" fun e x => { e with AR := x } := by
  intro e x y h hy hs
  obtain ⟨hl, -⟩ := (cov36_at h.VC h.VI h.VA h.CR h.IR h.AR).2.2.2.2.2.2 y hy hs
  have m := sums_mem h
  exact scoreE_le_of_sums h { h with AR := hy } (id) (mono36 m.1 m.2.1 m.2.2.2 (eq5_mem _) hl)

theorem effMono_SC : MonoIn "SC" fun e x => { e with SC := x } := by
  intro e x y h hy hs
  obtain ⟨hl, hN⟩ := (cov4_at h.SC h.SI h.SA).2.1 y hy hs
  have m := sums_mem h
  exact scoreE_le_of_sums h { h with SC := hy } (fun hq => noImpact_of hq id id id (hN rfl) id id) (mono4 m.1 m.2.1 m.2.2.1 (eq5_mem _) hl)

theorem effMono_SI : MonoIn "SI" fun e x => { e with SI := x } := by
  intro e x y h hy hs
  obtain ⟨hl, hN⟩ := (cov4_at h.SC h.SI h.SA).2.2.1 y hy hs
  have m := sums_mem h
  exact scoreE_le_of_sums h { h with SI := hy } (fun hq => noImpact_of hq id id id id (hN rfl) id) (mono4 m.1 m.2.1 m.2.2.1 (eq5_mem _) hl)

theorem effMono_SA : MonoIn "SA" fun e x => { e with SA := x } := by
  intro e x y h hy hs
  obtain ⟨hl, hN⟩ := (cov4_at h.SC h.SI h.SA).2.2.2 y hy hs
  have m := sums_mem h
  exact scoreE_le_of_sums h { h with SA := hy } (fun hq => noImpact_of hq id id id id id (hN rfl)) (mono4 m.1 m.2.1 m.2.2.1 (eq5_mem _) hl)

/-- EQ5 transitions: a more severe E value has a lower or equal level -/
def cov5 : Bool := (Vof "E").all fun e => (Vof "E").all fun x =>
  !(Nat.ble (sev (b "E") x) (sev (b "E") e)) || covPair S5 0 tr5 (eq5 e) (eq5 x)
theorem cov5_ok : cov5 = true := by decide +kernel

theorem effMono_E : MonoIn "E" fun e x => { e with E := x } := by
  intro e x y h hy hs
  have hc := List.all_eq_true.mp (List.all_eq_true.mp cov5_ok x h.E) y hy
  rw [Nat.ble_eq_true_of_le hs] at hc
  have m := sums_mem h
  exact scoreE_le_of_sums h { h with E := hy } id (mono5 m.1 m.2.1 m.2.2.1 m.2.2.2 (covPair_elim hc))

end Proofs.Mono4
