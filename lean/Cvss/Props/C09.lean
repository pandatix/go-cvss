import Cvss.Proofs.Bits20
import Cvss.Proofs.Bits30
import Cvss.Proofs.Bits31
/-!
# C09 (Get/Set part) — exactly the specified metrics and values; reachable objects are well formed (v2.0, v3.0, v3.1)

> Get and Set recognise exactly the version's metric abbreviations (case-sensitive) and Set accepts exactly the
> metric's specified values; anything else is refused with an error. Consequently every reachable object,
> including the zero value, is well formed: every Get returns a legal non-empty value.

Statements are about the **generated** `Get`/`Set` against the **Spec** tables (`isMetric`, `legal` of
`Spec/Metrics.lean`; abbreviations and values are compared as byte strings, hence case-sensitively).
Proofs: `Cvss/Proofs/Bits{20,30,31}.lean`, `BitsCommon.lean`. v4.0 is in a separate file.
-/
namespace C09
open Model Bits
open Spec (Metric legal isMetric b)

namespace V20
abbrev ms : List Metric := Spec.V2.metrics

/-- `Get` recognises exactly the Spec abbreviations — on every state: nil error iff `a` is in the table,
    otherwise `("", *ErrInvalidMetric{a})` -/
theorem get_recognises (c : O20) (a : Bytes) :
    ((c.get a).2 = Go.errNil ↔ isMetric ms a = true) ∧
    (isMetric ms a = false → c.get a = ([], eInvalidMetric a)) :=
  ⟨Bits20.layout.get_ok_iff c a, Bits20.contract20.get_unknown c a⟩

/-- `Set` recognises exactly the Spec abbreviations: it answers `*ErrInvalidMetric{a}` (object unchanged) iff
    `a` is not in the table -/
theorem set_recognises (c : O20) (a v : Bytes) :
    (isMetric ms a = false → c.set a v = (c, eInvalidMetric a)) ∧
    (isMetric ms a = true → (c.set a v).2 ≠ eInvalidMetric a) :=
  ⟨Bits20.contract20.set_unknown c a v, set_err_ne_invalid Bits20.contract20 c a v⟩

/-- `Set` accepts exactly the specified values of a metric; any other value is refused with
    `ErrInvalidMetricValue` and the object is unchanged -/
theorem set_accepts (c : O20) (a v : Bytes) (hm : isMetric ms a = true) :
    ((c.set a v).2 = Go.errNil ↔ legal ms a v = true) ∧
    (legal ms a v = false → c.set a v = (c, eValue)) :=
  ⟨set_ok_iff Bits20.contract20 c a v, Bits20.contract20.set_illegal c a v hm⟩

theorem legal_iff (a v : Bytes) : legal ms a v = true ↔ ∃ m ∈ ms, m.abv = a ∧ v ∈ m.values :=
  Bits.legal_iff Bits20.tableOK a v

/-- anything else is refused with an error -/
theorem set_refuses (c : O20) (a v : Bytes) (h : legal ms a v = false) :
    (c.set a v).2 ≠ Go.errNil ∧ (c.set a v).1 = c := Bits.set_refuses Bits20.contract20 c a v h

/-- **every reachable object is well formed** (and conversely: every well-formed object is reachable) -/
theorem reachable_iff_wf (c : O20) : O20.Reachable c ↔ c.wf = true := Bits20.reachable_iff_wf c

theorem zero_wf : O20.zero.wf = true := Bits20.contract20.wf_zero

/-- **on a reachable object every `Get` of a metric returns a legal, non-empty value with nil error** -/
theorem reachable_get (c : O20) (h : O20.Reachable c) :
    ∀ m ∈ ms, (c.get m.abv).2 = Go.errNil ∧ (c.get m.abv).1 ∈ m.values ∧ (c.get m.abv).1 ≠ [] :=
  wf_get_ne_nil Bits20.contract20 Bits20.tableOK c ((reachable_iff_wf c).mp h)

theorem reachable_bytes (c : O20) (h : O20.Reachable c) : c.IsBytes :=
  Bits20.layout.wf_isB c ((reachable_iff_wf c).mp h)

/-! case-sensitivity and the exact value sets, on concrete strings; a byte state that is NOT well formed
    (so `wf` is not vacuous): `AV` code 3 decodes to the empty string -/
example : isMetric ms (b "AV") = true ∧ isMetric ms (b "av") = false ∧ isMetric ms (b "Av") = false := by decide +kernel
example : legal ms (b "Au") (b "S") = true ∧ legal ms (b "Au") (b "s") = false ∧ legal ms (b "AU") (b "S") = false := by
  decide +kernel
example : (O20.zero.get (b "av")).2 = eInvalidMetric (b "av") := by decide +kernel
example : (O20.mk 192 0 0 0).wf = false ∧ (O20.mk 192 0 0 0).get (b "AV") = ([], Go.errNil) := by decide +kernel

end V20

namespace V30
abbrev ms : List Metric := Spec.V3.metrics

/-- `Get` recognises exactly the Spec abbreviations — on every state: nil error iff `a` is in the table,
    otherwise `("", *ErrInvalidMetric{a})` -/
theorem get_recognises (c : O30) (a : Bytes) :
    ((c.get a).2 = Go.errNil ↔ isMetric ms a = true) ∧
    (isMetric ms a = false → c.get a = ([], eInvalidMetric a)) :=
  ⟨Bits30.layout.get_ok_iff c a, Bits30.contract30.get_unknown c a⟩

/-- `Set` recognises exactly the Spec abbreviations: it answers `*ErrInvalidMetric{a}` (object unchanged) iff
    `a` is not in the table -/
theorem set_recognises (c : O30) (a v : Bytes) :
    (isMetric ms a = false → c.set a v = (c, eInvalidMetric a)) ∧
    (isMetric ms a = true → (c.set a v).2 ≠ eInvalidMetric a) :=
  ⟨Bits30.contract30.set_unknown c a v, set_err_ne_invalid Bits30.contract30 c a v⟩

/-- `Set` accepts exactly the specified values of a metric; any other value is refused with
    `ErrInvalidMetricValue` and the object is unchanged -/
theorem set_accepts (c : O30) (a v : Bytes) (hm : isMetric ms a = true) :
    ((c.set a v).2 = Go.errNil ↔ legal ms a v = true) ∧
    (legal ms a v = false → c.set a v = (c, eValue)) :=
  ⟨set_ok_iff Bits30.contract30 c a v, Bits30.contract30.set_illegal c a v hm⟩

theorem legal_iff (a v : Bytes) : legal ms a v = true ↔ ∃ m ∈ ms, m.abv = a ∧ v ∈ m.values :=
  Bits.legal_iff Bits30.tableOK a v

/-- anything else is refused with an error -/
theorem set_refuses (c : O30) (a v : Bytes) (h : legal ms a v = false) :
    (c.set a v).2 ≠ Go.errNil ∧ (c.set a v).1 = c := Bits.set_refuses Bits30.contract30 c a v h

/-- **every reachable object is well formed** (and conversely: every well-formed object is reachable) -/
theorem reachable_iff_wf (c : O30) : O30.Reachable c ↔ c.wf = true := Bits30.reachable_iff_wf c

theorem zero_wf : O30.zero.wf = true := Bits30.contract30.wf_zero

/-- **on a reachable object every `Get` of a metric returns a legal, non-empty value with nil error** -/
theorem reachable_get (c : O30) (h : O30.Reachable c) :
    ∀ m ∈ ms, (c.get m.abv).2 = Go.errNil ∧ (c.get m.abv).1 ∈ m.values ∧ (c.get m.abv).1 ≠ [] :=
  wf_get_ne_nil Bits30.contract30 Bits30.tableOK c ((reachable_iff_wf c).mp h)

theorem reachable_bytes (c : O30) (h : O30.Reachable c) : c.IsBytes :=
  Bits30.layout.wf_isB c ((reachable_iff_wf c).mp h)

/-! case-sensitivity and the exact value sets, on concrete strings; a byte state that is NOT well formed
    (so `wf` is not vacuous): `PR` code 3 decodes to the empty string -/
example : isMetric ms (b "MAV") = true ∧ isMetric ms (b "mav") = false ∧ isMetric ms (b "Mav") = false := by decide +kernel
example : legal ms (b "PR") (b "L") = true ∧ legal ms (b "PR") (b "l") = false ∧ legal ms (b "PR") (b "X") = false := by
  decide +kernel
example : (O30.zero.get (b "mav")).2 = eInvalidMetric (b "mav") := by decide +kernel
example : (O30.mk 24 0 0 0 0 0).wf = false ∧ (O30.mk 24 0 0 0 0 0).get (b "PR") = ([], Go.errNil) := by decide +kernel

end V30

namespace V31
abbrev ms : List Metric := Spec.V3.metrics

/-- `Get` recognises exactly the Spec abbreviations — on every state: nil error iff `a` is in the table,
    otherwise `("", *ErrInvalidMetric{a})` -/
theorem get_recognises (c : O31) (a : Bytes) :
    ((c.get a).2 = Go.errNil ↔ isMetric ms a = true) ∧
    (isMetric ms a = false → c.get a = ([], eInvalidMetric a)) :=
  ⟨Bits31.layout.get_ok_iff c a, Bits31.contract31.get_unknown c a⟩

/-- `Set` recognises exactly the Spec abbreviations: it answers `*ErrInvalidMetric{a}` (object unchanged) iff
    `a` is not in the table -/
theorem set_recognises (c : O31) (a v : Bytes) :
    (isMetric ms a = false → c.set a v = (c, eInvalidMetric a)) ∧
    (isMetric ms a = true → (c.set a v).2 ≠ eInvalidMetric a) :=
  ⟨Bits31.contract31.set_unknown c a v, set_err_ne_invalid Bits31.contract31 c a v⟩

/-- `Set` accepts exactly the specified values of a metric; any other value is refused with
    `ErrInvalidMetricValue` and the object is unchanged -/
theorem set_accepts (c : O31) (a v : Bytes) (hm : isMetric ms a = true) :
    ((c.set a v).2 = Go.errNil ↔ legal ms a v = true) ∧
    (legal ms a v = false → c.set a v = (c, eValue)) :=
  ⟨set_ok_iff Bits31.contract31 c a v, Bits31.contract31.set_illegal c a v hm⟩

theorem legal_iff (a v : Bytes) : legal ms a v = true ↔ ∃ m ∈ ms, m.abv = a ∧ v ∈ m.values :=
  Bits.legal_iff Bits31.tableOK a v

/-- anything else is refused with an error -/
theorem set_refuses (c : O31) (a v : Bytes) (h : legal ms a v = false) :
    (c.set a v).2 ≠ Go.errNil ∧ (c.set a v).1 = c := Bits.set_refuses Bits31.contract31 c a v h

/-- **every reachable object is well formed** (and conversely: every well-formed object is reachable) -/
theorem reachable_iff_wf (c : O31) : O31.Reachable c ↔ c.wf = true := Bits31.reachable_iff_wf c

theorem zero_wf : O31.zero.wf = true := Bits31.contract31.wf_zero

/-- **on a reachable object every `Get` of a metric returns a legal, non-empty value with nil error** -/
theorem reachable_get (c : O31) (h : O31.Reachable c) :
    ∀ m ∈ ms, (c.get m.abv).2 = Go.errNil ∧ (c.get m.abv).1 ∈ m.values ∧ (c.get m.abv).1 ≠ [] :=
  wf_get_ne_nil Bits31.contract31 Bits31.tableOK c ((reachable_iff_wf c).mp h)

theorem reachable_bytes (c : O31) (h : O31.Reachable c) : c.IsBytes :=
  Bits31.layout.wf_isB c ((reachable_iff_wf c).mp h)

/-! case-sensitivity and the exact value sets, on concrete strings; a byte state that is NOT well formed
    (so `wf` is not vacuous): `PR` code 3 decodes to the empty string -/
example : isMetric ms (b "MAV") = true ∧ isMetric ms (b "mav") = false ∧ isMetric ms (b "Mav") = false := by decide +kernel
example : legal ms (b "PR") (b "L") = true ∧ legal ms (b "PR") (b "l") = false ∧ legal ms (b "PR") (b "X") = false := by
  decide +kernel
example : (O31.zero.get (b "mav")).2 = eInvalidMetric (b "mav") := by decide +kernel
example : (O31.mk 24 0 0 0 0 0).wf = false ∧ (O31.mk 24 0 0 0 0 0).get (b "PR") = ([], Go.errNil) := by decide +kernel

end V31

end C09
