import Cvss.Proofs.Layout40
/-!
# Facts about the v4.0 layout, one byte at a time

`upd k c i` changes code `k` to `i` and no other code, keeps bytes bytes and the unused bits of `u8` zero:
each arm is an instance of the three facts of `BitField` about one field of a byte (the field written is
read back, the other bits are kept, a byte stays a byte), for ANY `Nat`-valued field. In the other
direction the codes (with the unused bits) determine the nine bytes (`eq_of_codes`).
-/
namespace Proofs.B40
open Model (O40)
open BitField (mask)

theorem mask_compl : ∀ s, s < 9 → ∀ w, w < 9 → s + w ≤ 8 →
    (255 - mask s w) &&& mask s w = 0 ∧ (255 - mask s w) ||| mask s w = 255 := by decide

theorem rd_put (u s w x M : Nat) (hM : M = mask s w) (h8 : s + w ≤ 8) (hx : x < 2 ^ w) :
    Nat.shiftRight (Nat.land (put u s w x) M) s = x := by
  subst hM
  exact BitField.rd_wr u _ s w x (mask_compl s (by omega) w (by omega) h8).1 h8 hx

theorem keep_put (u s w x m : Nat) (hm : m &&& mask s w = 0) (hm8 : m < 256) (h8 : s + w ≤ 8) (hx : x < 2 ^ w) :
    Nat.land (put u s w x) m = Nat.land u m :=
  BitField.wr_other u _ s w x m (mask_compl s (by omega) w (by omega) h8).2 hm hm8 hx

theorem put_lt (u s w x : Nat) : put u s w x < 256 :=
  BitField.wr_lt u _ s x (Nat.lt_succ_of_le (Nat.sub_le 255 _))

theorem lt_256 {w x : Nat} (h8 : w ≤ 8) (hx : x < 2 ^ w) : x < 256 :=
  Nat.lt_of_lt_of_le hx (Nat.pow_le_pow_right (by decide) h8)

theorem put0_eq (u w x : Nat) (hx : x < 256) : put0 u w x = put u 0 w x := by
  show Nat.lor _ x = Nat.lor _ (Nat.mod x 256)
  rw [show Nat.mod x 256 = x from Nat.mod_eq_of_lt hx]

theorem rd_put0 (u w x M : Nat) (hM : M = mask 0 w) (h8 : w ≤ 8) (hx : x < 2 ^ w) :
    Nat.land (put0 u w x) M = x := by
  rw [put0_eq u w x (lt_256 h8 hx)]
  exact rd_put u 0 w x M hM (by omega) hx

theorem keep_put0 (u w x m : Nat) (hm : m &&& mask 0 w = 0) (hm8 : m < 256) (h8 : w ≤ 8) (hx : x < 2 ^ w) :
    Nat.land (put0 u w x) m = Nat.land u m := by
  rw [put0_eq u w x (lt_256 h8 hx)]
  exact keep_put u 0 w x m hm hm8 (by omega) hx

theorem put0_lt (u w x : Nat) (hx : x < 256) : put0 u w x < 256 := by
  rw [put0_eq u w x hx]; exact put_lt u 0 w x

theorem mod_256_lt (x : Nat) : Nat.mod x 256 < 256 := Nat.mod_lt x (by decide)

/-! ## the arms of `Set`

In every arm the side conditions of the rules are evaluated: positions, widths and masks are literals,
and the bound on the value written holds for every `i < nv k` (so `i` is quantified again first). What
is left of a field that straddles two bytes is that its two parts rejoin to the code, again a fact
about `i < nv k` alone. -/

theorem upd_codes : ∀ k, k < 32 → ∀ (c : O40) (i : Nat), i < nv k → codes (upd k c i) = (codes c).set k i := by
  split_lt <;> (
    rintro ⟨u0, u1, u2, u3, u4, u5, u6, u7, u8⟩ i hi
    rw [upd]
    simp (disch := first | decide | (revert i; decide)) only [codes, D0, D1, D2, D3, D4, D5, D6, D7, D8,
      List.getD_cons_zero, List.getD_cons_succ, List.set_cons_zero, List.set_cons_succ, rd_put, keep_put, rd_put0,
      keep_put0, List.cons.injEq, and_true, true_and] <;> (revert i; decide))

theorem upd_isBytes : ∀ k, k < 32 → ∀ (c : O40) (i : Nat), i < nv k → c.IsBytes → (upd k c i).IsBytes := by
  split_lt <;> (
    intro c i hi hc
    rw [upd]
    unfold O40.IsBytes at hc ⊢
    simp (disch := first | decide | (revert i; decide)) only [put_lt, put0_lt, mod_256_lt, hc, and_self])

theorem upd_u8 : ∀ k, k < 31 → ∀ (c : O40) (i : Nat), (upd k c i).u8 = c.u8 := by
  split_lt <;> exact fun _ _ => rfl

/-- the `U` arm overwrites `u8` without keeping its low six bits -/
theorem upd_u8_U (c : O40) (i : Nat) : (upd 31 c i).u8 % 64 = 0 := by
  show ((i &&& 3) <<< 6) % 256 % 64 = 0
  rw [Nat.mod_mod_of_dvd _ (by decide : 64 ∣ 256), Nat.shiftLeft_eq]
  exact Nat.mul_mod_left _ _

theorem upd_spare (k : Nat) (hk : k < 32) (c : O40) (i : Nat) (h : c.u8 % 64 = 0) : (upd k c i).u8 % 64 = 0 := by
  rcases Nat.lt_succ_iff_lt_or_eq.mp hk with hk | rfl
  · rw [upd_u8 k hk]; exact h
  · exact upd_u8_U c i

/-! ## the pieces determine the byte -/
def enc0 (ps : List Nat) : Nat := ps.getD 0 0 * 64 + ps.getD 1 0 * 32 + ps.getD 2 0 * 16 + ps.getD 3 0 * 4 + ps.getD 4 0 * 1
theorem E0 : ∀ u, u < 256 → enc0 (D0 u) = u := by decide +kernel
def enc1 (ps : List Nat) : Nat := ps.getD 0 0 * 64 + ps.getD 1 0 * 16 + ps.getD 2 0 * 4 + ps.getD 3 0 * 1
theorem E1 : ∀ u, u < 256 → enc1 (D1 u) = u := by decide +kernel
def enc2 (ps : List Nat) : Nat := ps.getD 0 0 * 64 + ps.getD 1 0 * 16 + ps.getD 2 0 * 4 + ps.getD 3 0 * 1
theorem E2 : ∀ u, u < 256 → enc2 (D2 u) = u := by decide +kernel
def enc3 (ps : List Nat) : Nat := ps.getD 0 0 * 64 + ps.getD 1 0 * 16 + ps.getD 2 0 * 2 + ps.getD 3 0 / 2
theorem E3 : ∀ u, u < 256 → enc3 (D3 u) = u := by decide +kernel
def enc4 (ps : List Nat) : Nat := ps.getD 0 0 * 128 + ps.getD 1 0 * 32 + ps.getD 2 0 * 8 + ps.getD 3 0 * 2 + ps.getD 4 0 / 2
theorem E4 : ∀ u, u < 256 → enc4 (D4 u) = u := by decide +kernel
def enc5 (ps : List Nat) : Nat := ps.getD 0 0 * 128 + ps.getD 1 0 * 32 + ps.getD 2 0 * 8 + ps.getD 3 0 * 2 + ps.getD 4 0 / 4
theorem E5 : ∀ u, u < 256 → enc5 (D5 u) = u := by decide +kernel
def enc6 (ps : List Nat) : Nat := ps.getD 0 0 * 64 + ps.getD 1 0 * 8 + ps.getD 2 0 * 2 + ps.getD 3 0 / 2
theorem E6 : ∀ u, u < 256 → enc6 (D6 u) = u := by decide +kernel
def enc7 (ps : List Nat) : Nat := ps.getD 0 0 * 128 + ps.getD 1 0 * 32 + ps.getD 2 0 * 8 + ps.getD 3 0 * 2 + ps.getD 4 0 / 4
theorem E7 : ∀ u, u < 256 → enc7 (D7 u) = u := by decide +kernel
def enc8 (ps : List Nat) : Nat := ps.getD 0 0 * 64
theorem E8 : ∀ u, u < 256 → enc8 (D8 u) + u % 64 = u := by decide +kernel

/-! ## split fields: both parts can be read back from the code -/
theorem RH16 : ∀ u, u < 256 → ((D3 u).getD 3 0 = 0 ∨ (D3 u).getD 3 0 = 2) := by decide +kernel
theorem RL16 : ∀ u, u < 256 → (D4 u).getD 0 0 < 2 := by decide +kernel
theorem RH20 : ∀ u, u < 256 → ((D4 u).getD 4 0 = 0 ∨ (D4 u).getD 4 0 = 2) := by decide +kernel
theorem RL20 : ∀ u, u < 256 → (D5 u).getD 0 0 < 2 := by decide +kernel
theorem RH24 : ∀ u, u < 256 → ((D5 u).getD 4 0 = 0 ∨ (D5 u).getD 4 0 = 4) := by decide +kernel
theorem RL24 : ∀ u, u < 256 → (D6 u).getD 0 0 < 4 := by decide +kernel
theorem RH27 : ∀ u, u < 256 → ((D6 u).getD 3 0 = 0 ∨ (D6 u).getD 3 0 = 2) := by decide +kernel
theorem RL27 : ∀ u, u < 256 → (D7 u).getD 0 0 < 2 := by decide +kernel
theorem RH31 : ∀ u, u < 256 → ((D7 u).getD 4 0 = 0 ∨ (D7 u).getD 4 0 = 4) := by decide +kernel
theorem RL31 : ∀ u, u < 256 → (D8 u).getD 0 0 < 4 := by decide +kernel
theorem JJ2 : ∀ h, (h = 0 ∨ h = 2) → ∀ l, l < 2 → Nat.land (Nat.lor h l) 2 = h ∧ Nat.land (Nat.lor h l) 1 = l := by
  intro h hh; rcases hh with rfl | rfl <;> decide
theorem JJ4 : ∀ h, (h = 0 ∨ h = 4) → ∀ l, l < 4 → Nat.land (Nat.lor h l) 4 = h ∧ Nat.land (Nat.lor h l) 3 = l := by
  intro h hh; rcases hh with rfl | rfl <;> decide

/-- the pieces of all nine bytes, recomputed from the code vector -/
def piecesOf (cs : List Nat) : List (List Nat) :=
  [[cs.getD 0 0, cs.getD 1 0, cs.getD 2 0, cs.getD 3 0, cs.getD 4 0],
   [cs.getD 5 0, cs.getD 8 0, cs.getD 6 0, cs.getD 9 0],
   [cs.getD 7 0, cs.getD 10 0, cs.getD 11 0, cs.getD 12 0],
   [cs.getD 13 0, cs.getD 14 0, cs.getD 15 0, Nat.land (cs.getD 16 0) 2],
   [Nat.land (cs.getD 16 0) 1, cs.getD 17 0, cs.getD 18 0, cs.getD 19 0, Nat.land (cs.getD 20 0) 2],
   [Nat.land (cs.getD 20 0) 1, cs.getD 21 0, cs.getD 22 0, cs.getD 23 0, Nat.land (cs.getD 24 0) 4],
   [Nat.land (cs.getD 24 0) 3, cs.getD 25 0, cs.getD 26 0, Nat.land (cs.getD 27 0) 2],
   [Nat.land (cs.getD 27 0) 1, cs.getD 28 0, cs.getD 29 0, cs.getD 30 0, Nat.land (cs.getD 31 0) 4],
   [Nat.land (cs.getD 31 0) 3]]

theorem piecesOf_codes (c : O40) (hc : c.IsBytes) :
    piecesOf (codes c) = [D0 c.u0, D1 c.u1, D2 c.u2, D3 c.u3, D4 c.u4, D5 c.u5, D6 c.u6, D7 c.u7, D8 c.u8] := by
  obtain ⟨h0, h1, h2, h3, h4, h5, h6, h7, h8⟩ := hc
  have s16 := JJ2 _ (RH16 c.u3 h3) _ (RL16 c.u4 h4)
  have s20 := JJ2 _ (RH20 c.u4 h4) _ (RL20 c.u5 h5)
  have s24 := JJ4 _ (RH24 c.u5 h5) _ (RL24 c.u6 h6)
  have s27 := JJ2 _ (RH27 c.u6 h6) _ (RL27 c.u7 h7)
  have s31 := JJ4 _ (RH31 c.u7 h7) _ (RL31 c.u8 h8)
  simp only [piecesOf, codes, List.getD_cons_zero, List.getD_cons_succ, s16.1, s16.2, s20.1, s20.2, s24.1, s24.2, s27.1, s27.2, s31.1, s31.2]
  rfl

/-- the 32 codes and `u8 % 64` (the unused bits) are a complete, non-redundant description of the nine bytes -/
theorem eq_of_codes (c c' : O40) (hc : c.IsBytes) (hc' : c'.IsBytes) (h8 : c.u8 % 64 = c'.u8 % 64)
    (h : codes c = codes c') : c = c' := by
  have e := piecesOf_codes c hc
  rw [h, piecesOf_codes c' hc'] at e
  obtain ⟨a0, a1, a2, a3, a4, a5, a6, a7, a8⟩ := hc
  obtain ⟨b0, b1, b2, b3, b4, b5, b6, b7, b8⟩ := hc'
  simp only [List.cons.injEq, and_true] at e
  obtain ⟨e0, e1, e2, e3, e4, e5, e6, e7, e8⟩ := e
  have f0 := (E0 _ a0).symm.trans ((congrArg enc0 e0.symm).trans (E0 _ b0))
  have f1 := (E1 _ a1).symm.trans ((congrArg enc1 e1.symm).trans (E1 _ b1))
  have f2 := (E2 _ a2).symm.trans ((congrArg enc2 e2.symm).trans (E2 _ b2))
  have f3 := (E3 _ a3).symm.trans ((congrArg enc3 e3.symm).trans (E3 _ b3))
  have f4 := (E4 _ a4).symm.trans ((congrArg enc4 e4.symm).trans (E4 _ b4))
  have f5 := (E5 _ a5).symm.trans ((congrArg enc5 e5.symm).trans (E5 _ b5))
  have f6 := (E6 _ a6).symm.trans ((congrArg enc6 e6.symm).trans (E6 _ b6))
  have f7 := (E7 _ a7).symm.trans ((congrArg enc7 e7.symm).trans (E7 _ b7))
  have f8 : c.u8 = c'.u8 := by
    have x := E8 _ a8
    have y := E8 _ b8
    rw [e8] at y
    omega
  cases c; cases c'
  simp only [O40.mk.injEq]
  exact ⟨f0, f1, f2, f3, f4, f5, f6, f7, f8⟩

end Proofs.B40
