import Cvss.Proofs.Score3Force
/-!
# C12 (v3), specification side: enumeration predicates for monotonicity of the equations on codes

Nothing here looks at the Go code. Codes are value-table indices (`Score3Spec.lean`): for every metric except
Scope a *smaller* code is the more severe value (AV N0>A1>L2>P3, AC L0>H1, PR N0>L1>H2, UI N0>R1, C/I/A H0>L1>N2,
requirements H1>M2>L3, E H1>F2>P3>U4, RL U1>W2>T3>O4, RC C1>R2>U3); Scope: U0<C1.
All values are tenths as `Nat` (`Int.toNat` of the Spec value), so that the kernel compares literals and its
evaluation cache shares the value of a tuple between all the comparisons it takes part in.
-/
namespace Proofs.Score3.Mono
open Spec Spec.V3 Proofs.Score3

/-- modified base score (tenths) on effective codes; requirement *indices* `ci ii ai` ∈ {0,1,2} = codes H1, M2, L3 -/
def kI (v31 : Bool) (mav mac mpr mui ms mc mi ma ci ii ai : Nat) : Nat :=
  (specInner v31 mav mac mpr mui ms mc mi ma (Nat.succ ci) (Nat.succ ii) (Nat.succ ai)).toNat
/-- `kI` on (scope, MISS, exploitability) -/
def gI (v31 : Bool) (ms : Nat) (m e : Dec) : Nat :=
  (BaseScore (Nat.beq ms 1) (ModifiedImpact v31 (Nat.beq ms 1) m) e).toNat
/-- base score (tenths) -/
def kB (av ac pr ui s c i a : Nat) : Nat := (specBase av ac pr ui s c i a).toNat
/-- temporal step (tenths); temporal *indices* `e rl rc` = codes 1.. (`X` = code 0 weighs as code 1) -/
def kT (k e rl rc : Nat) : Nat := (specT (Int.ofNat k) (Nat.succ e) (Nat.succ rl) (Nat.succ rc)).toNat

/-- all more severe values `q ≤ p` of a component give at least `k` -/
@[inline] def allLE (p : Nat) (k : Nat) (f : Nat → Nat) : Bool := (List.range (Nat.succ p)).all fun q => Nat.ble k (f q)

/-! ## The modified base score through its values

`kI` looks at its eleven codes only through the value of `MISS` (six codes) and of the exploitability (four codes and the
scope). Both take few values, and each is monotone in its codes; so it is enough that `gI` is monotone along the two
lists of values, and in the scope. Positions in the lists stand for the values, so that all comparisons are of `Nat`s. -/

/-- the distinct values of `MISS` over the 729 tuples of requirement and impact codes, in non-decreasing order (one
    number may appear with several exponents) -/
def missVals : List Dec :=
  [0, 0.0, 0.00, 0.000, 0.110, 0.1100, 0.11000, 0.207900, 0.2079000, 0.22, 0.220, 0.2200, 0.280, 0.2800, 0.28000,
   0.295031000, 0.30580, 0.305800, 0.330, 0.3300, 0.33000, 0.359200, 0.3592000, 0.38216200, 0.3916, 0.39160,
   0.403700, 0.4037000, 0.429688000, 0.43840, 0.438400, 0.4585240, 0.469293000, 0.47740, 0.477400, 0.481600,
   0.4816000, 0.50017600, 0.517600, 0.5176000, 0.525448, 0.53488600, 0.538624000, 0.551100, 0.5511000, 0.56, 0.560,
   0.5600, 0.5619520, 0.570664000, 0.5923720, 0.59564800, 0.600479000, 0.60840, 0.608400, 0.62372800, 0.626752000,
   0.64985800, 0.65147600, 0.652672000, 0.6568, 0.65680, 0.676792000, 0.68320, 0.683200, 0.6945520, 0.699237000,
   0.70520, 0.705200, 0.71804800, 0.732304, 0.73762800, 0.7528960, 0.7700560, 0.77190400, 0.78774400, 0.80248400,
   0.8064, 0.80640, 0.8276960, 0.840, 0.8400, 0.84000, 0.848992, 0.857600, 0.8576000, 0.8606080, 0.8702880,
   0.873264000, 0.87520, 0.875200, 0.884800, 0.8848000, 0.88892800, 0.892800, 0.8928000, 0.897472000, 0.9026560,
   0.904592000, 0.91014400, 0.914816, 0.915]

/-- the distinct values of the exploitability over the 48 tuples of codes in scope `ms`, in increasing order -/
def explVals (ms : Nat) : List Dec :=
  cond (Nat.beq ms 1)
    [0.22424160, 0.304968576, 0.30742800, 0.381210720, 0.39242280, 0.418102080, 0.522627600, 0.533695008, 0.53799900,
     0.616664400, 0.667118760, 0.695148960, 0.731678640, 0.8386635840, 0.845427000, 0.914598300, 0.9454025856,
     0.953026800, 1.0483294800, 1.079162700, 1.1497807200, 1.1817532320, 1.216510680, 1.2961164480, 1.306569000,
     1.4372259000, 1.4676612720, 1.479497250, 1.6201455600, 1.6544545248, 1.667796900, 1.7769338400, 1.8345765900,
     2.0121162600, 2.0680681560, 2.2211673000, 2.2682037840, 2.286495750, 2.5151453250, 2.8352547300, 3.1096342200,
     3.8870427750]
    [0.121090464, 0.166011120, 0.211908312, 0.278059584, 0.290519460, 0.3329987760, 0.3753804384, 0.381210720,
     0.4565305800, 0.486604272, 0.5146344720, 0.522627600, 0.5827478580, 0.6569157672, 0.667118760, 0.7055472600,
     0.7646638560, 0.7989285150, 0.8619847104, 0.9006103260, 0.914598300, 1.0483294800, 1.1817532320, 1.2347077050,
     1.3381617480, 1.4372259000, 1.5084732432, 1.6201455600, 1.8345765900, 2.0680681560, 2.2211673000, 2.5151453250,
     2.8352547300, 3.8870427750]

/-- position of the first entry that is at least `x`: the same for all decimals that are the same number -/
def pos (l : List Dec) (x : Dec) : Nat := l.findIdx fun y => decide (x ≤ y)

def missOf (mc mi ma ci ii ai : Nat) : Dec :=
  MISS (cReq (Nat.succ ci)) (cCIA mc) (cReq (Nat.succ ii)) (cCIA mi) (cReq (Nat.succ ai)) (cCIA ma)
def posM (mc mi ma ci ii ai : Nat) : Nat := forceDec (missOf mc mi ma ci ii ai) (pos missVals)
def posE (mav mac mpr mui ms : Nat) : Nat := forceDec (specExpl mav mac mpr mui ms) (explVals ms).idxOf

/-- every value of `MISS` is listed, and a more severe code in any of the six places does not lower its position -/
def monoM : Bool :=
  (List.range 3).all fun ci => (List.range 3).all fun ii => (List.range 3).all fun ai =>
  (List.range 3).all fun mc => (List.range 3).all fun mi => (List.range 3).all fun ma =>
  forceDec (missOf mc mi ma ci ii ai) missVals.contains &&
  F64.flet (posM mc mi ma ci ii ai) fun k =>
    allLE mc k (fun q => posM q mi ma ci ii ai) && allLE mi k (fun q => posM mc q ma ci ii ai) &&
    allLE ma k (fun q => posM mc mi q ci ii ai) && allLE ci k (fun q => posM mc mi ma q ii ai) &&
    allLE ii k (fun q => posM mc mi ma ci q ai) && allLE ai k (fun q => posM mc mi ma ci ii q)

/-- the same for the exploitability in either scope -/
def monoE : Bool :=
  (List.range 2).all fun ms =>
  (List.range 4).all fun mav => (List.range 2).all fun mac => (List.range 3).all fun mpr => (List.range 2).all fun mui =>
  F64.flet (posE mav mac mpr mui ms) fun k =>
    Nat.blt k (explVals ms).length &&
    allLE mav k (fun q => posE q mac mpr mui ms) && allLE mac k (fun q => posE mav q mpr mui ms) &&
    allLE mpr k (fun q => posE mav mac q mui ms) && allLE mui k (fun q => posE mav mac mpr q ms)

/-- `p` holds of every two neighbours -/
def adjAll {α : Type} (p : α → α → Bool) : List α → Bool
  | a :: b :: l => p a b && adjAll p (b :: l)
  | _ => true

/-- Modified scope U→C at the `i`-th exploitability `e1` of scope C: the code tuples that have it score no more in scope U -/
def scopeAt (i : Nat) (e1 : Dec) : Bool :=
  (List.range 4).all fun mav => (List.range 2).all fun mac => (List.range 3).all fun mpr => (List.range 2).all fun mui =>
    cond (Nat.beq (posE mav mac mpr mui 1) i)
      (forceDec (specExpl mav mac mpr mui 0) fun e0 => missVals.all fun m => Nat.ble (gI true 0 m e0) (gI true 1 m e1))
      true

/-- At the `i`-th exploitability `e` of scope `ms`: the score does not fall from a value of `MISS` to the next; decimals
    that are the same number give the same score; the score does not fall from `e` to the next exploitability; and
    `scopeAt` in scope C. (`gI` always meets entries of the lists as they are written there, `match` handing on the entry
    found: the kernel then evaluates each score once in a theorem.) -/
def stepG (ms i : Nat) : Bool :=
  match (explVals ms)[i]? with
  | none => true
  | some e =>
    adjAll (fun m m' => Nat.ble (gI true ms m e) (gI true ms m' e)) missVals &&
    (missVals.all fun m =>
      match missVals[pos missVals m]? with
      | some r => Nat.beq (gI true ms m e) (gI true ms r e)
      | none => false) &&
    (match (explVals ms)[i + 1]? with
      | some e' => missVals.all fun m => Nat.ble (gI true ms m e) (gI true ms m e')
      | none => true) &&
    cond (Nat.beq ms 1) (scopeAt i e) true

/-- six exploitabilities to a table: in scope C an evaluation costs the kernel the more, the more of them one theorem
    holds (their large numerators with many low zero bits meet in its cache) -/
def chunkG (ms k : Nat) : Bool := (List.range 6).all fun d => stepG ms (6 * k + d)

/-- Base: all 2,592 tuples, steps in all 8 components (Scope U→C) -/
def monoBase : Bool :=
  (List.range 3).all fun c => (List.range 3).all fun i => (List.range 3).all fun a =>
  (List.range 4).all fun av => (List.range 2).all fun ac => (List.range 3).all fun pr => (List.range 2).all fun ui =>
  F64.flet (kB av ac pr ui 0 c i a) fun k0 =>
  F64.flet (kB av ac pr ui 1 c i a) fun k1 =>
    Nat.ble k0 k1 &&
    allLE c k0 (fun q => kB av ac pr ui 0 q i a) && allLE c k1 (fun q => kB av ac pr ui 1 q i a) &&
    allLE i k0 (fun q => kB av ac pr ui 0 c q a) && allLE i k1 (fun q => kB av ac pr ui 1 c q a) &&
    allLE a k0 (fun q => kB av ac pr ui 0 c i q) && allLE a k1 (fun q => kB av ac pr ui 1 c i q) &&
    allLE av k0 (fun q => kB q ac pr ui 0 c i a) && allLE av k1 (fun q => kB q ac pr ui 1 c i a) &&
    allLE ac k0 (fun q => kB av q pr ui 0 c i a) && allLE ac k1 (fun q => kB av q pr ui 1 c i a) &&
    allLE pr k0 (fun q => kB av ac q ui 0 c i a) && allLE pr k1 (fun q => kB av ac q ui 1 c i a) &&
    allLE ui k0 (fun q => kB av ac pr q 0 c i a) && allLE ui k1 (fun q => kB av ac pr q 1 c i a)

/-- Temporal step: monotone in the tenth `k` (adjacent, `k ≤ 100`) and in the three temporal indices -/
def monoT : Bool :=
  (List.range 4).all fun e => (List.range 4).all fun rl => (List.range 3).all fun rc =>
  (List.range 101).all fun k =>
  F64.flet (kT k e rl rc) fun t =>
    Nat.ble t (kT (Nat.succ k) e rl rc) &&
    allLE e t (fun q => kT k q rl rc) && allLE rl t (fun q => kT k e q rc) && allLE rc t (fun q => kT k e rl q)

end Proofs.Score3.Mono
