import Cvss.Proofs.Vec20
import Cvss.Proofs.Vec30
import Cvss.Proofs.Vec31
import Cvss.Proofs.Vec40
import Cvss.Proofs.Bits31
import Cvss.Proofs.Bits40
/-!
# C17 — `Vector()` performs exactly one allocation: `len(Vector()) = lenVec()`; and the shape of `Vector()`

For each version (`C17.V20`, `C17.V30`, `C17.V31`, `C17.V40`):
* `length_eq` — **C17**: for every well-formed object (`c.wf = true`) the string built by the generated `Vector`
  has exactly the length the generated `lenVec` pre-sizes the buffer with, so none of the `append`s reallocates.
* `length_eq_of_legal` — the same under a weaker hypothesis: byte-sized fields whose metrics all read as legal
  values; the unused bits may be anything (v2.0: only the six base metrics need to be legal, nothing else).
* `length_formula` — the strongest true statement, for **every byte state**:
  `len(Vector()) + #{metrics reading as an illegal value} = lenVec()` (v2.0: base metrics only; v4.0: `+ 4` on the
  right when `U` reads as an illegal value).
* `length_eq_iff`, `length_le` — hence for byte states C17 holds iff the metrics are legal, and (v2.0, v3.x) the
  buffer is never outgrown; in v4.0 both need `U` to read as a legal value, and
* `not_all_bytes` — C17 is false for arbitrary byte states (concrete witness). In v2.0/v3.x the buffer is then
  over-allocated; in v4.0 it can be **outgrown** (`U` code 5..7 is written as `/U:` but not counted by `lenVec`).

All of them are read off the length formula of `Proofs/Vec*.lean` by `Proofs.Vec.len_cases`. The hypothesis
`c.IsBytes` is kept as the property is worded; the formula holds for every object (`Get` and `lenVec` mask each field
before use).

Shape (`C17.vector_eq20 … vector_eq40`): the field `vector_eq` of `Proofs.VecContract`, for any contract `K` whose
`get` is the model's `Get`; it holds for every object, with or without `K.WF`. `C17.vecContractxx` packages it.
-/
namespace C17
open Spec Model
open Proofs.Vec (len_cases)

namespace V20
/-- **C17 (v2.0)** -/
theorem length_eq (c : O20) (h : c.wf = true) : c.vector.length = c.lenVec :=
  (len_cases (Proofs.Vec20.length_formula_base c)).2.mpr fun m hm =>
    (Bits20.contract20.wf_get c h m (by simp [V2.metrics, hm])).2

theorem length_eq_of_legal (c : O20) (hv : ∀ m ∈ V2.base, (c.get m.abv).1 ∈ m.values) :
    c.vector.length = c.lenVec := (len_cases (Proofs.Vec20.length_formula_base c)).2.mpr hv

/-- every object, no hypothesis at all: the constant 26 of `lenVec` assumes one-letter base values -/
theorem length_formula_all (c : O20) :
    c.vector.length + 6 = c.lenVec + (V2.base.map fun m => ((c.get m.abv).1).length).sum :=
  Proofs.Vec20.length_formula c

theorem length_formula (c : O20) (hb : c.IsBytes) :
    c.vector.length + (V2.base.map fun m => Proofs.Vec.bad m (c.get m.abv).1).sum = c.lenVec :=
  let _ := hb
  Proofs.Vec20.length_formula_base c

theorem length_eq_iff (c : O20) (hb : c.IsBytes) :
    c.vector.length = c.lenVec ↔ ∀ m ∈ V2.base, (c.get m.abv).1 ∈ m.values :=
  let _ := hb
  (len_cases (Proofs.Vec20.length_formula_base c)).2

theorem length_le (c : O20) (hb : c.IsBytes) : c.vector.length ≤ c.lenVec :=
  let _ := hb
  (len_cases (Proofs.Vec20.length_formula_base c)).1

theorem not_all_bytes : ¬ ∀ c : O20, c.IsBytes → c.vector.length = c.lenVec := by
  intro h
  have h1 := h ⟨3, 0, 0, 0⟩ (by unfold O20.IsBytes; decide)
  rw [Proofs.Vec20.length_ne_example.1, Proofs.Vec20.length_ne_example.2] at h1
  exact absurd h1 (by decide)

example : (⟨101, 32, 134, 3⟩ : O20).wf = true := by decide +kernel

end V20

namespace V30
/-- **C17 (v3.0)** -/
theorem length_eq (c : O30) (h : c.wf = true) : c.vector.length = c.lenVec :=
  (len_cases (Proofs.Vec30.length_formula c)).2.mpr fun m hm => (Bits30.contract30.wf_get c h m hm).2

theorem length_eq_of_legal (c : O30) (hb : c.IsBytes) (hv : ∀ m ∈ V3.metrics, (c.get m.abv).1 ∈ m.values) :
    c.vector.length = c.lenVec :=
  let _ := hb
  (len_cases (Proofs.Vec30.length_formula c)).2.mpr hv

theorem length_formula (c : O30) (hb : c.IsBytes) :
    c.vector.length + (V3.metrics.map fun m => Proofs.Vec.bad m (c.get m.abv).1).sum = c.lenVec :=
  let _ := hb
  Proofs.Vec30.length_formula c

theorem length_eq_iff (c : O30) (hb : c.IsBytes) :
    c.vector.length = c.lenVec ↔ ∀ m ∈ V3.metrics, (c.get m.abv).1 ∈ m.values :=
  let _ := hb
  (len_cases (Proofs.Vec30.length_formula c)).2

theorem length_le (c : O30) (hb : c.IsBytes) : c.vector.length ≤ c.lenVec :=
  let _ := hb
  (len_cases (Proofs.Vec30.length_formula c)).1

theorem not_all_bytes : ¬ ∀ c : O30, c.IsBytes → c.vector.length = c.lenVec := by
  intro h
  have h1 := h ⟨0, 5, 0, 0, 0, 0⟩ (by unfold O30.IsBytes; decide)
  rw [Proofs.Vec30.length_ne_example.1, Proofs.Vec30.length_ne_example.2] at h1
  exact absurd h1 (by decide)

example : (⟨110, 194, 1, 16, 0, 48⟩ : O30).wf = true := by decide +kernel

end V30

namespace V31
/-- **C17 (v3.1)** -/
theorem length_eq (c : O31) (h : c.wf = true) : c.vector.length = c.lenVec :=
  (len_cases (Proofs.Vec31.length_formula c)).2.mpr fun m hm => (Bits31.contract31.wf_get c h m hm).2

theorem length_eq_of_legal (c : O31) (hb : c.IsBytes) (hv : ∀ m ∈ V3.metrics, (c.get m.abv).1 ∈ m.values) :
    c.vector.length = c.lenVec :=
  let _ := hb
  (len_cases (Proofs.Vec31.length_formula c)).2.mpr hv

theorem length_formula (c : O31) (hb : c.IsBytes) :
    c.vector.length + (V3.metrics.map fun m => Proofs.Vec.bad m (c.get m.abv).1).sum = c.lenVec :=
  let _ := hb
  Proofs.Vec31.length_formula c

theorem length_eq_iff (c : O31) (hb : c.IsBytes) :
    c.vector.length = c.lenVec ↔ ∀ m ∈ V3.metrics, (c.get m.abv).1 ∈ m.values :=
  let _ := hb
  (len_cases (Proofs.Vec31.length_formula c)).2

theorem length_le (c : O31) (hb : c.IsBytes) : c.vector.length ≤ c.lenVec :=
  let _ := hb
  (len_cases (Proofs.Vec31.length_formula c)).1

theorem not_all_bytes : ¬ ∀ c : O31, c.IsBytes → c.vector.length = c.lenVec := by
  intro h
  have h1 := h ⟨0, 5, 0, 0, 0, 0⟩ (by unfold O31.IsBytes; decide)
  rw [Proofs.Vec31.length_ne_example.1, Proofs.Vec31.length_ne_example.2] at h1
  exact absurd h1 (by decide)

example : (⟨110, 194, 1, 16, 0, 48⟩ : O31).wf = true := by decide +kernel

end V31

namespace V40

/-- when `U` reads as a legal value, the `+ 4` of `Proofs.Vec40.length_formula` vanishes -/
theorem length_formula_U (c : O40) (hU : (c.get (b "U")).1 ∈ (Proofs.Vec40.M "U").values) :
    c.vector.length + (V4.metrics.map fun m => Proofs.Vec.bad m (c.get m.abv).1).sum = c.lenVec := by
  have h := Proofs.Vec40.length_formula c
  rw [show Proofs.Vec.bad (Proofs.Vec40.M "U") (c.get (b "U")).1 = 0 from if_pos hU] at h
  exact h

theorem legal_U (c : O40) (hv : ∀ m ∈ V4.metrics, (c.get m.abv).1 ∈ m.values) :
    (c.get (b "U")).1 ∈ (Proofs.Vec40.M "U").values := hv _ Proofs.Vec40.mem_U

/-- **C17 (v4.0)** -/
theorem length_eq (c : O40) (h : c.wf = true) : c.vector.length = c.lenVec :=
  have hv := fun m hm => (Proofs.B40.contract40.wf_get c h m hm).2
  (len_cases (length_formula_U c (legal_U c hv))).2.mpr hv

theorem length_eq_of_legal (c : O40) (hb : c.IsBytes) (hv : ∀ m ∈ V4.metrics, (c.get m.abv).1 ∈ m.values) :
    c.vector.length = c.lenVec :=
  let _ := hb
  (len_cases (length_formula_U c (legal_U c hv))).2.mpr hv

theorem length_formula (c : O40) (hb : c.IsBytes) :
    c.vector.length + (V4.metrics.map fun m => Proofs.Vec.bad m (c.get m.abv).1).sum
      = c.lenVec + 4 * Proofs.Vec.bad (Proofs.Vec40.M "U") (c.get (b "U")).1 :=
  let _ := hb
  Proofs.Vec40.length_formula c

theorem length_eq_iff (c : O40) (hb : c.IsBytes) (hU : (c.get (b "U")).1 ∈ (Proofs.Vec40.M "U").values) :
    c.vector.length = c.lenVec ↔ ∀ m ∈ V4.metrics, (c.get m.abv).1 ∈ m.values :=
  let _ := hb
  (len_cases (length_formula_U c hU)).2

theorem length_le (c : O40) (hb : c.IsBytes) (hU : (c.get (b "U")).1 ∈ (Proofs.Vec40.M "U").values) :
    c.vector.length ≤ c.lenVec :=
  let _ := hb
  (len_cases (length_formula_U c hU)).1

/-- for non-well-formed byte states `Vector()` can outgrow the buffer pre-sized by `lenVec()` -/
theorem not_all_bytes : ¬ ∀ c : O40, c.IsBytes → c.vector.length ≤ c.lenVec := by
  intro h
  have h1 := h ⟨0, 0, 0, 0, 0, 0, 0, 1, 64⟩ (by unfold O40.IsBytes; decide)
  rw [Proofs.Vec40.length_gt_example.1, Proofs.Vec40.length_gt_example.2] at h1
  exact absurd h1 (by decide)

example : (⟨86, 88, 40, 0, 64, 1, 1, 1, 0⟩ : O40).wf = true := by decide +kernel
example : (Proofs.Vec40.M "U").values = [b "X", b "Clear", b "Green", b "Amber", b "Red"] := by decide +kernel

end V40

/-- a `Vector()` that spells the canonical form of what `Get` returns meets the `VecContract` of every contract
    whose `get` is that `Get` -/
theorem vector_eq_of_get {O : Type} {ms : List Metric} (K : Proofs.Contract O ms)
    {get : O → Model.Bytes → Model.Bytes × Go.Err} (hget : K.get = get)
    {vector : O → Model.Bytes} {canon : List Pair → Model.Bytes}
    (h : ∀ c, vector c = canon (ms.map fun m => (m.abv, (get c m.abv).1))) :
    ∀ c, K.WF c → vector c = canon (K.pairs c) := by
  intro c _
  unfold Proofs.Contract.pairs
  rw [hget]
  exact h c

/-- v2.0: `Vector()` is the Spec canonical form of the object's own values (every object) -/
theorem vector_eq20_raw (c : O20) :
    c.vector = V2.canonical (V2.metrics.map fun m => (m.abv, (c.get m.abv).1)) :=
  Proofs.Vec20.vector_eq c

theorem vector_eq20 (K : Proofs.Contract O20 V2.metrics) (hget : K.get = O20.get) :
    ∀ c, K.WF c → O20.vector c = V2.canonical (K.pairs c) := vector_eq_of_get K hget vector_eq20_raw

def vecContract20 (K : Proofs.Contract O20 V2.metrics) (hget : K.get = O20.get) :
    Proofs.VecContract O20 V2.metrics K V2.canonical :=
  ⟨O20.vector, vector_eq20 K hget⟩

/-- v3.0: `Vector()` is the Spec canonical form of the object's own values (every object) -/
theorem vector_eq30_raw (c : O30) :
    c.vector = V3.canonical V3.header30 (V3.metrics.map fun m => (m.abv, (c.get m.abv).1)) :=
  Proofs.Vec30.vector_eq c

theorem vector_eq30 (K : Proofs.Contract O30 V3.metrics) (hget : K.get = O30.get) :
    ∀ c, K.WF c → O30.vector c = (V3.canonical V3.header30) (K.pairs c) := vector_eq_of_get K hget vector_eq30_raw

def vecContract30 (K : Proofs.Contract O30 V3.metrics) (hget : K.get = O30.get) :
    Proofs.VecContract O30 V3.metrics K (V3.canonical V3.header30) :=
  ⟨O30.vector, vector_eq30 K hget⟩

/-- v3.1: `Vector()` is the Spec canonical form of the object's own values (every object) -/
theorem vector_eq31_raw (c : O31) :
    c.vector = V3.canonical V3.header31 (V3.metrics.map fun m => (m.abv, (c.get m.abv).1)) :=
  Proofs.Vec31.vector_eq c

theorem vector_eq31 (K : Proofs.Contract O31 V3.metrics) (hget : K.get = O31.get) :
    ∀ c, K.WF c → O31.vector c = (V3.canonical V3.header31) (K.pairs c) := vector_eq_of_get K hget vector_eq31_raw

def vecContract31 (K : Proofs.Contract O31 V3.metrics) (hget : K.get = O31.get) :
    Proofs.VecContract O31 V3.metrics K (V3.canonical V3.header31) :=
  ⟨O31.vector, vector_eq31 K hget⟩

/-- v4.0: `Vector()` is the Spec canonical form of the object's own values (every object) -/
theorem vector_eq40_raw (c : O40) :
    c.vector = V4.canonical (V4.metrics.map fun m => (m.abv, (c.get m.abv).1)) :=
  Proofs.Vec40.vector_eq c

theorem vector_eq40 (K : Proofs.Contract O40 V4.metrics) (hget : K.get = O40.get) :
    ∀ c, K.WF c → O40.vector c = V4.canonical (K.pairs c) := vector_eq_of_get K hget vector_eq40_raw

def vecContract40 (K : Proofs.Contract O40 V4.metrics) (hget : K.get = O40.get) :
    Proofs.VecContract O40 V4.metrics K V4.canonical :=
  ⟨O40.vector, vector_eq40 K hget⟩

end C17
