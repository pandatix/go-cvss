import Cvss.Proofs.Parse4Defect
/-!
# C18 (v4.0 part): documented error values

For every grammatical vector (witness list `w`), every defect kind of `Spec.Defect` and every position:
the parser returns exactly the error value the Spec promises — `ErrInvalidCVSSHeader` (1) for a damaged or
missing header (the part before the first `/` is not `CVSS:4.0`; this includes `CVSS:4.0` followed by junk, finding
F4), `ErrInvalidMetricValue` (4) for an illegal value, `ErrInvalidMetricOrder` (3) for a misplaced metric (swapped
neighbours `swap i`, and in general `move i j`: any one element taken out and put back at any other position) / a
repeated metric / an unknown abbreviation, `ErrTooShortVector` (2) for a truncation inside the base group. All
defect kinds hold for the model at full strength (no `_partial`), including the corner cases: swap of two optional
metrics, a base metric moved to the very end, the last optional metric moved to the front, a repeat inserted
directly before the original, an unknown element with an empty abbreviation, insertion at the very end, truncation
to zero elements.
-/
namespace C18.V4
open Spec (Pair b Defect)
open Model (Bytes O40 Res)
open Proofs.P4

variable (K : Proofs.Contract O40 Spec.V4.metrics)

/-- **C18 (v4.0).** -/
theorem errors (w : List Pair) (d : Defect) (s : Bytes) (e : Spec.ErrVal)
    (hw : ∃ s0, Spec.V4.Witness s0 w) (h : d.apply .v40 w = some (s, e)) :
    parseK K s = .err ⟨e.1, e.2⟩ := by
  obtain ⟨s0, hs0⟩ := hw
  exact defect_v4 K (witness_iff.mp hs0).2 d s e h

/-! ## per defect kind, with the sentinel spelled out -/

theorem header_defect {w : List Pair} (_hw : ∃ s0, Spec.V4.Witness s0 w) (p : Bytes) {s : Bytes} {e : Spec.ErrVal}
    (h : (Defect.header p).apply .v40 w = some (s, e)) : parseK K s = .err Model.eHeader ∧ e = (1, []) :=
  ⟨err_header_headOf K (Proofs.Defect.header_eq_some h).2.1, (Proofs.Defect.header_eq_some h).2.2⟩

theorem illegal_value {w : List Pair} (hw : ∃ s0, Spec.V4.Witness s0 w) {i : Nat} {a x v : Bytes}
    (hi : w[i]? = some (a, x)) (hl : Spec.legal Spec.V4.metrics a v = false) (hs : Spec.SLASH ∉ v) :
    parseK K (Spec.V4.header ++ body (w.set i (a, v))) = .err Model.eValue := by
  obtain ⟨s0, hs0⟩ := hw
  exact err_illegal K (witness_iff.mp hs0).2 hi hl hs

theorem repeated_metric {w : List Pair} (hw : ∃ s0, Spec.V4.Witness s0 w) {i : Nat} (j : Nat) {a x v : Bytes}
    (hi : w[i]? = some (a, x)) (hl : Spec.legal Spec.V4.metrics a v = true) :
    parseK K (Spec.V4.header ++ body (Spec.insertAt w j (a, v))) = .err Model.eOrder := by
  obtain ⟨s0, hs0⟩ := hw
  exact err_repeated K (witness_iff.mp hs0).2 hi hl

theorem unknown_metric {w : List Pair} (hw : ∃ s0, Spec.V4.Witness s0 w) (j : Nat) {a v : Bytes}
    (ha : Spec.isMetric Spec.V4.metrics a = false) (hc : Spec.clean a = true) (hs : Spec.SLASH ∉ v) :
    parseK K (Spec.V4.header ++ body (Spec.insertAt w j (a, v))) = .err Model.eOrder := by
  obtain ⟨s0, hs0⟩ := hw
  exact err_unknown K (witness_iff.mp hs0).2 ha hc hs

theorem swapped_neighbours {w : List Pair} (hw : ∃ s0, Spec.V4.Witness s0 w) {i : Nat} {p q : Pair}
    (hp : w[i]? = some p) (hq : w[i + 1]? = some q) :
    parseK K (Spec.V4.header ++ body ((w.set i q).set (i + 1) p)) = .err Model.eOrder := by
  obtain ⟨s0, hs0⟩ := hw
  exact err_swap K (witness_iff.mp hs0).2 hp hq

/-- misplaced: element `i` taken out and put back so that it is element `j ≠ i` of the result -/
theorem moved_metric {w : List Pair} (hw : ∃ s0, Spec.V4.Witness s0 w) {i j : Nat} {p : Pair}
    (hp : w[i]? = some p) (hji : j ≠ i) (hj : j < w.length) :
    parseK K (Spec.V4.header ++ body (Spec.insertAt (w.eraseIdx i) j p)) = .err Model.eOrder := by
  obtain ⟨s0, hs0⟩ := hw
  exact err_move K (witness_iff.mp hs0).2 hp hji hj

theorem truncated {w : List Pair} (hw : ∃ s0, Spec.V4.Witness s0 w) {n : Nat} (hn : n < 11) :
    parseK K (Spec.V4.header ++ body (w.take n)) = .err Model.eTooShort := by
  obtain ⟨s0, hs0⟩ := hw
  exact err_truncate K (witness_iff.mp hs0).2 hn

/-- the error sentinels are the documented codes -/
theorem codes : Model.eHeader = ⟨1, []⟩ ∧ Model.eTooShort = ⟨2, []⟩ ∧ Model.eOrder = ⟨3, []⟩ ∧ Model.eValue = ⟨4, []⟩ :=
  ⟨rfl, rfl, rfl, rfl⟩

/-! ## the hypotheses are satisfiable; the corner cases on the generated code itself -/

/-- a witness with threat, environmental and supplemental metrics -/
def w0 : List Pair :=
  [(b "AV", b "N"), (b "AC", b "L"), (b "AT", b "N"), (b "PR", b "N"), (b "UI", b "N"), (b "VC", b "H"),
   (b "VI", b "H"), (b "VA", b "H"), (b "SC", b "N"), (b "SI", b "N"), (b "SA", b "N"),
   (b "E", b "A"), (b "CR", b "H"), (b "U", b "Red")]

theorem w0_witness : ∃ s0, Spec.V4.Witness s0 w0 :=
  ⟨b "CVSS:4.0/AV:N/AC:L/AT:N/PR:N/UI:N/VC:H/VI:H/VA:H/SC:N/SI:N/SA:N/E:A/CR:H/U:Red", (read_iff _ _).mp (by decide +kernel)⟩

/-- every defect kind is applicable to `w0` -/
example : ((Defect.header (b "CVSS:3.1")).apply .v40 w0).isSome = true := by decide +kernel
/-- the header defect includes the right header followed by junk (the part before the first `/` is then not the
    header); putting the right header back is no defect -/
example : ((Defect.header (b "CVSS:4.01")).apply .v40 w0).isSome = true ∧ ((Defect.header (b "CVSS:4.0X")).apply .v40 w0).isSome = true ∧
    ((Defect.header (b "CVSS:4.0")).apply .v40 w0) = none := by decide +kernel
example : Model.parse40 (b "CVSS:4.01/AV:N/AC:L/AT:N/PR:N/UI:N/VC:H/VI:H/VA:H/SC:N/SI:N/SA:N/E:A/CR:H/U:Red") =
    .err Model.eHeader := by decide +kernel
example : ((Defect.illegalValue 3 (b "X")).apply .v40 w0).isSome = true := by decide +kernel
example : ((Defect.repeated 11 11 (b "P")).apply .v40 w0).isSome = true := by decide +kernel
example : ((Defect.unknown 14 [] (b "H")).apply .v40 w0).isSome = true := by decide +kernel
example : ((Defect.swap 11).apply .v40 w0).isSome = true := by decide +kernel
example : ((Defect.truncate 0).apply .v40 w0).isSome = true := by decide +kernel
example : ((Defect.move 0 13).apply .v40 w0).isSome = true := by decide +kernel
/-- `move` is applicable exactly for `i < length`, `j < length`, `j ≠ i` (here: all 14·13 pairs) -/
example : ∀ i < 16, ∀ j < 16, ((Defect.move i j).apply .v40 w0).isSome = (decide (i < 14) && decide (j < 14) && decide (j ≠ i)) := by
  decide +kernel
/-- `move i (i+1)` and `move (i+1) i` are `swap i` -/
example : (Defect.move 11 12).apply .v40 w0 = (Defect.swap 11).apply .v40 w0 ∧
    (Defect.move 12 11).apply .v40 w0 = (Defect.swap 11).apply .v40 w0 := by decide +kernel

/-- swap of two optional metrics (`E`,`CR`), evaluated on the model with the generated `Set` -/
example : (Defect.swap 11).apply .v40 w0 =
    some (b "CVSS:4.0/AV:N/AC:L/AT:N/PR:N/UI:N/VC:H/VI:H/VA:H/SC:N/SI:N/SA:N/CR:H/E:A/U:Red", (3, [])) := by decide +kernel
example : Model.parse40 (b "CVSS:4.0/AV:N/AC:L/AT:N/PR:N/UI:N/VC:H/VI:H/VA:H/SC:N/SI:N/SA:N/CR:H/E:A/U:Red") =
    .err Model.eOrder := by decide +kernel
/-- a base metric moved to the very end; the last optional metric moved to the front; an optional metric moved
    two places back — the defective strings and the model's answers -/
example : (Defect.move 0 13).apply .v40 w0 =
    some (b "CVSS:4.0/AC:L/AT:N/PR:N/UI:N/VC:H/VI:H/VA:H/SC:N/SI:N/SA:N/E:A/CR:H/U:Red/AV:N", (3, [])) := by decide +kernel
example : Model.parse40 (b "CVSS:4.0/AC:L/AT:N/PR:N/UI:N/VC:H/VI:H/VA:H/SC:N/SI:N/SA:N/E:A/CR:H/U:Red/AV:N") =
    .err Model.eOrder := by decide +kernel
example : (Defect.move 13 0).apply .v40 w0 =
    some (b "CVSS:4.0/U:Red/AV:N/AC:L/AT:N/PR:N/UI:N/VC:H/VI:H/VA:H/SC:N/SI:N/SA:N/E:A/CR:H", (3, [])) := by decide +kernel
example : Model.parse40 (b "CVSS:4.0/U:Red/AV:N/AC:L/AT:N/PR:N/UI:N/VC:H/VI:H/VA:H/SC:N/SI:N/SA:N/E:A/CR:H") =
    .err Model.eOrder := by decide +kernel
example : (Defect.move 11 13).apply .v40 w0 =
    some (b "CVSS:4.0/AV:N/AC:L/AT:N/PR:N/UI:N/VC:H/VI:H/VA:H/SC:N/SI:N/SA:N/CR:H/U:Red/E:A", (3, [])) := by decide +kernel
example : Model.parse40 (b "CVSS:4.0/AV:N/AC:L/AT:N/PR:N/UI:N/VC:H/VI:H/VA:H/SC:N/SI:N/SA:N/CR:H/U:Red/E:A") =
    .err Model.eOrder := by decide +kernel
/-- a repeat inserted directly before the original -/
example : Model.parse40 (b "CVSS:4.0/AV:N/AC:L/AT:N/PR:N/UI:N/VC:H/VI:H/VA:H/SC:N/SI:N/SA:N/E:P/E:A/CR:H/U:Red") =
    .err Model.eOrder := by decide +kernel
example : Model.parse40 (b "CVSS:4.0/AV:N/AC:L/AT:N/PR:N/UI:N/VC:H/VI:H/VA:H/SC:N/SI:N/SA:H/SA:N") =
    .err Model.eOrder := by decide +kernel
/-- an unknown element with an empty abbreviation, in the middle and at the end -/
example : Model.parse40 (b "CVSS:4.0/AV:N/AC:L/:H/AT:N/PR:N/UI:N/VC:H/VI:H/VA:H/SC:N/SI:N/SA:N") =
    .err Model.eOrder := by decide +kernel
example : Model.parse40 (b "CVSS:4.0/AV:N/AC:L/AT:N/PR:N/UI:N/VC:H/VI:H/VA:H/SC:N/SI:N/SA:N/E:A/CR:H/U:Red/:H") =
    .err Model.eOrder := by decide +kernel
/-- truncation to nothing / inside the base group -/
example : Model.parse40 (b "CVSS:4.0") = .err Model.eTooShort := by decide +kernel
example : Model.parse40 (b "CVSS:4.0/AV:N/AC:L") = .err Model.eTooShort := by decide +kernel

/-! ## for `Model.parse40` itself, given the contract instance of the generated code -/

theorem errors_model (hz : K.zero = O40.zero) (hs : K.set = O40.set) (w : List Pair) (d : Defect) (s : Bytes)
    (e : Spec.ErrVal) (hw : ∃ s0, Spec.V4.Witness s0 w) (h : d.apply .v40 w = some (s, e)) :
    Model.parse40 s = .err ⟨e.1, e.2⟩ := by
  rw [parse40_eq_parseK K hz hs]; exact errors K w d s e hw h

end C18.V4
