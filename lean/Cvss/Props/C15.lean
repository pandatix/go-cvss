import Cvss.Gen.V30
import Cvss.Gen.V31
import Cvss.Gen.V40
import Cvss.Spec.Rating
import Cvss.Proofs.F64Order
/-!
# C15 — `Rating` follows the qualitative severity rating scale

For **every** `float64` (every 64-bit pattern `x < 2^64`) that is not a NaN, the generated models of
`Rating` in packages 30, 31 and 40 return exactly what the scale of `Spec/Rating.lean` prescribes for
the *real number* (or ±∞) denoted by `x`:

    NONE on [0, 1/10)   LOW on [1/10, 4)   MEDIUM on [4, 7)   HIGH on [7, 9)   CRITICAL on [9, 10]

with a nil error, and `("", ErrOutOfBoundsScore)` for anything below 0 or above 10 (−∞, +∞ included;
`−0.0` is the real number 0, hence NONE).  The three packages' functions are equal.  On a NaN (about which
the specification says nothing) all three return `("NONE", nil)`.

No enumeration of floats: the proofs unfold the generated definitions, replace `F64.lt/F64.le` by the
order of the exact values (`Proofs/F64Order.lean`), use the number-theoretic lemma about the constant
`0.1` and finish with linear integer arithmetic.  A changed threshold, a `>=` turned into `>` or a
changed result string in one package makes the corresponding theorem fail after regeneration.
-/
namespace C15
open Spec F64Order

/-- How an outcome of the specification appears as a Go result `(string, error)`:
    `Go.Err.mk 5 []` is the sentinel `ErrOutOfBoundsScore`, `Go.errNil` is `nil`.
    Nothing is prescribed for NaN (`none`). -/
def goResult : Outcome → Option (List Nat × Go.Err)
  | .ok s => some (s.name, Go.errNil)
  | .outOfBounds => some ([], Go.Err.mk 5 [])
  | .unspecified => none

/-- the error value for a code of the driver-facing `Spec.ratingOfBits` -/
def errOfCode (c : Nat) : Go.Err := if c = Spec.ratingOk then Go.errNil else Go.Err.mk 5 []

/-! ### what the IEEE bit patterns of the thresholds denote (facts about binary64, not about the code) -/

theorem bits_zero  : F64Val.ofBits 0x0000000000000000 = .fin 0 := by decide +kernel
theorem bits_four  : F64Val.ofBits 0x4010000000000000 = .fin (4 * (F64Val.den : Int)) := by decide +kernel
theorem bits_seven : F64Val.ofBits 0x401c000000000000 = .fin (7 * (F64Val.den : Int)) := by decide +kernel
theorem bits_nine  : F64Val.ofBits 0x4022000000000000 = .fin (9 * (F64Val.den : Int)) := by decide +kernel
theorem bits_ten   : F64Val.ofBits 0x4024000000000000 = .fin (10 * (F64Val.den : Int)) := by decide +kernel

theorem cond_iff {α : Type} {b : Bool} {P : Prop} [Decidable P] (h : b = true ↔ P) (A B : α) :
    cond b A B = if P then A else B := by
  cases b
  · have : ¬ P := fun p => by cases h.mpr p
    rw [if_neg this]; rfl
  · rw [if_pos (h.mp rfl)]; rfl

theorem or_iff {b c : Bool} {P Q : Prop} (h : b = true ↔ P) (k : c = true ↔ Q) :
    (b || c) = true ↔ P ∨ Q := by
  rw [Bool.or_eq_true, h, k]

/-- **The scale, in the shape of a cascade of comparisons on the exact value.**
    `v < 0 ∨ 10 < v → out of bounds; 9 ≤ v → CRITICAL; 7 ≤ v → HIGH; 4 ≤ v → MEDIUM; 1/10 ≤ v → LOW; else NONE`
    agrees with `Spec.rating` on every non-NaN value, whatever Booleans `b…` decide the comparisons.
    Pure statement about the Spec (no code, no floats). -/
theorem cascade (v : F64Val) (hv : v ≠ .nan) (b0 b10 b9 b7 b4 b1 : Bool)
    (h0 : b0 = true ↔ F64Val.lt v (.fin 0))
    (h10 : b10 = true ↔ F64Val.lt (.fin (10 * (F64Val.den : Int))) v)
    (h9 : b9 = true ↔ F64Val.le (.fin (9 * (F64Val.den : Int))) v)
    (h7 : b7 = true ↔ F64Val.le (.fin (7 * (F64Val.den : Int))) v)
    (h4 : b4 = true ↔ F64Val.le (.fin (4 * (F64Val.den : Int))) v)
    (h1 : b1 = true ↔ GeTenth v) :
    some (cond (b0 || b10)
      (([] : List Nat), Go.Err.mk 5 [])
      (cond b9 (Severity.critical.name, Go.errNil)
      (cond b7 (Severity.high.name, Go.errNil)
      (cond b4 (Severity.medium.name, Go.errNil)
      (cond b1 (Severity.low.name, Go.errNil)
        (Severity.none.name, Go.errNil))))))
    = goResult (rating v) := by
  have hd := den_pos
  cases v with
  | nan => exact absurd rfl hv
  | negInf =>
    simp only [F64Val.lt] at h0
    rw [h0.mpr trivial]; rfl
  | posInf =>
    simp only [F64Val.lt] at h10
    rw [h10.mpr trivial, Bool.or_true]; rfl
  | fin n =>
    simp only [F64Val.lt, F64Val.le, GeTenth] at h0 h10 h9 h7 h4 h1
    rw [cond_iff (or_iff h0 h10), cond_iff h9, cond_iff h7, cond_iff h4, cond_iff h1]
    -- each arm of the cascade is reached exactly on one row of `Scale`, and a row determines the outcome
    have row : ∀ o, Scale n F64Val.den o → goResult o = goResult (rating (.fin n)) :=
      fun o ho => by rw [scale_unique n F64Val.den hd o ho]; rfl
    by_cases c0 : n < 0 ∨ 10 * (F64Val.den : Int) < n
    · rw [if_pos c0]; exact row .outOfBounds c0
    rw [if_neg c0]
    by_cases c9 : 9 * (F64Val.den : Int) ≤ n
    · rw [if_pos c9]; exact row (.ok .critical) ⟨c9, Int.not_lt.1 fun h => c0 (.inr h)⟩
    rw [if_neg c9]
    by_cases c7 : 7 * (F64Val.den : Int) ≤ n
    · rw [if_pos c7]; exact row (.ok .high) ⟨c7, Int.not_le.1 c9⟩
    rw [if_neg c7]
    by_cases c4 : 4 * (F64Val.den : Int) ≤ n
    · rw [if_pos c4]; exact row (.ok .medium) ⟨c4, Int.not_le.1 c7⟩
    rw [if_neg c4]
    by_cases c1 : (F64Val.den : Int) ≤ 10 * n
    · rw [if_pos c1]; exact row (.ok .low) ⟨c1, Int.not_le.1 c4⟩
    · rw [if_neg c1]; exact row (.ok .none) ⟨Int.not_lt.1 fun h => c0 (.inl h), Int.not_le.1 c1⟩

/-- the proof script shared by the three packages, run on the *unfolded generated definition*:
    every comparison of the code is replaced by the comparison of exact values it computes
    (`F64Order.lt_iff/le_iff`, the 0.1 lemma `tenth_threshold`), then `cascade` applies. -/
macro "rating_spec" x:ident hx:ident hn:ident : tactic => `(tactic|
  (have hnan : F64Val.ofBits $x ≠ .nan := fun h => by
     rw [(ofBits_nan_iff $x).mp h] at $hn:ident; cases $hn:ident
   have h0 := lt_iff $x 0x0000000000000000 $hx (by decide)
   have h10 := lt_iff 0x4024000000000000 $x (by decide) $hx
   have h9 := le_iff 0x4022000000000000 $x (by decide) $hx
   have h7 := le_iff 0x401c000000000000 $x (by decide) $hx
   have h4 := le_iff 0x4010000000000000 $x (by decide) $hx
   have h1 := (le_iff TENTH $x (by decide) $hx).trans (tenth_threshold $x $hx $hn)
   rw [bits_zero] at h0
   rw [bits_ten] at h10
   rw [bits_nine] at h9
   rw [bits_seven] at h7
   rw [bits_four] at h4
   exact cascade (F64Val.ofBits $x) hnan _ _ _ _ _ _ h0 h10 h9 h7 h4 h1))

/-- **C15, v3.1.** For every non-NaN `float64` bit pattern, `Rating` returns what the scale prescribes
    for the exact value (string bytes and error). -/
theorem rating31_spec (x : Nat) (hx : x < 2^64) (hn : F64.isNaN x = false) :
    some (GenV31.Rating x) = goResult (Spec.rating (F64Val.ofBits x)) := by
  unfold GenV31.Rating
  rating_spec x hx hn

/-- **The three packages behave identically** — on every `Nat`, not only on 64-bit patterns; proved by
    unfolding the three generated definitions. -/
theorem rating_same (x : Nat) :
    GenV30.Rating x = GenV31.Rating x ∧ GenV31.Rating x = GenV40.Rating x := by
  unfold GenV30.Rating GenV31.Rating GenV40.Rating
  exact ⟨rfl, rfl⟩

/-- **C15, v3.0.** -/
theorem rating30_spec (x : Nat) (hx : x < 2^64) (hn : F64.isNaN x = false) :
    some (GenV30.Rating x) = goResult (Spec.rating (F64Val.ofBits x)) := by
  rw [(rating_same x).1]; exact rating31_spec x hx hn

/-- **C15, v4.0.** -/
theorem rating40_spec (x : Nat) (hx : x < 2^64) (hn : F64.isNaN x = false) :
    some (GenV40.Rating x) = goResult (Spec.rating (F64Val.ofBits x)) := by
  rw [← (rating_same x).2]; exact rating31_spec x hx hn

theorem cmp_nan (x y : Nat) (h : F64.isNaN x = true ∨ F64.isNaN y = true) :
    F64.lt x y = false ∧ F64.le x y = false := by
  have hf : F64.isFin2 x y = false := by
    cases hh : F64.isFin2 x y
    · rfl
    · obtain ⟨hx, hy⟩ := isFin2_notNaN x y hh
      rw [hx, hy] at h
      rcases h with h | h <;> cases h
  have hb : (!FB.isNaN x && !FB.isNaN y) = false := by
    rw [fb_isNaN_eq, fb_isNaN_eq]
    rcases h with h | h <;> rw [h]
    · rfl
    · exact Bool.and_false _
  unfold F64.lt F64.le FB.lt FB.le
  rw [flet_eq, flet_eq, flet_eq, flet_eq, hf, hb]
  exact ⟨rfl, rfl⟩

/-- **On a NaN** every comparison is false, so all three `Rating` functions fall through to the last
    `return`: they answer `("NONE", nil)`, not an error. (Holds for every `Nat` whose exponent field is
    all ones and fraction non-zero, 64-bit or not.) -/
theorem rating31_nan (x : Nat) (h : F64.isNaN x = true) :
    GenV31.Rating x = (Severity.none.name, Go.errNil) := by
  unfold GenV31.Rating
  rw [(cmp_nan x _ (.inl h)).1, (cmp_nan _ x (.inr h)).1, (cmp_nan _ x (.inr h)).2, (cmp_nan _ x (.inr h)).2,
    (cmp_nan _ x (.inr h)).2, (cmp_nan _ x (.inr h)).2]
  rfl

theorem rating30_nan (x : Nat) (h : F64.isNaN x = true) :
    GenV30.Rating x = (Severity.none.name, Go.errNil) := by
  rw [(rating_same x).1]; exact rating31_nan x h

theorem rating40_nan (x : Nat) (h : F64.isNaN x = true) :
    GenV40.Rating x = (Severity.none.name, Go.errNil) := by
  rw [← (rating_same x).2]; exact rating31_nan x h

/-! ## Readable corollaries: the property as worded -/

/-- The intervals, spelled out on the exact value `num / den` of a finite pattern
    (`den = 2^1075`; `v ≥ 1/10` is `den ≤ 10·num`). -/
theorem rating31_intervals (x : Nat) (hx : x < 2^64) (n : Int) (h : F64Val.ofBits x = .fin n) :
    let d : Int := F64Val.den
    (0 ≤ n ∧ 10 * n < d → GenV31.Rating x = ([78, 79, 78, 69], Go.errNil)) ∧                       -- NONE
    (d ≤ 10 * n ∧ n < 4 * d → GenV31.Rating x = ([76, 79, 87], Go.errNil)) ∧                       -- LOW
    (4 * d ≤ n ∧ n < 7 * d → GenV31.Rating x = ([77, 69, 68, 73, 85, 77], Go.errNil)) ∧            -- MEDIUM
    (7 * d ≤ n ∧ n < 9 * d → GenV31.Rating x = ([72, 73, 71, 72], Go.errNil)) ∧                    -- HIGH
    (9 * d ≤ n ∧ n ≤ 10 * d → GenV31.Rating x = ([67, 82, 73, 84, 73, 67, 65, 76], Go.errNil)) ∧   -- CRITICAL
    (n < 0 ∨ 10 * d < n → GenV31.Rating x = ([], Go.Err.mk 5 [])) := by
  intro d
  have hn : F64.isNaN x = false := by
    cases hh : F64.isNaN x
    · rfl
    · rw [(ofBits_nan_iff x).mpr hh] at h; cases h
  have main := rating31_spec x hx hn
  rw [h] at main
  simp only [rating] at main
  have key : ∀ o, Scale n F64Val.den o → some (GenV31.Rating x) = goResult o := by
    intro o ho
    rw [scale_unique n F64Val.den den_pos o ho]; exact main
  refine ⟨fun c => ?_, fun c => ?_, fun c => ?_, fun c => ?_, fun c => ?_, fun c => ?_⟩
  · exact Option.some.inj (key (.ok .none) c)
  · exact Option.some.inj (key (.ok .low) c)
  · exact Option.some.inj (key (.ok .medium) c)
  · exact Option.some.inj (key (.ok .high) c)
  · exact Option.some.inj (key (.ok .critical) c)
  · exact Option.some.inj (key .outOfBounds c)

/-- ±∞ are out of bounds -/
theorem rating31_inf (x : Nat) (hx : x < 2^64)
    (h : F64Val.ofBits x = .posInf ∨ F64Val.ofBits x = .negInf) :
    GenV31.Rating x = ([], Go.Err.mk 5 []) := by
  have hn : F64.isNaN x = false := by
    cases hh : F64.isNaN x
    · rfl
    · rw [(ofBits_nan_iff x).mpr hh] at h; rcases h with h | h <;> cases h
  have main := rating31_spec x hx hn
  rcases h with h | h <;> rw [h] at main <;> exact Option.some.inj main

/-- link with the driver-facing executable `Spec.ratingOfBits` -/
theorem rating31_driver (x : Nat) (hx : x < 2^64) (hn : F64.isNaN x = false) :
    GenV31.Rating x = ((Spec.ratingOfBits x).1, errOfCode (Spec.ratingOfBits x).2) := by
  have main := rating31_spec x hx hn
  unfold Spec.ratingOfBits
  cases hr : Spec.rating (F64Val.ofBits x) with
  | ok s => rw [hr] at main; exact Option.some.inj main
  | outOfBounds => rw [hr] at main; exact Option.some.inj main
  | unspecified => rw [hr] at main; cases main

theorem rating30_driver (x : Nat) (hx : x < 2^64) (hn : F64.isNaN x = false) :
    GenV30.Rating x = ((Spec.ratingOfBits x).1, errOfCode (Spec.ratingOfBits x).2) := by
  rw [(rating_same x).1]; exact rating31_driver x hx hn

theorem rating40_driver (x : Nat) (hx : x < 2^64) (hn : F64.isNaN x = false) :
    GenV40.Rating x = ((Spec.ratingOfBits x).1, errOfCode (Spec.ratingOfBits x).2) := by
  rw [← (rating_same x).2]; exact rating31_driver x hx hn

/-! ## The interesting points (evaluated by the kernel on the generated definitions) -/

-- fl(0.1) = 0x3fb999999999999a is LOW; its predecessor (the largest double below 1/10) is NONE
example : GenV31.Rating 0x3fb999999999999a = ([76, 79, 87], Go.errNil) := by decide +kernel
example : GenV31.Rating 0x3fb9999999999999 = ([78, 79, 78, 69], Go.errNil) := by decide +kernel
-- 4.0 and its predecessor
example : GenV31.Rating 0x4010000000000000 = ([77, 69, 68, 73, 85, 77], Go.errNil) := by decide +kernel
example : GenV31.Rating 0x400fffffffffffff = ([76, 79, 87], Go.errNil) := by decide +kernel
-- 7.0 and its predecessor
example : GenV31.Rating 0x401c000000000000 = ([72, 73, 71, 72], Go.errNil) := by decide +kernel
example : GenV31.Rating 0x401bffffffffffff = ([77, 69, 68, 73, 85, 77], Go.errNil) := by decide +kernel
-- 9.0 and its predecessor
example : GenV31.Rating 0x4022000000000000 = ([67, 82, 73, 84, 73, 67, 65, 76], Go.errNil) := by decide +kernel
example : GenV31.Rating 0x4021ffffffffffff = ([72, 73, 71, 72], Go.errNil) := by decide +kernel
-- 10.0 is CRITICAL, its successor is out of bounds
example : GenV31.Rating 0x4024000000000000 = ([67, 82, 73, 84, 73, 67, 65, 76], Go.errNil) := by decide +kernel
example : GenV31.Rating 0x4024000000000001 = ([], Go.Err.mk 5 []) := by decide +kernel
-- +0.0, −0.0 (the real number 0: in bounds), smallest subnormals of both signs
example : GenV31.Rating 0x0000000000000000 = ([78, 79, 78, 69], Go.errNil) := by decide +kernel
example : GenV31.Rating 0x8000000000000000 = ([78, 79, 78, 69], Go.errNil) := by decide +kernel
example : GenV31.Rating 0x0000000000000001 = ([78, 79, 78, 69], Go.errNil) := by decide +kernel
example : GenV31.Rating 0x8000000000000001 = ([], Go.Err.mk 5 []) := by decide +kernel
-- +Inf, −Inf
example : GenV31.Rating 0x7ff0000000000000 = ([], Go.Err.mk 5 []) := by decide +kernel
example : GenV31.Rating 0xfff0000000000000 = ([], Go.Err.mk 5 []) := by decide +kernel
-- NaN (Go's math.NaN() and a negative signalling one)
example : GenV31.Rating 0x7ff8000000000001 = ([78, 79, 78, 69], Go.errNil) := by decide +kernel
example : GenV31.Rating 0xfff0000000000001 = ([78, 79, 78, 69], Go.errNil) := by decide +kernel
-- the same points through the specification (so the examples above are what the Spec says, too)
example : Spec.ratingOfBits 0x3fb999999999999a = ([76, 79, 87], 0) := by decide +kernel
example : Spec.ratingOfBits 0x3fb9999999999999 = ([78, 79, 78, 69], 0) := by decide +kernel
example : Spec.ratingOfBits 0x4024000000000000 = ([67, 82, 73, 84, 73, 67, 65, 76], 0) := by decide +kernel
example : Spec.ratingOfBits 0x4024000000000001 = ([], 1) := by decide +kernel
example : Spec.ratingOfBits 0x8000000000000000 = ([78, 79, 78, 69], 0) := by decide +kernel
example : Spec.ratingOfBits 0x7ff0000000000000 = ([], 1) := by decide +kernel
example : Spec.ratingOfBits 0x7ff8000000000001 = ([], 2) := by decide +kernel

/-- the same points as one table, for each of the three packages -/
def points : List Nat :=
  [0x3fb999999999999a, 0x3fb9999999999999, 0x4010000000000000, 0x400fffffffffffff, 0x401c000000000000,
   0x401bffffffffffff, 0x4022000000000000, 0x4021ffffffffffff, 0x4024000000000000, 0x4024000000000001,
   0x0000000000000000, 0x8000000000000000, 0x0000000000000001, 0x8000000000000001, 0x7ff0000000000000,
   0xfff0000000000000]
def expected : List (List Nat × Go.Err) :=
  points.map fun p => ((Spec.ratingOfBits p).1, errOfCode (Spec.ratingOfBits p).2)
example : points.map GenV30.Rating = expected := by decide +kernel
example : points.map GenV31.Rating = expected := by decide +kernel
example : points.map GenV40.Rating = expected := by decide +kernel

/-! hypotheses of the main theorems are satisfiable by non-trivial objects -/
example : (0x3fb999999999999a : Nat) < 2^64 ∧ F64.isNaN 0x3fb999999999999a = false := by decide +kernel
example : F64.isNaN 0x7ff8000000000001 = true := by decide +kernel
example : F64Val.ofBits 0x3fb9999999999999 = .fin (7205759403792793 * 2^1019) ∧
    (0:Int) ≤ 7205759403792793 * 2^1019 ∧ 10 * (7205759403792793 * 2^1019 : Int) < F64Val.den := by
  decide +kernel

end C15
