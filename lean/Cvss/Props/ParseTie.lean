import Cvss.Proofs.GenParse20
import Cvss.Proofs.GenParse3
import Cvss.Proofs.GenParse40
/-!
# ParseTie — the regenerated parsers ARE the hand-written parser models

`Cvss/Gen/P20.lean, P30.lean, P31.lean, P40.lean` are produced from the Go source on every check by `tools/gen`
(parser mode: `ParseVector`, v2 `split`, v3 `splitCouple` and `kvm.Set`). The hand-written models
`Model.parse20/30/31/40` (`Cvss/Model/Parse.lean`) are what every parser property (C01, C02, C06, C08, C13, C18, …)
is proved about. This file states, for EVERY byte string `s` (any `List Nat`; no `< 256` or length hypothesis is
needed), that the generated parser and the model agree completely:

    ofGo dec (GenPxx.ParseVector s) = Model.parseXX s

i.e. the same object on success (`dec` packs the byte tuple into `Model.Oxx`), the same error value (code and
`Abv` payload) on failure, and a panic outcome (index out of range, nil dereference, loop fuel exhausted) on one
side iff on the other. For v2.0 the statement holds for every content of the pooled 14-slot buffer.

With these theorems no source-hash tie is needed for `ParseVector`, `split`, `splitCouple`, `kvm.Set`: a change of the
Go text changes `Gen/P*.lean`, and either these theorems still hold (the change is behaviour-preserving with respect to
the model) or they fail to compile.
-/
namespace ParseTie
open Model GenParse

/-- generated result → model result, per version -/
abbrev res20 : Go.Res (Nat × Nat × Nat × Nat) → Res O20 := ofGo GenParse20.dec20
abbrev res30 : Go.Res T6 → Res O30 := ofGo dec30
abbrev res31 : Go.Res T6 → Res O31 := ofGo dec31
abbrev res40 : Go.Res GenParse40.T9 → Res O40 := ofGo GenParse40.dec40

theorem v31 (s : Bytes) : res31 (GenP31.ParseVector s) = parse31 s := genParse31 s
theorem v30 (s : Bytes) : res30 (GenP30.ParseVector s) = parse30 s := genParse30 s
theorem v40 (s : Bytes) : res40 (GenP40.ParseVector s) = parse40 s := GenParse40.genParse40 s
/-- **v2.0**, for every 14-slot pool buffer -/
theorem v20 (buf : List Bytes) (hbuf : buf.length = 14) (s : Bytes) :
    res20 (GenP20.ParseVector buf s) = parse20 s := GenParse20.genParse20 buf hbuf s

/-- the v2.0 result does not depend on what the pool hands out -/
theorem v20_buffer_independent (b1 b2 : List Bytes) (h1 : b1.length = 14) (h2 : b2.length = 14) (s : Bytes) :
    GenP20.ParseVector b1 s = GenP20.ParseVector b2 s := by
  have e := (v20 b1 h1 s).trans (v20 b2 h2 s).symm
  revert e
  cases GenP20.ParseVector b1 s <;> cases GenP20.ParseVector b2 s <;> simp [res20, ofGo]
  rename_i c1 c2
  obtain ⟨a, b, c, d⟩ := c1
  obtain ⟨a', b', c', d'⟩ := c2
  simp [GenParse20.dec20]

def okOf {α : Type} : Go.Res α → Bool | .ok _ => true | _ => false
def errOf {α : Type} : Go.Res α → Option Go.Err | .err e => some e | _ => none

/-- a tie `ofGo f r = m` read outcome by outcome: the model's result `m` is an object iff the generated `r` is one
    (the same after `f`), an error iff `r` is the same error, a panic iff `r` is one. Every parser property proved
    about a model passes to the generated parser through one of these four. -/
theorem transfer {α β : Type} {f : α → β} {r : Go.Res α} {m : Res β} (tie : ofGo f r = m) :
    (∀ c, m = .ok c ↔ ∃ t, r = .ok t ∧ f t = c) ∧ (∀ e, m = .err e ↔ r = .err e) ∧ (m = .panic ↔ r = .panic) ∧
    m.isOk = okOf r := by
  subst tie
  cases r <;> simp [ofGo, okOf, Res.isOk]

/-- v3.1, spelled out: success with the same object, failure with the same error, panic iff panic -/
theorem v31_cases (s : Bytes) :
    (∀ c, parse31 s = .ok c ↔ ∃ t, GenP31.ParseVector s = .ok t ∧ dec31 t = c) ∧
    (∀ e, parse31 s = .err e ↔ GenP31.ParseVector s = .err e) ∧
    (parse31 s = .panic ↔ GenP31.ParseVector s = .panic) :=
  ⟨(transfer (v31 s)).1, (transfer (v31 s)).2.1, (transfer (v31 s)).2.2.1⟩

/-! ### the statements are not vacuous: concrete evaluations of the generated parsers -/

/-- a 14-slot buffer with stale content exists (hypothesis of `v20`) -/
example : (List.replicate 14 ([65, 86, 58, 78] : Bytes)).length = 14 := rfl

/-- "CVSS:3.1/AV:N/AC:L/PR:N/UI:N/S:U/C:H/I:H/A:H" is accepted by the generated v3.1 parser -/
example : okOf (GenP31.ParseVector
    [67,86,83,83,58,51,46,49,47,65,86,58,78,47,65,67,58,76,47,80,82,58,78,47,85,73,58,78,47,83,58,85,47,67,58,72,47,
     73,58,72,47,65,58,72]) = true := by decide +kernel

/-- "CVSS:3.1/AV:N" is rejected by the generated v3.1 parser with `ErrMissing{Abv: "AC"}` -/
example : errOf (GenP31.ParseVector [67,86,83,83,58,51,46,49,47,65,86,58,78]) = some ⟨103, [65, 67]⟩ := by
  decide +kernel

/-- "CVSS:3.0/AV:N/AV:N" is rejected by the generated v3.0 parser with `ErrDefinedN{Abv: "AV"}` -/
example : errOf (GenP30.ParseVector [67,86,83,83,58,51,46,48,47,65,86,58,78,47,65,86,58,78]) = some ⟨102, [65, 86]⟩ := by
  decide +kernel

/-- "AV:N/AC:L/Au:N/C:P/I:P/A:P" is accepted by the generated v2.0 parser on a buffer of stale strings -/
example : okOf (GenP20.ParseVector (List.replicate 14 [65, 86, 58, 78])
    [65,86,58,78,47,65,67,58,76,47,65,117,58,78,47,67,58,80,47,73,58,80,47,65,58,80]) = true := by decide +kernel

/-- "CVSS:4.0/AV:N" is rejected by the generated v4.0 parser with `ErrTooShortVector` -/
example : errOf (GenP40.ParseVector [67,86,83,83,58,52,46,48,47,65,86,58,78]) = some ⟨2, []⟩ := by decide +kernel

end ParseTie
