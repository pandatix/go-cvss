import Cvss.Proofs.Score3M31
/-! C03, v3.1, enumeration (b): the Temporal step `roundup (b·e·rl·rc)` on the 101 tenths × 4 × 4 × 3 codes
    (`X` is covered by `okT_nX`; evaluated as in `Score3Base31`) -/
namespace Proofs.Score3.V31
theorem t_all : allT = true := by
  simp only [allT, okT, T, GenV31.roundup, ← F64.divK_eq]
  decide +kernel

end Proofs.Score3.V31
