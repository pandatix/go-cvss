import Cvss.Proofs.Score3M30
/-! C03, v3.0, enumeration (a): the generated `BaseScore_core` on all 2,592 base code tuples (evaluated as in `Score3Base31`) -/
namespace Proofs.Score3.V30
theorem base_all : allBase = true := by
  simp only [allBase, allBaseOn, okBaseOn, GenV30.BaseScore_core, GenV30.roundup, ← F64.divK_eq]
  decide +kernel
end Proofs.Score3.V30
