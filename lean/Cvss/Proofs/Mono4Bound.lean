import Cvss.Proofs.Mono4P
import Cvss.Proofs.Mono4Pack
import Cvss.Spec.V4Range
/-! # `scoreP` never exceeds the MacroVector's value, which is below 128 (a table entry fits a byte with the top bit free) -/
namespace Proofs.Mono4

theorem lookupK_lt (q1 q2 q3 q4 q5 q6 : Nat) : lookupK q1 q2 q3 q4 q5 q6 < 128 := by
  unfold lookupK
  exact Nat.mod_lt _ (by decide)

theorem scoreP_le (q1 q2 q3 q4 q5 q6 d1 d2 d36 d4 : Nat) :
    scoreP q1 q2 q3 q4 q5 q6 d1 d2 d36 d4 ≤ lookupK q1 q2 q3 q4 q5 q6 := by
  unfold scoreP
  simp only [flet_eq]
  cases h : Nat.beq (Nat.add (Nat.add (Nat.add (Nat.add (cond (Nat.blt q1 2) 1 0) (cond (Nat.blt q2 1) 1 0)) (cond (Nat.beq q3 2) 0 1))
        (cond (Nat.blt q4 2) 1 0)) (cond (Nat.blt q5 2) 1 0)) 0
  · simp only [cond_false]
    exact Spec.V4.roundHalfUp_le _ _ _
  · simp only [cond_true]
    exact Nat.le_refl _

theorem scoreP_lt (q1 q2 q3 q4 q5 q6 d1 d2 d36 d4 : Nat) : scoreP q1 q2 q3 q4 q5 q6 d1 d2 d36 d4 < 128 :=
  Nat.lt_of_le_of_lt (scoreP_le ..) (lookupK_lt ..)

end Proofs.Mono4
