import Cvss.Proofs.VecCommon
import Cvss.Proofs.Bits20
/-!
# v2.0: the generated `Vector()` writes the Spec canonical form, and `lenVec()` is its length

* `vector_eq` (A): for **every** object `c` (no well-formedness needed)
  `c.vector = Spec.V2.canonical (metrics.map fun m => (m.abv, (c.get m.abv).1))`: base group, then the whole
  temporal group iff one of `E/RL/RC` is not `ND`, then the whole environmental group likewise.
* `length_formula` (B, strongest form, every object): `c.vector.length + 6 = c.lenVec + Σ_{m ∈ base} |value of m|`
  — `lenVec` measures the optional groups with `len(value)` under the very same group conditions as `Vector`, and
  assumes one-letter values for the six base metrics (the constant 26).
* `length_formula_base` (every object): `len + #{illegal base metrics} = lenVec` — `Get` decodes a base metric from
  its field code alone (`Bits20.layout.get_known`), as one letter, or as `""` when the code is illegal (`slot_table`).
* `length_ne_example`: a non-well-formed byte state (`C` code 3 reads as `""`) where `lenVec` over-allocates.
  (`Props/C17.lean` draws the consequences.)
-/
namespace Proofs.Vec20
open Spec Proofs.Vec
open Model (O20)
open Bits (mAt)

theorem app_eq (b pre v : Spec.Bytes) : GenV20.app b pre v = b ++ (pre ++ v) :=
  List.append_assoc b pre v

/-- `if cond { app…; app… }` in closed form -/
theorem cond_append3 (c : Bool) (b x y z : Spec.Bytes) :
    cond c (((b ++ x) ++ y) ++ z) b = b ++ cond c (x ++ (y ++ z)) [] := by
  cases c <;> simp

theorem cond_append5 (c : Bool) (b x y z v w : Spec.Bytes) :
    cond c (((((b ++ x) ++ y) ++ z) ++ v) ++ w) b = b ++ cond c (x ++ (y ++ (z ++ (v ++ w)))) [] := by
  cases c <;> simp

theorem core_shape (r0 r1 r2 r3 r4 r5 r6 r7 r8 r9 r10 r11 r12 r13 : Nat) :
    SLASH :: GenV20.Vector_core r0 r1 r2 r3 r4 r5 r6 r7 r8 r9 r10 r11 r12 r13
    = gpiece V2.base (GenV20.get_core r0 r1 r2 r3 r4 r5 r6 r7 r8 r9 r10 r11 r12 r13)
      ++ gpiece V2.temporal (GenV20.get_core r0 r1 r2 r3 r4 r5 r6 r7 r8 r9 r10 r11 r12 r13)
      ++ gpiece V2.environmental (GenV20.get_core r0 r1 r2 r3 r4 r5 r6 r7 r8 r9 r10 r11 r12 r13) := by
  simp only [GenV20.Vector_core, flet_eq, app_eq, cond_append3, cond_append5]
  generalize GenV20.get_core r0 r1 r2 r3 r4 r5 r6 r7 r8 r9 r10 r11 r12 r13 = G
  simp [gpiece, render, V2.base, V2.temporal, V2.environmental, mand, optND, Spec.b, SLASH, COLON, Go.strEq,
    Bool.cond_eq_ite, or_assoc]

/-- on a metric abbreviation the public `Get` never fails, whatever the bytes (`get_known`), so the private `get` of
    `Vector()`/`lenVec()`, which would panic on an error, is its first component -/
theorem get_fst (c : O20) : ∀ m ∈ V2.metrics, GenV20.get c.u0 c.u1 c.u2 c.u3 m.abv = (c.get m.abv).1 := by
  intro m hm
  obtain ⟨j, hj, rfl⟩ := mem_mAt hm
  show (match c.get (mAt V2.metrics j).abv with
    | (str, err) => cond (!(Go.Err.beq err Go.errNil)) Go.panicStr str) = _
  rw [show c.get (mAt V2.metrics j).abv = _ from Bits20.layout.get_known j hj c]
  rfl

theorem vector_shape (c : O20) :
    SLASH :: c.vector = gpiece V2.base (fun a => (c.get a).1) ++ gpiece V2.temporal (fun a => (c.get a).1)
      ++ gpiece V2.environmental (fun a => (c.get a).1) := by
  rw [← gpiece_congr V2.base _ _ fun m hm => get_fst c m (by simp [V2.metrics, hm]),
    ← gpiece_congr V2.temporal _ _ fun m hm => get_fst c m (by simp [V2.metrics, hm]),
    ← gpiece_congr V2.environmental _ _ fun m hm => get_fst c m (by simp [V2.metrics, hm])]
  unfold O20.vector GenV20.Vector GenV20.get
  rw [core_shape]

/-- **(A)** `Vector()` spells the canonical form of the object's own values — for every object. -/
theorem vector_eq (c : O20) :
    c.vector = V2.canonical (V2.metrics.map fun m => (m.abv, (c.get m.abv).1)) := by
  have h := (vector_shape c).trans (V2_canonical_eq _).symm
  exact List.tail_eq_of_cons_eq h

/-- `Vector_core` against `lenVec_core`, straight from the generated code: the two group conditions are
    literally the same expressions in both, and the group increments `11 + …`/`21 + …` are the prefix lengths. -/
theorem core_len (r0 r1 r2 r3 r4 r5 r6 r7 r8 r9 r10 r11 r12 r13 : Nat) :
    (GenV20.Vector_core r0 r1 r2 r3 r4 r5 r6 r7 r8 r9 r10 r11 r12 r13).length + 6
    = GenV20.lenVec_core r0 r1 r2 r3 r4 r5 r6 r7 r8 r9 r10 r11 r12 r13
      + (V2.base.map fun m => (GenV20.get_core r0 r1 r2 r3 r4 r5 r6 r7 r8 r9 r10 r11 r12 r13 m.abv).length).sum := by
  simp only [GenV20.Vector_core, GenV20.lenVec_core, flet_eq, app_eq, cond_append3, cond_append5, cond_add]
  generalize GenV20.get_core r0 r1 r2 r3 r4 r5 r6 r7 r8 r9 r10 r11 r12 r13 = G
  simp only [V2.base, mand, List.map, List.sum_cons, List.sum_nil, List.length_append, List.length_cons,
    List.length_nil, List.nil_append, Bool.cond_eq_ite, Nat.add_eq]
  have e1 : Spec.b "AV" = [65, 86] := by decide
  have e2 : Spec.b "AC" = [65, 67] := by decide
  have e3 : Spec.b "Au" = [65, 117] := by decide
  have e4 : Spec.b "C" = [67] := by decide
  have e5 : Spec.b "I" = [73] := by decide
  have e6 : Spec.b "A" = [65] := by decide
  rw [e1, e2, e3, e4, e5, e6]
  split <;> split <;> simp only [List.length_append, List.length_cons, List.length_nil] <;> omega

/-- **(B), every object**: the exact relation between `len(Vector())` and `lenVec()` -/
theorem length_formula (c : O20) :
    c.vector.length + 6 = c.lenVec + (V2.base.map fun m => ((c.get m.abv).1).length).sum := by
  have hs : (V2.base.map fun m => ((c.get m.abv).1).length).sum
      = (V2.base.map fun m => (GenV20.get c.u0 c.u1 c.u2 c.u3 m.abv).length).sum :=
    sum_map_congr _ _ _ fun m hm => by rw [get_fst c m (by simp [V2.metrics, hm])]
  rw [hs]
  unfold O20.vector O20.lenVec GenV20.Vector GenV20.lenVec GenV20.get
  exact core_len ..

/-- a base metric reads as one letter, or as `""` when its code is illegal -/
theorem slot_table : ∀ j, j < 6 → (Bits20.vals j).length ≤ 4 ∧ ∀ x, x ≤ 4 →
    ((Bits20.vals j).getD x []).length + bad (mAt V2.base j) ((Bits20.vals j).getD x []) = 1 := by
  decide +kernel

theorem base_at : ∀ j, j < 6 → mAt V2.base j = mAt V2.metrics j := by decide

/-- **(B)** for every object: `len(Vector())` + number of base metrics reading as an illegal value = `lenVec()` -/
theorem length_formula_base (c : O20) :
    c.vector.length + (V2.base.map fun m => bad m (c.get m.abv).1).sum = c.lenVec := by
  have h := length_formula c
  have h6 := sum_codes V2.base (fun m v => v.length + bad m v) (fun a => (c.get a).1) Bits20.vals (Bits20.codes c)
    (fun _ _ => 1)
    (fun j hj => by rw [base_at j hj]; exact congrArg Prod.fst (Bits20.layout.get_known j (Nat.lt_of_lt_of_le hj (by decide)) c))
    (fun j hj => forall_code _ 4 (slot_table j hj).1 (fun v => v.length + bad _ v) (fun _ _ => 1) (fun _ _ => rfl)
      (slot_table j hj).2)
  rw [sum_map_add, show ((List.range V2.base.length).map fun _ => 1).sum = 6 from rfl] at h6
  omega

/-- a sample: a well-formed object, and what `Vector()` writes for it -/
example : (⟨101, 32, 134, 3⟩ : O20).wf = true := by decide +kernel
example : (⟨101, 32, 134, 3⟩ : O20).vector
    = b "AV:A/AC:H/Au:S/C:P/I:N/A:C/E:ND/RL:TF/RC:ND/CDP:LM/TD:ND/CR:ND/IR:ND/AR:H" := by decide +kernel

/-- On non-well-formed byte states the equality fails: `C` code 3 reads as `""`; `Vector` writes 25 bytes,
    `lenVec` reserved 26 (over-allocation; by `length_formula` the buffer is never outgrown as long as no base
    value is longer than one letter). -/
theorem length_ne_example :
    (⟨3, 0, 0, 0⟩ : O20).vector.length = 25 ∧ (⟨3, 0, 0, 0⟩ : O20).lenVec = 26 := by decide +kernel

end Proofs.Vec20
