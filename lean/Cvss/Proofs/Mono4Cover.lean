import Cvss.Proofs.Mono4Lists
import Cvss.Spec.V4
/-!
# v4.0 monotonicity: the transition lists are complete (Spec level, on value strings)

For every EQ group, every vector of legal effective values of the group and every replacement of ONE value by an
at least as severe one (`Spec.V4.sev`, smaller = more severe): the summaries before and after are in the group's
summary list and the pair is in the group's transition list; for impact metrics, if the new value is `N` so was
the old one (`Steps`). By kernel evaluation of the Spec; here the groups EQ1, EQ2, EQ4, in `Mono4Cover36` EQ3+EQ6.
-/
namespace Proofs.Mono4
open Spec Spec.V4

/-- legal effective values of a metric, most severe first -/
def Vof (a : String) : List Bytes := orderOf (b a)

def sum1 (av pr ui : Bytes) : Nat × Nat := (eq1 av pr ui, dist1 av pr ui)
def sum2 (ac at_ : Bytes) : Nat × Nat := (eq2 ac at_, dist2 ac at_)
def sum36 (vc vi va cr ir ar : Bytes) : Nat × Nat × Nat := (eq3 vc vi va, eq6 vc vi va cr ir ar, dist36 vc vi va cr ir ar)
def sum4 (sc si sa : Bytes) : Nat × Nat := (eq4 sc si sa, dist4 sc si sa)

/-- `(index of s, index of s')` is a listed transition, and the indices point back at `s`, `s'` -/
def covPair {σ : Type} [BEq σ] (S : List σ) (d : σ) (tr : List (Nat × Nat)) (s s' : σ) : Bool :=
  tr.contains (S.idxOf s, S.idxOf s') && S.getD (S.idxOf s) d == s && S.getD (S.idxOf s') d == s'

theorem covPair_elim {σ : Type} [BEq σ] [LawfulBEq σ] {S : List σ} {d : σ} {tr : List (Nat × Nat)} {s s' : σ}
    (h : covPair S d tr s s' = true) : Listed S d tr s s' := by
  unfold covPair at h
  simp only [Bool.and_eq_true, beq_iff_eq, List.contains_iff_mem] at h
  exact ⟨_, h.1.1, h.1.2, h.2⟩

def stepOk {σ : Type} [BEq σ] (S : List σ) (d : σ) (tr : List (Nat × Nat)) (a : String) (imp : Bool) (old : Bytes)
    (s : σ) (f : Bytes → σ) : Bool :=
  (Vof a).all fun x => !(Nat.ble (sev (b a) x) (sev (b a) old)) ||
    (covPair S d tr s (f x) && (!imp || !(is x "N") || is old "N"))

/-- every at least as severe replacement `x` of the value `old` of metric `a` moves the summary `s` along a listed
    transition to `f x` (and, for impact metrics, `N` stays `N`) -/
def Steps {σ : Type} (S : List σ) (d : σ) (tr : List (Nat × Nat)) (a : String) (imp : Bool) (old : Bytes) (s : σ)
    (f : Bytes → σ) : Prop :=
  ∀ x ∈ Vof a, sev (b a) x ≤ sev (b a) old → Listed S d tr s (f x) ∧ (imp = true → is x "N" = true → is old "N" = true)

theorem stepOk_elim {σ : Type} [BEq σ] [LawfulBEq σ] {S : List σ} {d : σ} {tr : List (Nat × Nat)} {a : String}
    {imp : Bool} {old : Bytes} {s : σ} {f : Bytes → σ} (h : stepOk S d tr a imp old s f = true) :
    Steps S d tr a imp old s f := by
  intro x hx hs
  have := List.all_eq_true.mp h x hx
  rw [Nat.ble_eq_true_of_le hs] at this
  simp only [Bool.not_true, Bool.false_or, Bool.and_eq_true, Bool.or_eq_true, Bool.not_eq_true'] at this
  refine ⟨covPair_elim this.1, ?_⟩
  intro hi hn
  rcases this.2 with (h1 | h1) | h1
  · rw [hi] at h1; cases h1
  · rw [hn] at h1; cases h1
  · exact h1

def cov1 : Bool :=
  (Vof "AV").all fun av => (Vof "PR").all fun pr => (Vof "UI").all fun ui =>
    S1.contains (sum1 av pr ui) &&
    stepOk S1 (0, 0) tr1 "AV" false av (sum1 av pr ui) (fun x => sum1 x pr ui) &&
    stepOk S1 (0, 0) tr1 "PR" false pr (sum1 av pr ui) (fun x => sum1 av x ui) &&
    stepOk S1 (0, 0) tr1 "UI" false ui (sum1 av pr ui) (fun x => sum1 av pr x)

theorem cov1_ok : cov1 = true := by decide +kernel

theorem cov1_at {av pr ui : Bytes} (hav : av ∈ Vof "AV") (hpr : pr ∈ Vof "PR") (hui : ui ∈ Vof "UI") :
    sum1 av pr ui ∈ S1 ∧
    Steps S1 (0, 0) tr1 "AV" false av (sum1 av pr ui) (fun x => sum1 x pr ui) ∧
    Steps S1 (0, 0) tr1 "PR" false pr (sum1 av pr ui) (fun x => sum1 av x ui) ∧
    Steps S1 (0, 0) tr1 "UI" false ui (sum1 av pr ui) (fun x => sum1 av pr x) := by
  have := (List.all_eq_true.mp (List.all_eq_true.mp (List.all_eq_true.mp cov1_ok av hav) pr hpr) ui hui)
  simp only [Bool.and_eq_true] at this
  exact ⟨List.contains_iff_mem.mp this.1.1.1, stepOk_elim this.1.1.2, stepOk_elim this.1.2, stepOk_elim this.2⟩

def cov2 : Bool :=
  (Vof "AC").all fun ac => (Vof "AT").all fun at_ =>
    S2.contains (sum2 ac at_) &&
    stepOk S2 (0, 0) tr2 "AC" false ac (sum2 ac at_) (fun x => sum2 x at_) &&
    stepOk S2 (0, 0) tr2 "AT" false at_ (sum2 ac at_) (fun x => sum2 ac x)

theorem cov2_ok : cov2 = true := by decide +kernel

theorem cov2_at {ac at_ : Bytes} (hac : ac ∈ Vof "AC") (hat_ : at_ ∈ Vof "AT") :
    sum2 ac at_ ∈ S2 ∧
    Steps S2 (0, 0) tr2 "AC" false ac (sum2 ac at_) (fun x => sum2 x at_) ∧
    Steps S2 (0, 0) tr2 "AT" false at_ (sum2 ac at_) (fun x => sum2 ac x) := by
  have := (List.all_eq_true.mp (List.all_eq_true.mp cov2_ok ac hac) at_ hat_)
  simp only [Bool.and_eq_true] at this
  exact ⟨List.contains_iff_mem.mp this.1.1, stepOk_elim this.1.2, stepOk_elim this.2⟩

def cov4 : Bool :=
  (Vof "SC").all fun sc => (Vof "SI").all fun si => (Vof "SA").all fun sa =>
    S4.contains (sum4 sc si sa) &&
    stepOk S4 (0, 0) tr4 "SC" true sc (sum4 sc si sa) (fun x => sum4 x si sa) &&
    stepOk S4 (0, 0) tr4 "SI" true si (sum4 sc si sa) (fun x => sum4 sc x sa) &&
    stepOk S4 (0, 0) tr4 "SA" true sa (sum4 sc si sa) (fun x => sum4 sc si x)

theorem cov4_ok : cov4 = true := by decide +kernel

theorem cov4_at {sc si sa : Bytes} (hsc : sc ∈ Vof "SC") (hsi : si ∈ Vof "SI") (hsa : sa ∈ Vof "SA") :
    sum4 sc si sa ∈ S4 ∧
    Steps S4 (0, 0) tr4 "SC" true sc (sum4 sc si sa) (fun x => sum4 x si sa) ∧
    Steps S4 (0, 0) tr4 "SI" true si (sum4 sc si sa) (fun x => sum4 sc x sa) ∧
    Steps S4 (0, 0) tr4 "SA" true sa (sum4 sc si sa) (fun x => sum4 sc si x) := by
  have := (List.all_eq_true.mp (List.all_eq_true.mp (List.all_eq_true.mp cov4_ok sc hsc) si hsi) sa hsa)
  simp only [Bool.and_eq_true] at this
  exact ⟨List.contains_iff_mem.mp this.1.1.1, stepOk_elim this.1.1.2, stepOk_elim this.1.2, stepOk_elim this.2⟩

end Proofs.Mono4
