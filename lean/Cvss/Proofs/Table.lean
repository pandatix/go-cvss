import Cvss.Proofs.Contract
/-!
# What the parser proofs use of a metric table and of a Get/Set contract, for any table

`findMetric`/`legal`/`isMetric`/`valueOf` on an arbitrary table; the three closed facts a version contributes
(`GoodTable`); what a pair list must satisfy for its fold of `Set`s to be read back metric by metric (`Complete`:
the part of the three `Witness`es that does not mention the string); the fold itself (`Contract.setAll`); and
`Spec.canonPairs`, which v3 and v4 share.
-/
namespace Proofs.Table
open Spec (Bytes Pair Metric findMetric isMetric legal abvs valueOf allLegal canonPairs SLASH COLON)

theorem findMetric_some {ms : List Metric} {a : Bytes} {m : Metric} (h : findMetric ms a = some m) :
    m ∈ ms ∧ m.abv = a := by
  unfold findMetric at h
  exact ⟨List.mem_of_find?_eq_some h, by simpa using List.find?_some h⟩

theorem legal_iff {ms : List Metric} {a v : Bytes} :
    legal ms a v = true ↔ ∃ m, findMetric ms a = some m ∧ v ∈ m.values := by
  unfold legal
  cases findMetric ms a <;> simp

theorem legal_mem {ms : List Metric} {a v : Bytes} (h : legal ms a v = true) : ∃ m ∈ ms, m.abv = a ∧ v ∈ m.values := by
  obtain ⟨m, hm, hv⟩ := legal_iff.mp h
  exact ⟨m, (findMetric_some hm).1, (findMetric_some hm).2, hv⟩

theorem isMetric_of_legal {ms : List Metric} {a v : Bytes} (h : legal ms a v = true) : isMetric ms a = true := by
  obtain ⟨m, hm, _⟩ := legal_iff.mp h
  simp [isMetric, hm]

theorem isMetric_iff {ms : List Metric} {a : Bytes} : isMetric ms a = true ↔ a ∈ abvs ms := by
  unfold isMetric findMetric abvs
  rw [List.find?_isSome]
  simp only [beq_iff_eq, List.mem_map]

theorem isMetric_abv {ms : List Metric} {m : Metric} (hm : m ∈ ms) : isMetric ms m.abv = true :=
  isMetric_iff.mpr (List.mem_map.mpr ⟨m, hm, rfl⟩)

theorem findMetric_self {ms : List Metric} (hn : (abvs ms).Nodup) {m : Metric} (hm : m ∈ ms) :
    findMetric ms m.abv = some m := by
  induction ms with
  | nil => cases hm
  | cons x l ih =>
    rw [abvs, List.map_cons, List.nodup_cons] at hn
    unfold findMetric
    rw [List.find?_cons]
    by_cases hx : x = m
    · subst hx; simp
    · have hml : m ∈ l := (List.mem_cons.mp hm).resolve_left (Ne.symm hx)
      have : (x.abv == m.abv) = false := beq_eq_false_iff_ne.mpr fun he => hn.1 (he ▸ List.mem_map.mpr ⟨m, hml, rfl⟩)
      rw [this]
      exact ih hn.2 hml

theorem allLegalB_iff (ms : List Metric) (w : List Pair) : Spec.allLegalB ms w = true ↔ allLegal ms w := by
  simp [Spec.allLegalB, allLegal, List.all_eq_true]

theorem find?_eq_none_iff {w : List Pair} {a : Bytes} :
    w.find? (fun p => p.1 == a) = none ↔ a ∉ w.map (·.1) := by
  rw [List.find?_eq_none]
  simp only [beq_iff_eq, List.mem_map, not_exists, not_and]

theorem find?_of_mem {w : List Pair} (hn : (w.map (·.1)).Nodup) {p : Pair} (hp : p ∈ w) :
    w.find? (fun q => q.1 == p.1) = some p := by
  induction w with
  | nil => cases hp
  | cons q w ih =>
    rw [List.map_cons, List.nodup_cons] at hn
    rw [List.find?_cons]
    by_cases hq : q = p
    · subst hq; simp
    · have hpw : p ∈ w := (List.mem_cons.mp hp).resolve_left (Ne.symm hq)
      have : (q.1 == p.1) = false := beq_eq_false_iff_ne.mpr fun he => hn.1 (he ▸ List.mem_map.mpr ⟨p, hpw, rfl⟩)
      rw [this]
      exact ih hn.2 hpw

theorem valueOf_of_mem (ms : List Metric) {w : List Pair} (hn : (w.map (·.1)).Nodup) {p : Pair} (hp : p ∈ w) :
    valueOf ms w p.1 = p.2 := by
  unfold valueOf
  rw [find?_of_mem hn hp]

theorem valueOf_of_not_mem {ms : List Metric} {w : List Pair} {m : Metric} (hs : findMetric ms m.abv = some m)
    (h : m.abv ∉ w.map (·.1)) : valueOf ms w m.abv = m.undef.getD [] := by
  unfold valueOf
  rw [find?_eq_none_iff.mpr h, hs]

/-- What the parser proofs use of a version's metric table; each version proves the three fields by evaluation. -/
structure GoodTable (ms : List Metric) : Prop where
  nodup : (abvs ms).Nodup
  clean : ∀ m ∈ ms, COLON ∉ m.abv ∧ SLASH ∉ m.abv ∧ ∀ v ∈ m.values, SLASH ∉ v ∧ v ≠ []
  undef : ∀ m ∈ ms, m.mandatory = false → ∃ u ∈ m.values, m.undef = some u

section table
variable {ms : List Metric} (T : GoodTable ms)
include T

theorem GoodTable.find_self {m : Metric} (hm : m ∈ ms) : findMetric ms m.abv = some m := findMetric_self T.nodup hm

theorem GoodTable.legal_self {m : Metric} (hm : m ∈ ms) {v : Bytes} : legal ms m.abv v = true ↔ v ∈ m.values := by
  unfold legal
  rw [T.find_self hm, List.contains_iff_mem]

/-- a legal pair can be lexed back -/
theorem GoodTable.legal_clean {p : Pair} (h : legal ms p.1 p.2 = true) :
    COLON ∉ p.1 ∧ SLASH ∉ p.1 ∧ SLASH ∉ p.2 ∧ p.2 ≠ [] := by
  obtain ⟨m, h1, h2⟩ := legal_iff.mp h
  obtain ⟨hm, ha⟩ := findMetric_some h1
  obtain ⟨c1, c2, c3⟩ := T.clean m hm
  exact ⟨ha ▸ c1, ha ▸ c2, (c3 _ h2).1, (c3 _ h2).2⟩

theorem GoodTable.name_clean {a : Bytes} (h : isMetric ms a = true) : COLON ∉ a ∧ SLASH ∉ a := by
  obtain ⟨m, hm, rfl⟩ := List.mem_map.mp (isMetric_iff.mp h)
  exact ⟨(T.clean m hm).1, (T.clean m hm).2.1⟩

end table

/-- What the three `Witness`es have in common once the string is forgotten: legal pairs, each metric at most once,
    every mandatory metric present. -/
def Complete (ms : List Metric) (w : List Pair) : Prop :=
  allLegal ms w ∧ (w.map (·.1)).Nodup ∧ ∀ m ∈ ms, m.mandatory = true → m.abv ∈ w.map (·.1)

theorem Complete.undef_of_not_mem {ms : List Metric} (T : GoodTable ms) {w : List Pair} (hw : Complete ms w)
    {m : Metric} (hm : m ∈ ms) (h : m.abv ∉ w.map (·.1)) : ∃ u ∈ m.values, m.undef = some u :=
  T.undef m hm (by
    cases hmand : m.mandatory with
    | false => rfl
    | true => exact absurd (hw.2.2 m hm hmand) h)

theorem Complete.valueOf_mem {ms : List Metric} (T : GoodTable ms) {w : List Pair} (hw : Complete ms w)
    {m : Metric} (hm : m ∈ ms) : valueOf ms w m.abv ∈ m.values := by
  by_cases h : m.abv ∈ w.map (·.1)
  · obtain ⟨p, hp, hpa⟩ := List.mem_map.mp h
    rw [← hpa, valueOf_of_mem ms hw.2.1 hp]
    have := hw.1 p hp
    rwa [hpa, T.legal_self hm] at this
  · obtain ⟨u, hu, e⟩ := hw.undef_of_not_mem T hm h
    rw [valueOf_of_not_mem (T.find_self hm) h, e]
    exact hu

/-- is metric `m` written in the canonical form of `w` -/
def written (ms : List Metric) (w : List Pair) (m : Metric) : Bool :=
  m.mandatory || decide (some (valueOf ms w m.abv) ≠ m.undef)

theorem filterMap_ite {α β : Type} (c : α → Bool) (g : α → β) : ∀ l : List α,
    l.filterMap (fun m => if c m = true then some (g m) else none) = (l.filter c).map g
  | [] => rfl
  | x :: l => by
    rw [List.filterMap_cons, List.filter_cons]
    cases h : c x <;> simp [filterMap_ite c g l]

theorem canonPairs_eq (ms : List Metric) (w : List Pair) :
    canonPairs ms w = (ms.filter (written ms w)).map (fun m => (m.abv, valueOf ms w m.abv)) := by
  rw [← filterMap_ite]; rfl

theorem mem_canonPairs {ms : List Metric} {w : List Pair} {p : Pair} :
    p ∈ canonPairs ms w ↔ ∃ m ∈ ms, written ms w m = true ∧ p = (m.abv, valueOf ms w m.abv) := by
  rw [canonPairs_eq, List.mem_map]
  constructor
  · rintro ⟨m, hm, rfl⟩
    exact ⟨m, (List.mem_filter.mp hm).1, (List.mem_filter.mp hm).2, rfl⟩
  · rintro ⟨m, h1, h2, rfl⟩
    exact ⟨m, List.mem_filter.mpr ⟨h1, h2⟩, rfl⟩

theorem names_canonPairs (ms : List Metric) (w : List Pair) :
    (canonPairs ms w).map (·.1) = abvs (ms.filter (written ms w)) := by
  rw [canonPairs_eq, List.map_map]; rfl

theorem canonPairs_congr {ms : List Metric} {w₁ w₂ : List Pair}
    (h : ∀ m ∈ ms, valueOf ms w₁ m.abv = valueOf ms w₂ m.abv) : canonPairs ms w₁ = canonPairs ms w₂ := by
  rw [canonPairs_eq, canonPairs_eq,
    List.filter_congr (q := written ms w₂) (fun m hm => by simp only [written, h m hm])]
  exact List.map_congr_left fun m hm => by rw [h m (List.mem_filter.mp hm).1]

/-- `canonPairs` keeps every metric's value: a written metric is found with its value, and a metric is left out
    only when its value is its not-defined value, which is what a missing metric reads as -/
theorem valueOf_canonPairs {ms : List Metric} (hn : (abvs ms).Nodup) (w : List Pair) {m : Metric} (hm : m ∈ ms) :
    valueOf ms (canonPairs ms w) m.abv = valueOf ms w m.abv := by
  generalize hcp : canonPairs ms w = cp
  rw [valueOf]
  cases hf : cp.find? (fun p => p.1 == m.abv) with
  | some p =>
    have h1 : p ∈ cp := List.mem_of_find?_eq_some hf
    have h2 : p.1 = m.abv := by simpa using List.find?_some hf
    rw [← hcp] at h1
    obtain ⟨m', _, _, rfl⟩ := mem_canonPairs.mp h1
    simp only at h2 ⊢
    rw [h2]
  | none =>
    have hnw : written ms w m = false := by
      cases hw : written ms w m with
      | false => rfl
      | true =>
        have : (m.abv, valueOf ms w m.abv) ∈ cp := hcp ▸ mem_canonPairs.mpr ⟨m, hm, hw, rfl⟩
        exact absurd ((List.find?_eq_none.mp hf) _ this) (by simp)
    simp only [written, Bool.or_eq_false_iff, decide_eq_false_iff_not, ne_eq, Classical.not_not] at hnw
    simp only [findMetric_self hn hm, ← hnw.2, Option.getD_some]

theorem canonPairs_idem {ms : List Metric} (hn : (abvs ms).Nodup) (w : List Pair) :
    canonPairs ms (canonPairs ms w) = canonPairs ms w :=
  canonPairs_congr fun _ hm => valueOf_canonPairs hn w hm

theorem complete_canonPairs {ms : List Metric} (T : GoodTable ms) {w : List Pair}
    (hg : ∀ m ∈ ms, valueOf ms w m.abv ∈ m.values) : Complete ms (canonPairs ms w) := by
  refine ⟨fun p hp => ?_, ?_, fun m hm hmand => ?_⟩
  · obtain ⟨m, hm, _, rfl⟩ := mem_canonPairs.mp hp
    exact (T.legal_self hm).mpr (hg m hm)
  · rw [names_canonPairs]
    exact T.nodup.sublist (List.Sublist.map _ List.filter_sublist)
  · exact List.mem_map.mpr ⟨_, mem_canonPairs.mpr ⟨m, hm, by simp [written, hmand], rfl⟩, rfl⟩

end Proofs.Table

namespace Proofs.Contract
open Spec (Bytes Pair Metric isMetric legal abvs valueOf allLegal)
open Proofs.Table

variable {O : Type} {ms : List Metric} (K : Contract O ms)

theorem eInvalidMetric_ne_nil (a : Bytes) : Model.eInvalidMetric a ≠ Go.errNil := fun h => by cases h
theorem eValue_ne_nil : Model.eValue ≠ Go.errNil := by decide

theorem set_ok_iff (c : O) (a v : Bytes) : (K.set c a v).2 = Go.errNil ↔ legal ms a v = true := by
  refine ⟨fun h => ?_, K.set_ok c a v⟩
  cases hm : isMetric ms a with
  | false => rw [K.set_unknown c a v hm] at h; exact absurd h (eInvalidMetric_ne_nil a)
  | true =>
    cases hl : legal ms a v with
    | true => rfl
    | false => rw [K.set_illegal c a v hm hl] at h; exact absurd h eValue_ne_nil

/-- the fold of `Set`s over a pair list (errors ignored: on legal pairs there are none) -/
def setAll (c : O) (w : List Pair) : O := w.foldl (fun c p => (K.set c p.1 p.2).1) c

@[simp] theorem setAll_nil (c : O) : K.setAll c [] = c := rfl
@[simp] theorem setAll_cons (c : O) (p : Pair) (w : List Pair) : K.setAll c (p :: w) = K.setAll (K.set c p.1 p.2).1 w := rfl

theorem wf_setAll (w : List Pair) (c : O) (h : K.WF c) : K.WF (K.setAll c w) := by
  induction w generalizing c with
  | nil => exact h
  | cons p w ih => exact ih _ (K.wf_set c p.1 p.2 h)

theorem get_setAll (w : List Pair) (hl : allLegal ms w) (hn : (w.map (·.1)).Nodup) (c : O) (a : Bytes)
    (ha : isMetric ms a = true) :
    K.get (K.setAll c w) a =
      match w.find? (fun p => p.1 == a) with
      | some p => (p.2, Go.errNil)
      | none => K.get c a := by
  induction w generalizing c with
  | nil => rfl
  | cons p w ih =>
    have hp : legal ms p.1 p.2 = true := hl p (by simp)
    rw [List.map_cons, List.nodup_cons] at hn
    rw [setAll_cons, ih (fun q hq => hl q (by simp [hq])) hn.2, List.find?_cons]
    by_cases hpa : p.1 = a
    · subst hpa
      simp only [find?_eq_none_iff.mpr hn.1, beq_self_eq_true]
      exact K.get_set_same c p.1 p.2 hp
    · have : (p.1 == a) = false := by simpa using hpa
      simp only [this]
      cases w.find? (fun q => q.1 == a) with
      | some q => rfl
      | none => exact K.get_set_other c p.1 p.2 a hp ha (fun h => hpa h.symm)

section good
variable (T : GoodTable ms)
include T

theorem get_setAll_zero {w : List Pair} (hw : Complete ms w) {m : Metric} (hm : m ∈ ms) :
    K.get (K.setAll K.zero w) m.abv = (valueOf ms w m.abv, Go.errNil) := by
  rw [K.get_setAll w hw.1 hw.2.1 K.zero m.abv (isMetric_abv hm)]
  unfold valueOf
  cases hf : w.find? (fun p => p.1 == m.abv) with
  | some p => rfl
  | none =>
    obtain ⟨u, _, hu⟩ := hw.undef_of_not_mem T hm (find?_eq_none_iff.mp hf)
    simp only [T.find_self hm, hu, Option.getD_some]
    exact K.get_zero_opt m hm u hu

theorem setAll_eq {c : O} (hc : K.WF c) {w : List Pair} (hw : Complete ms w)
    (hv : ∀ m ∈ ms, valueOf ms w m.abv = (K.get c m.abv).1) : K.setAll K.zero w = c := by
  apply K.ext _ _ (K.wf_setAll _ _ K.wf_zero) hc
  intro m hm
  rw [K.get_setAll_zero T hw hm, hv m hm, ← (K.wf_get c hc m hm).1]

end good

theorem names_pairs (c : O) : (K.pairs c).map (·.1) = abvs ms := by
  unfold pairs abvs
  rw [List.map_map]
  rfl

theorem valueOf_pairs (hn : (abvs ms).Nodup) (c : O) {m : Metric} (hm : m ∈ ms) :
    valueOf ms (K.pairs c) m.abv = (K.get c m.abv).1 :=
  valueOf_of_mem ms (w := K.pairs c) (by rw [K.names_pairs]; exact hn) (p := (m.abv, (K.get c m.abv).1))
    (List.mem_map.mpr ⟨m, hm, rfl⟩)

theorem valueOf_pairs_mem (hn : (abvs ms).Nodup) {c : O} (hc : K.WF c) {m : Metric} (hm : m ∈ ms) :
    valueOf ms (K.pairs c) m.abv ∈ m.values := by
  rw [K.valueOf_pairs hn c hm]
  exact (K.wf_get c hc m hm).2

end Proofs.Contract
