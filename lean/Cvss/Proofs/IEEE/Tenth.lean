import Cvss.Proofs.IEEE.Rint
/-!
# `IsRNE` is invariant under rewriting the fraction; `F64.ofNat` is exact up to `2^53`
-/
namespace IEEE
open Spec F64Order

theorem IsRNE.congr {n n' : Int} {d d' r : Nat} (hd : 0 < d) (hd' : 0 < d') (he : n * d' = n' * d)
    (h : IsRNE n d r) : IsRNE n' d' r := by
  have hab : n.natAbs * d' = n'.natAbs * d := by
    have := congrArg Int.natAbs he
    rw [Int.natAbs_mul, Int.natAbs_mul, Int.natAbs_natCast, Int.natAbs_natCast] at this
    exact this
  have hsgn : (n' < 0 → n < 0) ∧ (0 < n' → 0 < n) := by
    constructor
    · intro h'
      have : n' * (d : Int) < 0 := Int.mul_neg_of_neg_of_pos h' (show (0:Int) < d by omega)
      apply Classical.byContradiction; intro hn
      have : 0 ≤ n * (d' : Int) := Int.mul_nonneg (show 0 ≤ n by omega) (show (0:Int) ≤ d' by omega)
      omega
    · intro h'
      have : 0 < n' * (d : Int) := Int.mul_pos h' (show (0:Int) < d by omega)
      apply Classical.byContradiction; intro hn
      have : n * (d' : Int) ≤ 0 := Int.mul_nonpos_of_nonpos_of_nonneg (show n ≤ 0 by omega) (show (0:Int) ≤ d' by omega)
      omega
  have hn' : n' = sv (signBit r) n'.natAbs := by
    have := h.sign; have := signBit_le r
    unfold sv; split <;> omega
  have := isRNE_of_mag (signBit r) n'.natAbs d' (r % P63) (signBit_le r) hd' ((h.mag hd).congr hd hd' hab)
  rw [← hn', ← split r h.bits] at this
  exact this

theorem ofNat_exact (k : Nat) (hk : k ≤ 2^53) :
    F64Val.ofBits (F64.ofNat k) = .fin ((k : Int) * den) ∧ F64.ofNat k < 2^64 := by
  have := rnd_int 0 k (by decide) (by rw [← p53]; exact hk)
  unfold F64.ofNat
  rw [Nat.add_eq]
  rw [Nat.zero_mul] at this
  exact ⟨this.1, this.2.2⟩

end IEEE
