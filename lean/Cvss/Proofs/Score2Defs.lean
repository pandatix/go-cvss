import Cvss.Model.WF
import Cvss.Spec.V2
import Cvss.Proofs.Range
/-!
# C05/C11/C12 (v2.0) helpers: definitions shared by the evaluated tables

* float side: `T2f`, `RBf`, `Ff` — the three phases of the generated `EnvironmentalScore_core` (recomputed base,
  temporal step, final step). They only *call* generated functions (weights, `roundTo1Decimal`,
  `Exploitability_core`); the shape lemmas tie them to the generated bodies by unfolding, so a changed constant
  or operator in a Go body breaks a shape lemma, and a change in a called function breaks a table.
* exact side: the Spec equations (`Spec/V2.lean`, over `Rat`) applied to the Spec weight of the value string
  that the generated `Get` returns for a code (`wAV r = Spec.V2.weight "AV" (Get-string of code r)`), so the
  exact side has no hand-copied constants either.
* `okStep x fl lo hi`: the float `fl` is (bit for bit) the double nearest `k/10` — or `-0.0` when `k = 0` — for
  a tenth `k` nearest to the exact value `x`, and `lo ≤ k ≤ hi`. This is the predicate every table evaluates.
-/
namespace Proofs.Score2
open Spec (b Bytes)
open Spec.V2

theorem flet_eq {α : Sort u} (x : Nat) (k : Nat → α) : F64.flet x k = k x := by cases x <;> rfl

/-- bit pattern of `-0.0` -/
def NEG0 : Nat := 0x8000000000000000
/-- the double nearest `k/10`, for a signed number of tenths -/
def tenthI : Int → Nat
  | .ofNat n => F64.tenth n
  | .negSucc n => F64.negTenth (n + 1)

/-- `fl` is bit for bit the double nearest `k/10`, or `-0.0` when `k = 0` -/
def bitsOK (fl : Nat) (k : Int) : Bool := Nat.beq fl (tenthI k) || (decide (k = 0) && Nat.beq fl NEG0)

/-! Forcing combinators for the exact side. `Rat` operations build lazy terms; a chain of them is evaluated
    by the kernel again and again. `forceRat x k` first evaluates `x` to a literal fraction. -/
def iflet {α : Sort u} (z : Int) (k : Int → α) : α :=
  match z with
  | .ofNat n => F64.flet n fun n => k (.ofNat n)
  | .negSucc n => F64.flet n fun n => k (.negSucc n)
theorem iflet_eq {α : Sort u} (z : Int) (k : Int → α) : iflet z k = k z := by
  cases z <;> simp [iflet, flet_eq]
def forceRat {α : Sort u} (x : Rat) (k : Rat → α) : α :=
  iflet x.num fun n => F64.flet x.den fun d => k (mkRat n d)
theorem forceRat_eq {α : Sort u} (x : Rat) (k : Rat → α) : forceRat x k = k x := by
  simp [forceRat, iflet_eq, flet_eq, Rat.mkRat_self]

def cand (fl : Nat) (lo hi k : Int) : Bool :=
  bitsOK fl k && decide (lo ≤ k) && decide (k ≤ hi)
/-- some tenth `k` nearest to the exact value `x` has `bitsOK fl k` and lies in `[lo, hi]`. The two candidates are
    `f = ⌊10x⌋` and `f + 1`; with `10x = n/d` and `r = n − f·d`, `f` is nearest iff `2r ≤ d` and `f + 1` iff `d ≤ 2r`
    (`near_floor`). The test is made on these integers because `near` on `Rat` costs the kernel several times as much. -/
def okStep (x : Rat) (fl : Nat) (lo hi : Int) : Bool :=
  forceRat x fun x => forceRat (10 * x) fun y => iflet y.floor fun f => iflet (2 * (y.num - f * y.den)) fun r2 =>
  (decide (r2 ≤ y.den) && cand fl lo hi f) || (decide ((y.den : Int) ≤ r2) && cand fl lo hi (f + 1))

def sAV (r : Nat) : Bytes := (GenV20.Get_core r 0 0 0 0 0 0 0 0 0 0 0 0 0 (b "AV")).1
def sAC (r : Nat) : Bytes := (GenV20.Get_core 0 r 0 0 0 0 0 0 0 0 0 0 0 0 (b "AC")).1
def sAu (r : Nat) : Bytes := (GenV20.Get_core 0 0 r 0 0 0 0 0 0 0 0 0 0 0 (b "Au")).1
def sC (r : Nat) : Bytes := (GenV20.Get_core 0 0 0 r 0 0 0 0 0 0 0 0 0 0 (b "C")).1
def sI (r : Nat) : Bytes := (GenV20.Get_core 0 0 0 0 r 0 0 0 0 0 0 0 0 0 (b "I")).1
def sA (r : Nat) : Bytes := (GenV20.Get_core 0 0 0 0 0 r 0 0 0 0 0 0 0 0 (b "A")).1
def sE (r : Nat) : Bytes := (GenV20.Get_core 0 0 0 0 0 0 r 0 0 0 0 0 0 0 (b "E")).1
def sRL (r : Nat) : Bytes := (GenV20.Get_core 0 0 0 0 0 0 0 r 0 0 0 0 0 0 (b "RL")).1
def sRC (r : Nat) : Bytes := (GenV20.Get_core 0 0 0 0 0 0 0 0 r 0 0 0 0 0 (b "RC")).1
def sCDP (r : Nat) : Bytes := (GenV20.Get_core 0 0 0 0 0 0 0 0 0 r 0 0 0 0 (b "CDP")).1
def sTD (r : Nat) : Bytes := (GenV20.Get_core 0 0 0 0 0 0 0 0 0 0 r 0 0 0 (b "TD")).1
def sCR (r : Nat) : Bytes := (GenV20.Get_core 0 0 0 0 0 0 0 0 0 0 0 r 0 0 (b "CR")).1
def sIR (r : Nat) : Bytes := (GenV20.Get_core 0 0 0 0 0 0 0 0 0 0 0 0 r 0 (b "IR")).1
def sAR (r : Nat) : Bytes := (GenV20.Get_core 0 0 0 0 0 0 0 0 0 0 0 0 0 r (b "AR")).1

def wAV (r : Nat) : Rat := weight (b "AV") (sAV r)
def wAC (r : Nat) : Rat := weight (b "AC") (sAC r)
def wAu (r : Nat) : Rat := weight (b "Au") (sAu r)
def wC (r : Nat) : Rat := weight (b "C") (sC r)
def wI (r : Nat) : Rat := weight (b "I") (sI r)
def wA (r : Nat) : Rat := weight (b "A") (sA r)
def wE (r : Nat) : Rat := weight (b "E") (sE r)
def wRL (r : Nat) : Rat := weight (b "RL") (sRL r)
def wRC (r : Nat) : Rat := weight (b "RC") (sRC r)
def wCDP (r : Nat) : Rat := weight (b "CDP") (sCDP r)
def wTD (r : Nat) : Rat := weight (b "TD") (sTD r)
def wCR (r : Nat) : Rat := weight (b "CR") (sCR r)
def wIR (r : Nat) : Rat := weight (b "IR") (sIR r)
def wAR (r : Nat) : Rat := weight (b "AR") (sAR r)

def XI (c i a : Nat) : Rat := impactEq (wC c) (wI i) (wA a)
def XE (av ac au : Nat) : Rat := exploitabilityEq (wAV av) (wAC ac) (wAu au)
def XB (c i a av ac au : Nat) : Rat := baseEq (XI c i a) (XE av ac au)
def XAI (c i a cr ir ar : Nat) : Rat := adjustedImpactEq (wC c) (wI i) (wA a) (wCR cr) (wIR ir) (wAR ar)
def XRB (c i a cr ir ar av ac au : Nat) : Rat := baseEq (XAI c i a cr ir ar) (XE av ac au)
def XT (kb : Int) (e rl rc : Nat) : Rat := temporalEq (score kb) (wE e) (wRL rl) (wRC rc)
def XF (kt : Int) (cdp td : Nat) : Rat := environmentalEq (score kt) (wCDP cdp) (wTD td)

/-- temporal step: `roundTo1Decimal (((b·e)·rl)·rc)` -/
def T2f (bs e rl rc : Nat) : Nat :=
  GenV20.roundTo1Decimal (F64.mul (F64.mul (F64.mul bs (GenV20.exploitability e)) (GenV20.remediationLevel rl)) (GenV20.reportConfidence rc))

/-- recomputed base inside `EnvironmentalScore` (text of the generated body up to `recBase`) -/
def RBf (r0 r1 r2 r3 r4 r5 r6 r7 r8 : Nat) : Nat :=
  F64.flet (GenV20.cia r0) fun c =>
  F64.flet (GenV20.cia r1) fun i =>
  F64.flet (GenV20.cia r2) fun a =>
  F64.flet (GenV20.ciar r3) fun cr =>
  F64.flet (GenV20.ciar r4) fun ir =>
  F64.flet (GenV20.ciar r5) fun ar =>
  F64.flet (F64.min (0x4024000000000000 : Nat) (F64.mul (0x4024d1eb851eb852 : Nat) (F64.sub (0x3ff0000000000000 : Nat) (F64.mul (F64.mul (F64.sub (0x3ff0000000000000 : Nat) (F64.mul c cr)) (F64.sub (0x3ff0000000000000 : Nat) (F64.mul i ir))) (F64.sub (0x3ff0000000000000 : Nat) (F64.mul a ar)))))) fun adjustedImpact =>
  F64.flet (cond (!(F64.eq adjustedImpact (0x0000000000000000 : Nat))) (0x3ff2d0e560418937 : Nat) (0x0000000000000000 : Nat)) fun fimpactBase =>
  F64.flet (GenV20.Exploitability_core r6 r7 r8) fun expltBase =>
  GenV20.roundTo1Decimal (F64.mul (F64.sub (F64.add (F64.mul (0x3fe3333333333333 : Nat) adjustedImpact) (F64.mul (0x3fd999999999999a : Nat) expltBase)) (0x3ff8000000000000 : Nat)) fimpactBase)

/-- final step: `roundTo1Decimal ((at + (10 − at)·cdp)·td)` -/
def Ff (atf cdp td : Nat) : Nat :=
  GenV20.roundTo1Decimal (F64.mul (F64.add atf (F64.mul (F64.sub (0x4024000000000000 : Nat) atf) (GenV20.collateralDamagePotential cdp))) (GenV20.targetDistribution td))

theorem temporal_shape (r0 r1 r2 r3 r4 r5 r6 r7 r8 : Nat) :
    GenV20.TemporalScore_core r0 r1 r2 r3 r4 r5 r6 r7 r8 =
    T2f (GenV20.BaseScore_core r3 r4 r5 r6 r7 r8) r0 r1 r2 := by
  simp only [GenV20.TemporalScore_core, flet_eq, T2f]

theorem env_shape (r0 r1 r2 r3 r4 r5 r6 r7 r8 r9 r10 r11 r12 r13 : Nat) :
    GenV20.EnvironmentalScore_core r0 r1 r2 r3 r4 r5 r6 r7 r8 r9 r10 r11 r12 r13 =
    Ff (T2f (RBf r0 r1 r2 r3 r4 r5 r6 r7 r8) r9 r10 r11) r12 r13 := by
  simp only [GenV20.EnvironmentalScore_core, flet_eq, RBf, T2f, Ff]

theorem num_eq_mul_den (y : Rat) : (y.num : Rat) = y * (y.den : Rat) := by
  have hd : ((y.den : Nat) : Rat) ≠ 0 := Rat.ne_of_gt (Rat.natCast_pos.2 y.den_pos)
  have h : (y.num : Rat) / (y.den : Rat) = y := by rw [← Rat.mkRat_eq_div, Rat.mkRat_self]
  rw [← Rat.div_mul_cancel (a := (y.num : Rat)) hd, h]

/-- which of `⌊10x⌋`, `⌊10x⌋ + 1` is a nearest tenth of `x`, read off numerator and denominator of `y = 10x`:
    `2·(y − ⌊y⌋) ≤ 1` resp. `≥ 1`, multiplied by the denominator -/
theorem near_floor {x y : Rat} (hy : y = 10 * x) :
    (2 * (y.num - y.floor * y.den) ≤ (y.den : Int) → Near x y.floor) ∧
    ((y.den : Int) ≤ 2 * (y.num - y.floor * y.den) → Near x (y.floor + 1)) := by
  have hd : (0 : Rat) < (y.den : Rat) := Rat.natCast_pos.2 y.den_pos
  have h1 := Rat.floor_le y
  have h2 := Rat.lt_floor_add_one y
  have hn := num_eq_mul_den y
  simp only [Near, score]
  constructor
  · intro h
    have h' := Rat.intCast_le_intCast.2 h
    simp only [Rat.intCast_mul, Rat.intCast_sub, Rat.intCast_natCast, hn] at h'
    have : (2 * (y - (y.floor : Rat))) * (y.den : Rat) ≤ 1 * (y.den : Rat) := by grind
    have := Rat.le_of_mul_le_mul_right this hd
    constructor <;> grind
  · intro h
    have h' := Rat.intCast_le_intCast.2 h
    simp only [Rat.intCast_mul, Rat.intCast_sub, Rat.intCast_natCast, hn] at h'
    have : 1 * (y.den : Rat) ≤ (2 * (y - (y.floor : Rat))) * (y.den : Rat) := by grind
    have := Rat.le_of_mul_le_mul_right this hd
    simp only [Rat.intCast_add] at h2 ⊢
    constructor <;> grind

theorem okStep_elim {x : Rat} {fl : Nat} {lo hi : Int} (h : okStep x fl lo hi = true) :
    ∃ k : Int, Near x k ∧ bitsOK fl k = true ∧ lo ≤ k ∧ k ≤ hi := by
  simp only [okStep, forceRat_eq, iflet_eq, cand, Bool.or_eq_true, Bool.and_eq_true, decide_eq_true_eq] at h
  rcases h with ⟨n, ⟨b, l⟩, u⟩ | ⟨n, ⟨b, l⟩, u⟩
  · exact ⟨_, (near_floor rfl).1 n, b, l, u⟩
  · exact ⟨_, (near_floor rfl).2 n, b, l, u⟩

end Proofs.Score2
