import Cvss.Spec.V2
/-!
# C05 helpers: the executable rounding oracle of `Spec/V2.lean` is the relation `Near`

`tenths x` lists exactly the tenths `k` with `Near x k` (one, or two at an exact tie), and the Boolean
`baseOK/temporalOK/envOK` decide the relations `BaseOK/TemporalOK/EnvOK`. Pure `Rat`/`Int` reasoning; no floats.
-/
namespace Proofs.Score2
open Spec.V2

theorem near_iff {x : Rat} {k : Int} : near x k = true ↔ Near x k := by simp [near]

theorem floor_le_of_near {x : Rat} {k : Int} (h : Near x k) : (10 * x).floor ≤ k := by
  have h2 : x ≤ (k : Rat) / 10 + 1 / 20 := h.2
  have : (10 * x).floor < k + 1 := by
    rw [Rat.floor_lt_iff, Rat.intCast_add]
    grind
  omega

theorem le_floor_succ_of_near {x : Rat} {k : Int} (h : Near x k) : k ≤ (10 * x).floor + 1 := by
  have h1 : (k : Rat) / 10 - 1 / 20 ≤ x := h.1
  have : k - 1 ≤ (10 * x).floor := by
    rw [Rat.le_floor_iff, Rat.intCast_sub]
    grind
  omega

theorem mem_tenths {x : Rat} {k : Int} : k ∈ tenths x ↔ Near x k := by
  constructor
  · intro h; exact near_iff.1 (List.mem_filter.1 h).2
  · intro h
    refine List.mem_filter.2 ⟨?_, near_iff.2 h⟩
    have h1 := floor_le_of_near h
    have h2 := le_floor_succ_of_near h
    have : k = (10 * x).floor ∨ k = (10 * x).floor + 1 := by omega
    rcases this with e | e
    · rw [e]; exact List.mem_cons_self
    · rw [e]; exact List.mem_cons_of_mem _ List.mem_cons_self

theorem baseOK_iff (val : Spec.Bytes → Spec.Bytes) (k : Int) : baseOK val k = true ↔ BaseOK val k := by
  simp only [baseOK, baseKs, List.contains_iff_mem, mem_tenths, BaseOK]

theorem temporalOK_iff (val : Spec.Bytes → Spec.Bytes) (k : Int) : temporalOK val k = true ↔ TemporalOK val k := by
  simp only [temporalOK, temporalKs, List.contains_iff_mem, List.mem_eraseDups, List.mem_flatMap, baseKs,
    mem_tenths, TemporalOK]

theorem envOK_iff (val : Spec.Bytes → Spec.Bytes) (k : Int) : envOK val k = true ↔ EnvOK val k := by
  simp only [envOK, envKs, List.contains_iff_mem, List.mem_eraseDups, List.mem_flatMap, mem_tenths, EnvOK]
  constructor
  · rintro ⟨kb, h1, kt, h2, h3⟩; exact ⟨kb, kt, h1, h2, h3⟩
  · rintro ⟨kb, kt, h1, h2, h3⟩; exact ⟨kb, h1, kt, h2, h3⟩

theorem mem_baseKs (val : Spec.Bytes → Spec.Bytes) (k : Int) : k ∈ baseKs val ↔ BaseOK val k := by
  rw [← baseOK_iff, baseOK, List.contains_iff_mem]
theorem mem_temporalKs (val : Spec.Bytes → Spec.Bytes) (k : Int) : k ∈ temporalKs val ↔ TemporalOK val k := by
  rw [← temporalOK_iff, temporalOK, List.contains_iff_mem]
theorem mem_envKs (val : Spec.Bytes → Spec.Bytes) (k : Int) : k ∈ envKs val ↔ EnvOK val k := by
  rw [← envOK_iff, envOK, List.contains_iff_mem]

end Proofs.Score2
