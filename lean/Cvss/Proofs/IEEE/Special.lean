import Cvss.Proofs.IEEE.Tenth
/-!
# The few special-operand facts proved: NaN operands give NaN
(everything else about `FB.*` on NaN/±∞ operands stays trusted / validated by differential testing)
-/
namespace IEEE
open Spec F64Order

theorem ofBits_NAN : F64Val.ofBits FB.NAN = .nan := by decide +kernel

theorem not_fin2_of_nan (x y : Nat) (h : F64.isNaN x = true ∨ F64.isNaN y = true) :
    (Nat.blt (F64.ebits x) 2047 && Nat.blt (F64.ebits y) 2047) = false := by
  cases hb : (Nat.blt (F64.ebits x) 2047 && Nat.blt (F64.ebits y) 2047)
  · rfl
  · have ⟨a, b⟩ := isFin2_notNaN x y hb
    rw [a, b] at h
    rcases h with h | h <;> cases h

theorem fb_nan_or (x y : Nat) (h : F64.isNaN x = true ∨ F64.isNaN y = true) :
    (FB.isNaN x || FB.isNaN y) = true := by
  rw [fb_isNaN_eq, fb_isNaN_eq, Bool.or_eq_true]; exact h

theorem add_nan (x y : Nat) (h : F64Val.ofBits x = .nan ∨ F64Val.ofBits y = .nan) :
    F64Val.ofBits (F64.add x y) = .nan := by
  rw [ofBits_nan_iff, ofBits_nan_iff] at h
  unfold F64.add
  simp only [flet_eq]
  rw [not_fin2_of_nan x y h, cond_false]
  unfold FB.add
  rw [if_pos (fb_nan_or x y h)]
  exact ofBits_NAN

end IEEE
