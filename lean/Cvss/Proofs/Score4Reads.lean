import Cvss.Proofs.Bits40
import Cvss.Proofs.Score4Basic
/-!
# v4.0: what `Get` returns for each scoring metric, as a function of that metric's code

`gv j r` is the string `Get` decodes when the field of metric `j` (its index in `Spec.V4.metrics`) holds the code
`r`: the `r`-th entry of `Proofs.B40.gvals j`, which is read off the generated `Get_core`, so no value name is copied
by hand. `nmAV … nmMSA` name the 26 scoring metrics' rows. For an object, `Proofs.B40.get_idx` says that `Get`
answers `gv j (code j c)`, `Proofs.B40.wf_iff` that a well-formed object holds a legal code in every field, and
`score_codes` that `Score` reads the object through these codes only.
-/
namespace Proofs.Score4
open Model Proofs.B40

/-- `[]` beyond the metric's codes -/
def gv (j r : Nat) : List Nat := (gvals j).getD r []

abbrev nmAV : Nat → List Nat := gv 0
abbrev nmAC : Nat → List Nat := gv 1
abbrev nmAT : Nat → List Nat := gv 2
abbrev nmPR : Nat → List Nat := gv 3
abbrev nmUI : Nat → List Nat := gv 4
abbrev nmVC : Nat → List Nat := gv 5
abbrev nmVI : Nat → List Nat := gv 6
abbrev nmVA : Nat → List Nat := gv 7
abbrev nmSC : Nat → List Nat := gv 8
abbrev nmSI : Nat → List Nat := gv 9
abbrev nmSA : Nat → List Nat := gv 10
abbrev nmE : Nat → List Nat := gv 11
abbrev nmCR : Nat → List Nat := gv 12
abbrev nmIR : Nat → List Nat := gv 13
abbrev nmAR : Nat → List Nat := gv 14
abbrev nmMAV : Nat → List Nat := gv 15
abbrev nmMAC : Nat → List Nat := gv 16
abbrev nmMAT : Nat → List Nat := gv 17
abbrev nmMPR : Nat → List Nat := gv 18
abbrev nmMUI : Nat → List Nat := gv 19
abbrev nmMVC : Nat → List Nat := gv 20
abbrev nmMVI : Nat → List Nat := gv 21
abbrev nmMVA : Nat → List Nat := gv 22
abbrev nmMSC : Nat → List Nat := gv 23
abbrev nmMSI : Nat → List Nat := gv 24
abbrev nmMSA : Nat → List Nat := gv 25

theorem not_nil_of_contains {vs : List (List Nat)} {s : List Nat} (h : vs.contains s = true) (hv : vs.contains [] = false) :
    s ≠ [] := by
  intro hs; rw [hs] at h; rw [h] at hv; cases hv

/-- `Score` is the core on 26 of the field codes (by unfolding the generated wrapper); base and Modified code of a
    metric are adjacent, in the order of the Go source -/
theorem score_codes (c : O40) : c.score =
    GenV40.Score_core (code 0 c) (code 15 c) (code 1 c) (code 16 c) (code 2 c) (code 17 c) (code 3 c) (code 18 c)
      (code 4 c) (code 19 c) (code 5 c) (code 20 c) (code 8 c) (code 23 c) (code 6 c) (code 21 c)
      (code 9 c) (code 24 c) (code 7 c) (code 22 c) (code 10 c) (code 25 c)
      (code 12 c) (code 13 c) (code 14 c) (code 11 c) := by
  obtain ⟨u0, u1, u2, u3, u4, u5, u6, u7, u8⟩ := c; rfl

theorem val_code (c : O40) (j : Nat) (hj : j < 32) : (c.get (abv j)).1 = gv j (code j c) :=
  congrArg Prod.fst (get_idx c j hj)

theorem wf_codes {c : O40} (h : c.wf = true) : ∀ j, j < 32 → code j c < nv j := ((wf_iff c).mp h).2.2

end Proofs.Score4
