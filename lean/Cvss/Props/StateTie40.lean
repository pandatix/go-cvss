import Cvss.Gen.V40
/-!
# State tie, package 40 — what every property about this package silently assumes

The translator turns each Go function into a pure Lean function of its arguments and reads tables and constants from their
initialisers. That is only the program's behaviour if nothing else can change them: no `init` function, no assignment to (or
address taken of) a package-level variable anywhere in the package, no method call on a package-level variable except v2's
`splitPool.Get/Put`, and no source file that a differently tagged build would add or drop (the checks run a `-tags verif`
build; the hooks files `zz_verif*.go` only add exported accessors). These facts are regenerated from the source on every run
(`pkg_*` lists at the end of `Gen/V40.lean`) and compared here with the expected lists; every property of this package
builds this module as a tie.
-/
namespace StateTie
theorem v40 : GenV40.pkg_inits = [] ∧ GenV40.pkg_build_tags = [] ∧ GenV40.pkg_writes = [] ∧
    GenV40.pkg_calls = [] := ⟨rfl, rfl, rfl, rfl⟩
/-- … and the set of package-level variables is exactly the documented one (error sentinels, immutable tables, v2's pool) -/
theorem vars40 : GenV40.pkg_vars =
    ["ErrInvalidCVSSHeader:error", "ErrInvalidMetricOrder:error", "ErrInvalidMetricValue:error", "ErrOutOfBoundsScore:error", "ErrTooShortVector:error", "highestSeverityVectors:[][][]int", "highestSeverityVectorsEQ3EQ6:[][][]int", "order:[][]string", "sevIdx:[][]uint8"] := rfl
/-- the object is exactly its packed bytes: 9 `uint8` fields and nothing else (so Go's `==` on objects is equality of the
    bytes the model works on — no cached or hidden state takes part in it), and only these methods have a pointer receiver
    (every other method works on a copy and cannot change the object) -/
theorem obj40 : GenV40.obj_fields = ["u0:uint8", "u1:uint8", "u2:uint8", "u3:uint8", "u4:uint8", "u5:uint8", "u6:uint8", "u7:uint8", "u8:uint8"] ∧ GenV40.obj_ptr_methods = ["Score", "Set"] := ⟨rfl, rfl⟩
/-- what the pointer-receiver methods do with their receiver: only `Set` assigns through it; none takes an address inside the
    object, hands the pointer on, or keeps an alias (v4.0 `Score` has a pointer receiver but only reads) -/
theorem effects40 : GenV40.obj_ptr_effects = ["Score:reads-only", "Set:writes"] := rfl
/-- `sync.Pool`s of the package: none -/
theorem pool40 : GenV40.pool_new = [] ∧ GenV40.pool_uses = [] := ⟨rfl, rfl⟩
/-- the package imports exactly these standard packages (no `os`, `time`, `runtime`, `reflect`, `C`, no module-internal package:
    nothing through which the environment, the clock, the scheduler or foreign code could reach the translated functions) -/
theorem imports40 : GenV40.pkg_imports = ["errors", "fmt", "math", "strings", "unsafe"] := rfl
/-- files and initialisers outside what the translator reads: the hooks file declares only the `Verif…` accessors (no `init`, no
    variable, no import), no file of the directory belongs to another platform's or another tag's build, and the only package-level
    initialisers that run code are the `errors.New` sentinels -/
theorem files40 : GenV40.hook_decls = ["zz_verif_hooks.go:func VerifBytes", "zz_verif_hooks.go:func VerifFromBytes", "zz_verif_hooks.go:func VerifLenVec", "zz_verif_hooks.go:func VerifLookupMV", "zz_verif_hooks.go:func VerifMacroVector", "zz_verif_hooks.go:func VerifRoundup"] ∧
    GenV40.pkg_other_files = [] ∧
    GenV40.pkg_var_inits = ["ErrInvalidCVSSHeader:call errors.New", "ErrInvalidMetricOrder:call errors.New", "ErrInvalidMetricValue:call errors.New", "ErrOutOfBoundsScore:call errors.New", "ErrTooShortVector:call errors.New"] := ⟨rfl, rfl, rfl⟩
/-- which function mentions which package-level table or pool (the `error` sentinels aside): nothing else in the package —
    no `Error()` method, initialiser or untranslated helper — can read or write them, whatever aliasing it might use -/
theorem uses40 : GenV40.pkg_var_uses = ["CVSS40.Score:highestSeverityVectors", "CVSS40.Score:highestSeverityVectorsEQ3EQ6", "ParseVector:order", "severityDistance:sevIdx"] := rfl
/-- the only pre-sized buffer is `Vector`'s (its capacity is `lenVec()`, `C17.cap_eq_lenVec40`; a run-time capacity anywhere else
    would be an unmodelled panic source), the only mention of package `unsafe` is `Vector`'s string conversion, and the hooks file is
    byte for byte the committed one -/
theorem buffers40 : GenV40.pkg_presized = ["CVSS40.Vector"] ∧ GenV40.pkg_unsafe_all = ["CVSS40.Vector:unsafe.Pointer"] ∧
    GenV40.hook_sha = ["zz_verif_hooks.go:798c5105abf108ec"] := ⟨rfl, rfl, rfl⟩
end StateTie
