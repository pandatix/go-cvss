import Cvss.Proofs.Score2Main
import Cvss.Proofs.F64Tenth
/-!
# C12 (v2.0) helpers: monotonicity of the generated Base and Temporal scores, on codes

Base: the table `mono_base_chunk` (each of the 729 Base tuples against every more severe value of every metric).

Temporal: no further table. The temporal step returns the double of a tenth nearest to the exact product
`score kb · wE · wRL · wRC` (`t2_out`). Nearest tenths of strictly ordered values are ordered (`near_mono`); the
product is strictly monotone in each factor unless it is 0, and then the result is ±0; a code of the same weight
gives the same double; and the doubles of the tenths are ordered like the tenths (`F64Tenth.tenth_le`).
-/
namespace Proofs.Score2
open Model Spec.V2

theorem imp_of_or {p q : Bool} (h : (!p || q) = true) (hp : p = true) : q = true := by
  cases p <;> simp_all

theorem monoBase_elim {c i a av ac au : Nat} (h : monoBase c i a av ac au = true) (r : Nat) (hr : r < 3) :
    (sevC "C" sC c r = true → F64.le (GenV20.BaseScore_core c i a av ac au) (GenV20.BaseScore_core r i a av ac au) = true) ∧
    (sevC "I" sI i r = true → F64.le (GenV20.BaseScore_core c i a av ac au) (GenV20.BaseScore_core c r a av ac au) = true) ∧
    (sevC "A" sA a r = true → F64.le (GenV20.BaseScore_core c i a av ac au) (GenV20.BaseScore_core c i r av ac au) = true) ∧
    (sevC "AV" sAV av r = true → F64.le (GenV20.BaseScore_core c i a av ac au) (GenV20.BaseScore_core c i a r ac au) = true) ∧
    (sevC "AC" sAC ac r = true → F64.le (GenV20.BaseScore_core c i a av ac au) (GenV20.BaseScore_core c i a av r au) = true) ∧
    (sevC "Au" sAu au r = true → F64.le (GenV20.BaseScore_core c i a av ac au) (GenV20.BaseScore_core c i a av ac r) = true) := by
  simp only [monoBase, flet_eq] at h
  have := all_range h hr
  simp only [Bool.and_eq_true] at this
  obtain ⟨⟨⟨⟨⟨h1, h2⟩, h3⟩, h4⟩, h5⟩, h6⟩ := this
  exact ⟨imp_of_or h1, imp_of_or h2, imp_of_or h3, imp_of_or h4, imp_of_or h5, imp_of_or h6⟩

/-- a score value compares like the canonical double of its tenth: `-0.0` has the value of `+0.0` -/
theorem le_congr {y y' : Nat} {n n' : Nat} (b : bitsOK y (Int.ofNat n) = true) (b' : bitsOK y' (Int.ofNat n') = true)
    (u : n ≤ 100) (u' : n' ≤ 100) : F64.le y y' = F64.le (F64.tenth n) (F64.tenth n') := by
  have v : ∀ {y n}, bitsOK y (Int.ofNat n) = true → n ≤ 100 →
      y < F64Order.P64 ∧ Spec.F64Val.ofBits y = Spec.F64Val.ofBits (F64.tenth n) := by
    intro y n b u
    rcases bitsOK_cases b with rfl | ⟨h, rfl⟩
    · exact ⟨F64Tenth.tenth_lt_P64 u, rfl⟩
    · obtain rfl : n = 0 := Int.ofNat.inj h
      exact ⟨by decide, by decide +kernel⟩
  obtain ⟨h1, e1⟩ := v b u
  obtain ⟨h2, e2⟩ := v b' u'
  rw [F64Order.le_eq_spec _ _ h1 h2, F64Order.le_eq_spec _ _ (F64Tenth.tenth_lt_P64 u) (F64Tenth.tenth_lt_P64 u'), e1, e2]

theorem le_bitsOK {y y' : Nat} {k k' : Int} (b : bitsOK y k = true) (b' : bitsOK y' k' = true)
    (l : 0 ≤ k) (u : k ≤ 100) (l' : 0 ≤ k') (u' : k' ≤ 100) : F64.le y y' = true ↔ k ≤ k' := by
  obtain ⟨n, rfl⟩ := Int.eq_ofNat_of_zero_le l
  obtain ⟨n', rfl⟩ := Int.eq_ofNat_of_zero_le l'
  rw [le_congr b b' (by omega) (by omega), F64Tenth.tenth_le (by omega) (by omega), decide_eq_true_iff]
  omega

theorem inB_zero : inB 0 = NEG0 := rfl

theorem near_mono {x x' : Rat} {k k' : Int} (n : Near x k) (n' : Near x' k') (h : x < x') : k ≤ k' := by
  have h1 : score k - 1 / 20 ≤ x := n.1
  have h2 : x' ≤ score k' + 1 / 20 := n'.2
  have : (k : Rat) < ((k' + 1 : Int) : Rat) := by
    simp only [score, Rat.intCast_add] at *
    grind
  have := Rat.intCast_lt_intCast.1 this
  omega

theorem near_zero {k : Int} (n : Near 0 k) : k = 0 := by
  have h1 : score k - 1 / 20 ≤ 0 := n.1
  have h2 : (0 : Rat) ≤ score k + 1 / 20 := n.2
  have a : (k : Rat) < ((1 : Int) : Rat) := by simp only [score] at *; grind
  have b : ((-1 : Int) : Rat) < (k : Rat) := by simp only [score] at *; grind
  have := Rat.intCast_lt_intCast.1 a
  have := Rat.intCast_lt_intCast.1 b
  omega

/-- two roundings to score values are ordered if the exact values are strictly ordered, or the first is 0, or
    they are the same double -/
theorem le_of_near {x x' : Rat} {y y' : Nat} {k k' : Int}
    (n : Near x k) (b : bitsOK y k = true) (l : 0 ≤ k) (u : k ≤ 100)
    (n' : Near x' k') (b' : bitsOK y' k' = true) (l' : 0 ≤ k') (u' : k' ≤ 100)
    (h : x = 0 ∨ y = y' ∨ x < x') : F64.le y y' = true := by
  rcases h with rfl | rfl | h
  · rw [le_bitsOK b b' l u l' u', near_zero n]; exact l'
  · exact (le_bitsOK b b l u l u).2 (Int.le_refl _)
  · exact (le_bitsOK b b' l u l' u').2 (near_mono n n' h)

/-- raising the code `r` of one weight. `f r` is the float result and `X r = w r · R` the exact value as
    functions of that code; `g r` is the float weight, through which alone `f` depends on `r` -/
theorem mono_code {f g : Nat → Nat} {X w : Nat → Rat} {R : Rat} {m : Nat}
    (out : ∀ r, r < m → ∃ kt : Int, Near (X r) kt ∧ bitsOK (f r) kt = true ∧ 0 ≤ kt ∧ kt ≤ 100)
    (hX : ∀ r, X r = w r * R) (hR : 0 ≤ R) (hf : ∀ r r', g r = g r' → f r = f r')
    {r r' : Nat} (hr : r < m) (hr' : r' < m) (hw : w r ≤ w r' ∧ (w r = w r' → g r = g r')) :
    F64.le (f r) (f r') = true := by
  obtain ⟨k, n, b, l, u⟩ := out r hr
  obtain ⟨k', n', b', l', u'⟩ := out r' hr'
  refine le_of_near n b l u n' b' l' u' ?_
  by_cases h0 : R = 0
  · left; rw [hX, h0, Rat.mul_zero]
  by_cases he : w r = w r'
  · right; left; exact hf r r' (hw.2 he)
  · right; right
    rw [hX, hX]
    exact Rat.mul_lt_mul_of_pos_right (Rat.lt_of_le_of_ne hw.1 he) (Rat.lt_of_le_of_ne hR (Ne.symm h0))

/-- a more severe value weighs at least as much, and values of equal weight have the same float weight -/
theorem wE_mono : ∀ r, r < 5 → ∀ r', r' < 5 → sevC "E" sE r r' = true →
    wE r ≤ wE r' ∧ (wE r = wE r' → GenV20.exploitability r = GenV20.exploitability r') := by decide +kernel
theorem wRL_mono : ∀ r, r < 5 → ∀ r', r' < 5 → sevC "RL" sRL r r' = true →
    wRL r ≤ wRL r' ∧ (wRL r = wRL r' → GenV20.remediationLevel r = GenV20.remediationLevel r') := by decide +kernel
theorem wRC_mono : ∀ r, r < 4 → ∀ r', r' < 4 → sevC "RC" sRC r r' = true →
    wRC r ≤ wRC r' ∧ (wRC r = wRC r' → GenV20.reportConfidence r = GenV20.reportConfidence r') := by decide +kernel
theorem w_pos : (∀ r, r < 5 → 0 < wE r) ∧ (∀ r, r < 5 → 0 < wRL r) ∧ (∀ r, r < 4 → 0 < wRC r) := by decide +kernel

theorem score_nonneg {k : Int} (h : 0 ≤ k) : 0 ≤ score k := by
  have := Rat.intCast_le_intCast.2 h
  simp only [score]; grind

theorem score_lt {k k' : Int} (h : k < k') : score k < score k' := by
  have := Rat.intCast_lt_intCast.2 h
  simp only [score]; grind

theorem XT_zero (e rl rc : Nat) : XT 0 e rl rc = 0 := by
  simp only [XT, temporalEq, score]; grind

section
variable {fl : Nat} {kb : Int} (b : bitsOK fl kb = true) (l : 0 ≤ kb) (u : kb ≤ 100) {e rl rc : Nat}
  (he : e < 5) (hrl : rl < 5) (hrc : rc < 4)
include b l u he hrl hrc

theorem t2_mono_E {e' : Nat} (he' : e' < 5) (s : sevC "E" sE e e' = true) :
    F64.le (T2f fl e rl rc) (T2f fl e' rl rc) = true :=
  mono_code (f := fun r => T2f fl r rl rc) (g := GenV20.exploitability) (X := fun r => XT kb r rl rc) (w := wE)
    (R := score kb * wRL rl * wRC rc) (fun r hr => t2_out b l u hr hrl hrc)
    (fun r => by simp only [XT, temporalEq]; grind)
    (Rat.mul_nonneg (Rat.mul_nonneg (score_nonneg l) (Rat.le_of_lt (w_pos.2.1 rl hrl))) (Rat.le_of_lt (w_pos.2.2 rc hrc)))
    (fun r r' h => by simp only [T2f, h]) he he' (wE_mono e he e' he' s)

theorem t2_mono_RL {rl' : Nat} (hrl' : rl' < 5) (s : sevC "RL" sRL rl rl' = true) :
    F64.le (T2f fl e rl rc) (T2f fl e rl' rc) = true :=
  mono_code (f := fun r => T2f fl e r rc) (g := GenV20.remediationLevel) (X := fun r => XT kb e r rc) (w := wRL)
    (R := score kb * wE e * wRC rc) (fun r hr => t2_out b l u he hr hrc)
    (fun r => by simp only [XT, temporalEq]; grind)
    (Rat.mul_nonneg (Rat.mul_nonneg (score_nonneg l) (Rat.le_of_lt (w_pos.1 e he))) (Rat.le_of_lt (w_pos.2.2 rc hrc)))
    (fun r r' h => by simp only [T2f, h]) hrl hrl' (wRL_mono rl hrl rl' hrl' s)

theorem t2_mono_RC {rc' : Nat} (hrc' : rc' < 4) (s : sevC "RC" sRC rc rc' = true) :
    F64.le (T2f fl e rl rc) (T2f fl e rl rc') = true :=
  mono_code (f := fun r => T2f fl e rl r) (g := GenV20.reportConfidence) (X := fun r => XT kb e rl r) (w := wRC)
    (R := score kb * wE e * wRL rl) (fun r hr => t2_out b l u he hrl hr)
    (fun r => by simp only [XT, temporalEq]; grind)
    (Rat.mul_nonneg (Rat.mul_nonneg (score_nonneg l) (Rat.le_of_lt (w_pos.1 e he))) (Rat.le_of_lt (w_pos.2.1 rl hrl)))
    (fun r r' h => by simp only [T2f, h]) hrc hrc' (wRC_mono rc hrc rc' hrc' s)

theorem t2_mono_in {fl' : Nat} {kb' : Int} (b' : bitsOK fl' kb' = true) (h : kb ≤ kb') (u' : kb' ≤ 100) :
    F64.le (T2f fl e rl rc) (T2f fl' e rl rc) = true := by
  obtain ⟨k, n, bt, lt, ut⟩ := t2_out b l u he hrl hrc
  obtain ⟨k', n', bt', lt', ut'⟩ := t2_out b' (Int.le_trans l h) u' he hrl hrc
  refine le_of_near n bt lt ut n' bt' lt' ut' ?_
  by_cases h0 : kb = 0
  · left; rw [h0, XT_zero]
  by_cases hk : kb = kb'
  · -- a non-zero tenth has one double
    subst hk
    rcases bitsOK_cases b with rfl | ⟨e1, _⟩
    · rcases bitsOK_cases b' with rfl | ⟨e2, _⟩
      · exact Or.inr (Or.inl rfl)
      · exact absurd e2 h0
    · exact absurd e1 h0
  · right; right
    exact Rat.mul_lt_mul_of_pos_right (Rat.mul_lt_mul_of_pos_right (Rat.mul_lt_mul_of_pos_right
      (score_lt (by omega)) (w_pos.1 e he)) (w_pos.2.1 rl hrl)) (w_pos.2.2 rc hrc)
end
end Proofs.Score2
