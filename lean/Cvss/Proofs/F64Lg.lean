import Cvss.Proofs.F64Decode
/-!
# `F64.lg` is `Nat.log2`

`Base/F64.lean` computes the bit length of a significand with `F64.lg`, a binary search on shifts that the kernel
evaluates with a dozen GMP primitives; `Nat.log2` is not accelerated by the kernel (it unfolds the fuel recursion,
one level per bit).  The two are the same function on every natural number, so `F64.rnd` and `F64.divF` can be
read with `Nat.log2` in place of `lg`.
-/
namespace F64
open F64Order (flet_eq nshr)

theorem flet_eq' {α : Sort u} (x : Nat) (k : Nat → α) : flet x k = k x := flet_eq x k

theorem log2_shift : ∀ (k m : Nat), 2 ^ k ≤ m → Nat.log2 m = Nat.log2 (m / 2 ^ k) + k := by
  intro k
  induction k with
  | zero => intro m _; simp
  | succ k ih =>
    intro m h
    have h2 : 2 ≤ m := by
      have : 2 ^ 1 ≤ 2 ^ (k + 1) := Nat.pow_le_pow_right (by decide) (by omega)
      omega
    have hk : 2 ^ k ≤ m / 2 := by
      rw [Nat.le_div_iff_mul_le (by decide)]
      rw [Nat.pow_succ] at h; exact h
    rw [Nat.log2_def, if_pos h2, ih (m / 2) hk, Nat.div_div_eq_div_mul, Nat.pow_succ, Nat.mul_comm 2]
    omega

theorem lgS_spec (k : Nat) (next : Nat → Nat → Nat)
    (hnext : ∀ m acc, 0 < m → m < 2 ^ k → next m acc = acc + Nat.log2 m) :
    ∀ m acc, 0 < m → m < 2 ^ (k + k) → lgS k next m acc = acc + Nat.log2 m := by
  intro m acc hm hlt
  have hpos : 0 < 2 ^ k := Nat.pow_pos (by decide)
  simp only [lgS, flet_eq, nshr]
  cases hb : Nat.beq (m / 2 ^ k) 0 with
  | true =>
    have h0 : m / 2 ^ k = 0 := Nat.eq_of_beq_eq_true hb
    have : m < 2 ^ k := by
      rcases Nat.lt_or_ge m (2 ^ k) with h | h
      · exact h
      · have := (Nat.le_div_iff_mul_le hpos).2 (by simpa using h : 1 * 2 ^ k ≤ m); omega
    simp only [cond_true]; exact hnext m acc hm this
  | false =>
    have hne : m / 2 ^ k ≠ 0 := fun h => by rw [h] at hb; exact absurd hb (by decide)
    have hge : 2 ^ k ≤ m := by
      rcases Nat.lt_or_ge m (2 ^ k) with h | h
      · exact absurd (Nat.div_eq_of_lt h) hne
      · exact h
    have hlt' : m / 2 ^ k < 2 ^ k := by
      rw [Nat.div_lt_iff_lt_mul hpos, ← Nat.pow_add]; exact hlt
    simp only [cond_false, Nat.add_eq]
    rw [hnext (m / 2 ^ k) (acc + k) (Nat.pos_of_ne_zero hne) hlt', log2_shift k m hge]
    omega

theorem lgEnd_spec : ∀ m acc, 0 < m → m < 2 ^ 1 → lgEnd m acc = acc + Nat.log2 m := by
  intro m acc h0 h1
  have : m = 1 := by omega
  subst this
  have : Nat.log2 1 = 0 := by rw [Nat.log2_def]; simp
  simp [lgEnd, this]

theorem lg_zero : lg 0 = 0 := by decide

set_option exponentiation.threshold 4096 in
theorem lg_eq_log2 (m : Nat) : lg m = Nat.log2 m := by
  rcases Nat.eq_zero_or_pos m with h | hm
  · subst h; rw [lg_zero]; rw [Nat.log2_def]; simp
  have s1 := lgS_spec 1 lgEnd lgEnd_spec
  have s2 := lgS_spec 2 _ s1
  have s4 := lgS_spec 4 _ s2
  have s8 := lgS_spec 8 _ s4
  have s16 := lgS_spec 16 _ s8
  have s32 := lgS_spec 32 _ s16
  have s64 := lgS_spec 64 _ s32
  have s128 := lgS_spec 128 _ s64
  have s256 := lgS_spec 256 _ s128
  have s512 := lgS_spec 512 _ s256
  have s1024 := lgS_spec 1024 _ s512
  have small : ∀ j, Nat.beq (Nat.shiftRight m j) 0 = true → m < 2 ^ j := by
    intro j hb
    have h0 : m / 2 ^ j = 0 := by
      have := Nat.eq_of_beq_eq_true hb
      rwa [nshr] at this
    rcases Nat.lt_or_ge m (2 ^ j) with h | h
    · exact h
    · have hpos : 0 < 2 ^ j := Nat.pow_pos (by decide)
      have := (Nat.le_div_iff_mul_le hpos).2 (by simpa using h : 1 * 2 ^ j ≤ m); omega
  unfold lg
  cases h1 : Nat.beq (Nat.shiftRight m 128) 0 with
  | true =>
    simp only [cond_true]
    exact (s64 m 0 hm (small 128 h1)).trans (Nat.zero_add _)
  | false =>
    simp only [cond_false]
    cases h2 : Nat.beq (Nat.shiftRight m 2048) 0 with
    | true => simp only [cond_true]; exact (s1024 m 0 hm (small 2048 h2)).trans (Nat.zero_add _)
    | false => rfl

theorem rnd_eq_log2 (sbit m e : Nat) :
    rnd sbit m e = flet e fun e => flet m fun m =>
      cond (Nat.beq m 0) sbit (flet (Nat.succ (Nat.log2 m)) (rndB sbit e m)) := by
  simp only [rnd, lg_eq_log2]

end F64
