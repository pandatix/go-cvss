import Cvss.Proofs.Eff30
import Cvss.Proofs.Eff31
import Cvss.Proofs.Eff40
import Cvss.Proofs.EffKeys
/-!
# C10 - environmental scoring depends on every overridable metric only through its effective value

"Environmental scoring (v3 `EnvironmentalScore`, v4 `Score`) depends on each overridable base metric only through
its effective value: the Modified metric when it is defined, the base metric when it is X.  So replacing an X by an
explicit copy of the base value, or changing a base metric that is overridden, never changes that score; v3
`BaseScore`/`TemporalScore` ignore all environmental metrics; an undefined E, RL, RC, CR, IR or AR scores as the
specification's default for it, and v4 supplemental metrics never influence the score."

**Main theorems** (`v30_*`, `v31_*`, `v40_score`): for EVERY pair of well-formed objects, equal key
(`Spec/Effective.lean`: the list of effective value strings) implies equal score.  The scores are compared as
opaque terms; the proofs (`Proofs/Eff30.lean`, `Eff31.lean`, `Eff40.lean`) unfold the generated wrappers and cores:
`score c = core (codes c)` (the core's parameter list is the set of reads), the core uses a base/Modified pair only
as `mod_ base modified` and E/RL/RC/CR/IR/AR only through weight functions (v3) resp. tests (v4) that identify `X`
with the default, and for in-range codes the effective value string determines `mod_ base modified` (a Modified
metric lists `X` and then the values of its base metric: `Proofs/EffLayout.lean`).
v4: `macroVector_core` additionally tests the raw codes `MSI == S`, `MSA == S` (EQ4); since `S` (Safety) exists
only as a Modified value this is the test "effective SI/SA is S" (`Eff40.mod_S`, `pairS_eq`).

The **corollaries** spell the same out with `Set` (which may also fail: then the object is unchanged).
-/
namespace C10
open Model
open Spec (b legal)

abbrev val30 (c : O30) : Bytes → Bytes := fun a => (c.get a).1
abbrev val31 (c : O31) : Bytes → Bytes := fun a => (c.get a).1
abbrev val40 (c : O40) : Bytes → Bytes := fun a => (c.get a).1

/-- **EnvironmentalScore** is a function of the effective values -/
theorem v30_env (c c' : O30) (h : c.wf = true) (h' : c'.wf = true)
    (hk : Spec.V3.envKey (val30 c) = Spec.V3.envKey (val30 c')) : c.environmentalScore = c'.environmentalScore :=
  Eff30.env_eq h h' hk

/-- **BaseScore** is a function of the eight base metrics (no temporal, no environmental metric) -/
theorem v30_base (c c' : O30) (h : c.wf = true) (h' : c'.wf = true)
    (hk : Spec.V3.baseKey (val30 c) = Spec.V3.baseKey (val30 c')) : c.baseScore = c'.baseScore :=
  Eff30.base_eq h h' hk

/-- **TemporalScore** is a function of the base metrics and E, RL, RC with `X` read as the default -/
theorem v30_temporal (c c' : O30) (h : c.wf = true) (h' : c'.wf = true)
    (hk : Spec.V3.temporalKey (val30 c) = Spec.V3.temporalKey (val30 c')) : c.temporalScore = c'.temporalScore :=
  Eff30.temporal_eq h h' hk

/-- the hypotheses are satisfiable by two different objects: `MAV:A` over `AV:N` against `AV:A` with `MAV:X` -/
example : ∃ c c' : O30, c.wf = true ∧ c'.wf = true ∧ c ≠ c' ∧
    Spec.V3.envKey (val30 c) = Spec.V3.envKey (val30 c') ∧ Spec.V3.baseKey (val30 c) ≠ Spec.V3.baseKey (val30 c') :=
  ⟨(O30.zero.set (b "MAV") (b "A")).1, (O30.zero.set (b "AV") (b "A")).1, by decide +kernel⟩

/-- replacing a Modified `X` by an explicit copy of the base value does not change the environmental score … -/
theorem v30_fill (c : O30) (h : c.wf = true) (p : Bytes × Bytes) (hp : p ∈ EffKeys.V3.pairs)
    (hx : (c.get p.2).1 = b "X") :
    (c.set p.2 (c.get p.1).1).1.environmentalScore = c.environmentalScore :=
  EffKeys.set_fill Bits30.contract30 O30.environmentalScore EffKeys.V3.envKey_eq (fun _ _ => Eff30.env_eq) h EffKeys.V3.env_distinct hp hx

/-- … and that `Set` succeeds (a base value is a legal value of the Modified metric) -/
theorem v30_fill_ok (c : O30) (h : c.wf = true) (p : Bytes × Bytes) (hp : p ∈ EffKeys.V3.pairs) :
    (c.set p.2 (c.get p.1).1).2 = Go.errNil :=
  Bits30.contract30.set_ok c _ _ (EffKeys.legal_sub (EffKeys.V3.pairs_ok p hp).2
    (EffKeys.legal_get Bits30.contract30 Bits30.tableOK c h p.1 (EffKeys.V3.pairs_ok p hp).1))

/-- changing a base metric that is overridden does not change the environmental score -/
theorem v30_overridden (c : O30) (h : c.wf = true) (p : Bytes × Bytes) (hp : p ∈ EffKeys.V3.pairs)
    (hx : (c.get p.2).1 ≠ b "X") (v : Bytes) :
    (c.set p.1 v).1.environmentalScore = c.environmentalScore :=
  EffKeys.set_overridden Bits30.contract30 O30.environmentalScore EffKeys.V3.envKey_eq (fun _ _ => Eff30.env_eq) h EffKeys.V3.env_distinct hp hx v

/-- an undefined E, RL, RC, CR, IR, AR scores as its default (E:H, RL:U, RC:C, CR/IR/AR:M) -/
theorem v30_default (c : O30) (h : c.wf = true) (p : Bytes × Bytes)
    (hp : p ∈ EffKeys.V3.tempDefaults ++ EffKeys.V3.reqDefaults) (hx : (c.get p.1).1 = b "X") :
    (c.set p.1 p.2).1.environmentalScore = c.environmentalScore ∧ (c.set p.1 p.2).2 = Go.errNil :=
  ⟨EffKeys.set_default Bits30.contract30 O30.environmentalScore EffKeys.V3.envKey_eq (fun _ _ => Eff30.env_eq) h EffKeys.V3.env_distinct
      (List.mem_append.mpr (List.mem_append.mp hp).symm) hx,
    Bits30.contract30.set_ok c _ _ (EffKeys.V3.defaults_ok p hp)⟩

/-- … also in the temporal score (E, RL, RC) -/
theorem v30_default_temporal (c : O30) (h : c.wf = true) (p : Bytes × Bytes)
    (hp : p ∈ EffKeys.V3.tempDefaults) (hx : (c.get p.1).1 = b "X") :
    (c.set p.1 p.2).1.temporalScore = c.temporalScore :=
  EffKeys.set_default Bits30.contract30 O30.temporalScore EffKeys.V3.temporalKey_eq (fun _ _ => Eff30.temporal_eq) h EffKeys.V3.temporal_distinct hp hx

/-- `BaseScore` ignores every temporal and environmental metric -/
theorem v30_base_ignores (c : O30) (h : c.wf = true) (a : Bytes)
    (ha : a ∈ EffKeys.V3.tempNames ++ EffKeys.V3.envNames) (v : Bytes) : (c.set a v).1.baseScore = c.baseScore :=
  EffKeys.set_ignores Bits30.contract30 O30.baseScore EffKeys.V3.baseKey_eq (fun _ _ => Eff30.base_eq) h (EffKeys.V3.base_unread a ha) v

/-- `TemporalScore` ignores every environmental metric -/
theorem v30_temporal_ignores (c : O30) (h : c.wf = true) (a : Bytes) (ha : a ∈ EffKeys.V3.envNames) (v : Bytes) :
    (c.set a v).1.temporalScore = c.temporalScore :=
  EffKeys.set_ignores Bits30.contract30 O30.temporalScore EffKeys.V3.temporalKey_eq (fun _ _ => Eff30.temporal_eq) h (EffKeys.V3.temporal_unread a ha) v

/-- **EnvironmentalScore** is a function of the effective values -/
theorem v31_env (c c' : O31) (h : c.wf = true) (h' : c'.wf = true)
    (hk : Spec.V3.envKey (val31 c) = Spec.V3.envKey (val31 c')) : c.environmentalScore = c'.environmentalScore :=
  Eff31.env_eq h h' hk

/-- **BaseScore** is a function of the eight base metrics (no temporal, no environmental metric) -/
theorem v31_base (c c' : O31) (h : c.wf = true) (h' : c'.wf = true)
    (hk : Spec.V3.baseKey (val31 c) = Spec.V3.baseKey (val31 c')) : c.baseScore = c'.baseScore :=
  Eff31.base_eq h h' hk

/-- **TemporalScore** is a function of the base metrics and E, RL, RC with `X` read as the default -/
theorem v31_temporal (c c' : O31) (h : c.wf = true) (h' : c'.wf = true)
    (hk : Spec.V3.temporalKey (val31 c) = Spec.V3.temporalKey (val31 c')) : c.temporalScore = c'.temporalScore :=
  Eff31.temporal_eq h h' hk

/-- the hypotheses are satisfiable by two different objects: `MAV:A` over `AV:N` against `AV:A` with `MAV:X` -/
example : ∃ c c' : O31, c.wf = true ∧ c'.wf = true ∧ c ≠ c' ∧
    Spec.V3.envKey (val31 c) = Spec.V3.envKey (val31 c') ∧ Spec.V3.baseKey (val31 c) ≠ Spec.V3.baseKey (val31 c') :=
  ⟨(O31.zero.set (b "MAV") (b "A")).1, (O31.zero.set (b "AV") (b "A")).1, by decide +kernel⟩

/-- replacing a Modified `X` by an explicit copy of the base value does not change the environmental score … -/
theorem v31_fill (c : O31) (h : c.wf = true) (p : Bytes × Bytes) (hp : p ∈ EffKeys.V3.pairs)
    (hx : (c.get p.2).1 = b "X") :
    (c.set p.2 (c.get p.1).1).1.environmentalScore = c.environmentalScore :=
  EffKeys.set_fill Bits31.contract31 O31.environmentalScore EffKeys.V3.envKey_eq (fun _ _ => Eff31.env_eq) h EffKeys.V3.env_distinct hp hx

/-- … and that `Set` succeeds (a base value is a legal value of the Modified metric) -/
theorem v31_fill_ok (c : O31) (h : c.wf = true) (p : Bytes × Bytes) (hp : p ∈ EffKeys.V3.pairs) :
    (c.set p.2 (c.get p.1).1).2 = Go.errNil :=
  Bits31.contract31.set_ok c _ _ (EffKeys.legal_sub (EffKeys.V3.pairs_ok p hp).2
    (EffKeys.legal_get Bits31.contract31 Bits31.tableOK c h p.1 (EffKeys.V3.pairs_ok p hp).1))

/-- changing a base metric that is overridden does not change the environmental score -/
theorem v31_overridden (c : O31) (h : c.wf = true) (p : Bytes × Bytes) (hp : p ∈ EffKeys.V3.pairs)
    (hx : (c.get p.2).1 ≠ b "X") (v : Bytes) :
    (c.set p.1 v).1.environmentalScore = c.environmentalScore :=
  EffKeys.set_overridden Bits31.contract31 O31.environmentalScore EffKeys.V3.envKey_eq (fun _ _ => Eff31.env_eq) h EffKeys.V3.env_distinct hp hx v

/-- an undefined E, RL, RC, CR, IR, AR scores as its default (E:H, RL:U, RC:C, CR/IR/AR:M) -/
theorem v31_default (c : O31) (h : c.wf = true) (p : Bytes × Bytes)
    (hp : p ∈ EffKeys.V3.tempDefaults ++ EffKeys.V3.reqDefaults) (hx : (c.get p.1).1 = b "X") :
    (c.set p.1 p.2).1.environmentalScore = c.environmentalScore ∧ (c.set p.1 p.2).2 = Go.errNil :=
  ⟨EffKeys.set_default Bits31.contract31 O31.environmentalScore EffKeys.V3.envKey_eq (fun _ _ => Eff31.env_eq) h EffKeys.V3.env_distinct
      (List.mem_append.mpr (List.mem_append.mp hp).symm) hx,
    Bits31.contract31.set_ok c _ _ (EffKeys.V3.defaults_ok p hp)⟩

/-- … also in the temporal score (E, RL, RC) -/
theorem v31_default_temporal (c : O31) (h : c.wf = true) (p : Bytes × Bytes)
    (hp : p ∈ EffKeys.V3.tempDefaults) (hx : (c.get p.1).1 = b "X") :
    (c.set p.1 p.2).1.temporalScore = c.temporalScore :=
  EffKeys.set_default Bits31.contract31 O31.temporalScore EffKeys.V3.temporalKey_eq (fun _ _ => Eff31.temporal_eq) h EffKeys.V3.temporal_distinct hp hx

/-- `BaseScore` ignores every temporal and environmental metric -/
theorem v31_base_ignores (c : O31) (h : c.wf = true) (a : Bytes)
    (ha : a ∈ EffKeys.V3.tempNames ++ EffKeys.V3.envNames) (v : Bytes) : (c.set a v).1.baseScore = c.baseScore :=
  EffKeys.set_ignores Bits31.contract31 O31.baseScore EffKeys.V3.baseKey_eq (fun _ _ => Eff31.base_eq) h (EffKeys.V3.base_unread a ha) v

/-- `TemporalScore` ignores every environmental metric -/
theorem v31_temporal_ignores (c : O31) (h : c.wf = true) (a : Bytes) (ha : a ∈ EffKeys.V3.envNames) (v : Bytes) :
    (c.set a v).1.temporalScore = c.temporalScore :=
  EffKeys.set_ignores Bits31.contract31 O31.temporalScore EffKeys.V3.temporalKey_eq (fun _ _ => Eff31.temporal_eq) h (EffKeys.V3.temporal_unread a ha) v

/-- the hypotheses of the corollaries are satisfiable, and the `Set`s in question do change the object -/
example : ∃ (c : O31) (p : Bytes × Bytes), c.wf = true ∧ p ∈ EffKeys.V3.pairs ∧ (c.get p.2).1 = b "X" ∧
    (c.set p.2 (c.get p.1).1).1 ≠ c := ⟨(O31.zero.set (b "AV") (b "A")).1, (b "AV", b "MAV"), by decide +kernel⟩
example : ∃ (c : O31) (p : Bytes × Bytes) (v : Bytes), c.wf = true ∧ p ∈ EffKeys.V3.pairs ∧ (c.get p.2).1 ≠ b "X" ∧
    (c.set p.1 v).1 ≠ c := ⟨(O31.zero.set (b "MAV") (b "A")).1, (b "AV", b "MAV"), b "L", by decide +kernel⟩
example : ∃ (c : O31) (p : Bytes × Bytes), c.wf = true ∧ p ∈ EffKeys.V3.tempDefaults ++ EffKeys.V3.reqDefaults ∧
    (c.get p.1).1 = b "X" ∧ (c.set p.1 p.2).1 ≠ c := ⟨O31.zero, (b "CR", b "M"), by decide +kernel⟩
example : ∃ (c : O31) (a v : Bytes), c.wf = true ∧ a ∈ EffKeys.V3.envNames ∧ (c.set a v).1 ≠ c :=
  ⟨O31.zero, b "MS", b "C", by decide +kernel⟩

/-- **Score** is a function of the effective values (no supplemental metric occurs in the key) -/
theorem v40_score (c c' : O40) (h : c.wf = true) (h' : c'.wf = true)
    (hk : Spec.V4.scoreKey (val40 c) = Spec.V4.scoreKey (val40 c')) : c.score = c'.score :=
  Eff40.score_eq h h' hk

/-- the hypotheses are satisfiable by two different objects: `MSI:S` over `SI:H` against `MSI:S` over `SI:N`, the
    second one with `E:A` spelled out and a supplemental metric set -/
example : ∃ c c' : O40, c.wf = true ∧ c'.wf = true ∧ c ≠ c' ∧
    Spec.V4.scoreKey (val40 c) = Spec.V4.scoreKey (val40 c') :=
  ⟨(O40.zero.set (b "MSI") (b "S")).1,
   ((((O40.zero.set (b "MSI") (b "S")).1.set (b "SI") (b "N")).1.set (b "E") (b "A")).1.set (b "AU") (b "Y")).1,
   by decide +kernel⟩

/-- replacing a Modified `X` by an explicit copy of the base value does not change the score … -/
theorem v40_fill (c : O40) (h : c.wf = true) (p : Bytes × Bytes) (hp : p ∈ EffKeys.V4.pairs)
    (hx : (c.get p.2).1 = b "X") : (c.set p.2 (c.get p.1).1).1.score = c.score :=
  EffKeys.set_fill Proofs.B40.contract40 O40.score EffKeys.V4.scoreKey_eq (fun _ _ => Eff40.score_eq) h EffKeys.V4.score_distinct hp hx

/-- … and that `Set` succeeds -/
theorem v40_fill_ok (c : O40) (h : c.wf = true) (p : Bytes × Bytes) (hp : p ∈ EffKeys.V4.pairs) :
    (c.set p.2 (c.get p.1).1).2 = Go.errNil :=
  Proofs.B40.contract40.set_ok c _ _ (EffKeys.legal_sub (EffKeys.V4.pairs_ok p hp).2
    (EffKeys.legal_get Proofs.B40.contract40 EffKeys.V4.tableOK c h p.1 (EffKeys.V4.pairs_ok p hp).1))

/-- changing a base metric that is overridden does not change the score -/
theorem v40_overridden (c : O40) (h : c.wf = true) (p : Bytes × Bytes) (hp : p ∈ EffKeys.V4.pairs)
    (hx : (c.get p.2).1 ≠ b "X") (v : Bytes) : (c.set p.1 v).1.score = c.score :=
  EffKeys.set_overridden Proofs.B40.contract40 O40.score EffKeys.V4.scoreKey_eq (fun _ _ => Eff40.score_eq) h EffKeys.V4.score_distinct hp hx v

/-- an undefined E, CR, IR, AR scores as its default (E:A, CR/IR/AR:H) -/
theorem v40_default (c : O40) (h : c.wf = true) (p : Bytes × Bytes) (hp : p ∈ EffKeys.V4.defaults)
    (hx : (c.get p.1).1 = b "X") : (c.set p.1 p.2).1.score = c.score ∧ (c.set p.1 p.2).2 = Go.errNil :=
  ⟨EffKeys.set_default Proofs.B40.contract40 O40.score EffKeys.V4.scoreKey_eq (fun _ _ => Eff40.score_eq) h EffKeys.V4.score_distinct hp hx,
   Proofs.B40.contract40.set_ok c _ _ (EffKeys.V4.defaults_ok p hp)⟩

/-- supplemental metrics never influence the score -/
theorem v40_supplemental (c : O40) (h : c.wf = true) (a : Bytes) (ha : a ∈ EffKeys.V4.suppNames) (v : Bytes) :
    (c.set a v).1.score = c.score :=
  EffKeys.set_ignores Proofs.B40.contract40 O40.score EffKeys.V4.scoreKey_eq (fun _ _ => Eff40.score_eq) h (EffKeys.V4.score_unread a ha) v

/-- the hypotheses of the corollaries are satisfiable, and the `Set`s in question do change the object -/
example : ∃ (c : O40) (p : Bytes × Bytes), c.wf = true ∧ p ∈ EffKeys.V4.pairs ∧ (c.get p.2).1 = b "X" ∧
    (c.set p.2 (c.get p.1).1).1 ≠ c := ⟨(O40.zero.set (b "SI") (b "L")).1, (b "SI", b "MSI"), by decide +kernel⟩
example : ∃ (c : O40) (p : Bytes × Bytes) (v : Bytes), c.wf = true ∧ p ∈ EffKeys.V4.pairs ∧ (c.get p.2).1 ≠ b "X" ∧
    (c.set p.1 v).1 ≠ c := ⟨(O40.zero.set (b "MSA") (b "S")).1, (b "SA", b "MSA"), b "L", by decide +kernel⟩
example : ∃ (c : O40) (p : Bytes × Bytes), c.wf = true ∧ p ∈ EffKeys.V4.defaults ∧
    (c.get p.1).1 = b "X" ∧ (c.set p.1 p.2).1 ≠ c := ⟨O40.zero, (b "E", b "A"), by decide +kernel⟩
example : ∃ (c : O40) (a v : Bytes), c.wf = true ∧ a ∈ EffKeys.V4.suppNames ∧ (c.set a v).1 ≠ c :=
  ⟨O40.zero, b "U", b "Red", by decide +kernel⟩

end C10
