import Cvss.Gen.K30
import Cvss.Proofs.NoPanic3Common
import Cvss.Proofs.Score3Codes30
/-!
# No-panic, v3.0: the generated twins on field codes

`Gen/K30.lean` (regenerated from the Go source by `tools/okgen` + `tools/gen`) contains for every function `f` of the package
that can panic a twin `f_ok` that returns `true` exactly when `f` returns normally. Here:
* every twin of a weight helper is *exactly* a range test on its code (`RangeOk`): the `default: panic(...)` of the helper's
  `switch` is its only panic, reached exactly by the codes outside the value table;
* every twin of a method, on codes (`X_ok_core`), is *exactly* the conjunction of the range tests of the codes it reads
  (for `EnvironmentalScore`: of the effective codes `mod base modified`), `NoPanic3.rngImpact` … `rngEnv`, which are `true`
  on codes that are in range.
All proofs unfold the generated definitions; nothing is copied from them.
-/
namespace Proofs.NoPanic30
open Proofs.NoPanic3 GenK30

/-! ## weight helpers: the twin is the range test -/
theorem cia_rng : RangeOk cia_ok 3 := fun v => chain3 v
theorem attackVector_rng : RangeOk attackVector_ok 4 := fun v => chain4 v
theorem attackComplexity_rng : RangeOk attackComplexity_ok 2 := fun v => chain2 v
theorem userInteraction_rng : RangeOk userInteraction_ok 2 := fun v => chain2 v
theorem ciar_rng : RangeOk ciar_ok 4 := fun v => chain4' v
theorem exploitCodeMaturity_rng : RangeOk exploitCodeMaturity_ok 5 := fun v => chain5 v
theorem remediationLevel_rng : RangeOk remediationLevel_ok 5 := fun v => chain5 v
theorem reportConfidence_rng : RangeOk reportConfidence_ok 4 := fun v => chain4'' v
/-- `privilegesRequired` panics exactly on a code outside `N L H`, whatever the scope argument -/
theorem privilegesRequired_rng (scope : Nat) : RangeOk (fun v => privilegesRequired_ok v scope) 3 := by
  intro v
  simp only [privilegesRequired_ok, cond_same]
  exact chain3 v

/-- the generated `mod` is the effective-code function -/
theorem mod_isMod : IsMod mod_ := fun _ _ => rfl

/-! ## methods on codes: exact verdicts -/
theorem impact_core_eq (r0 r1 r2 r3 : Nat) : Impact_ok_core r0 r1 r2 r3 = rngImpact r0 r1 r2 := by
  simp only [Impact_ok_core, flet_eq, cond_same, Bool.true_and, cia_rng _, rngImpact]

theorem exploitability_core_eq (r0 r1 r2 r3 r4 : Nat) : Exploitability_ok_core r0 r1 r2 r3 r4 = rngExpl r0 r1 r2 r4 := by
  simp only [Exploitability_ok_core, flet_eq, Bool.true_and, attackVector_rng _, attackComplexity_rng _,
    userInteraction_rng _, privilegesRequired_rng r3 r2, rngExpl]

theorem baseScore_core_eq (r0 r1 r2 r3 r4 r5 r6 r7 r8 : Nat) :
    BaseScore_ok_core r0 r1 r2 r3 r4 r5 r6 r7 r8 = (rngImpact r0 r1 r2 && rngExpl r4 r5 r6 r8) := by
  simp only [BaseScore_ok_core, flet_eq, cond_same, Bool.true_and, impact_core_eq, exploitability_core_eq]

theorem temporalScore_core_eq (r0 r1 r2 r3 r4 r5 r6 r7 r8 r9 r10 r11 : Nat) :
    TemporalScore_ok_core r0 r1 r2 r3 r4 r5 r6 r7 r8 r9 r10 r11 =
      (rngTemporal r0 r1 r2 && (rngImpact r3 r4 r5 && rngExpl r7 r8 r9 r11)) := by
  simp only [TemporalScore_ok_core, flet_eq, Bool.true_and, baseScore_core_eq, exploitCodeMaturity_rng _,
    remediationLevel_rng _, reportConfidence_rng _, rngTemporal]

/-- codes are named as in `EnvironmentalScore_ok_core`: `r0 r2 r4 r6 r8 r10 r12 r14` = AV AC PR UI S C I A,
    `r1 r3 r5 r7 r9 r11 r13 r15` = MAV MAC MPR MUI MS MC MI MA, `r16 … r21` = CR IR AR E RL RC.
    (The scope codes `r8`, `r9` are not tested: `privilegesRequired` does not panic on any scope.) -/
theorem environmentalScore_core_eq (r0 r1 r2 r3 r4 r5 r6 r7 r8 r9 r10 r11 r12 r13 r14 r15 r16 r17 r18 r19 r20 r21 : Nat) :
    EnvironmentalScore_ok_core r0 r1 r2 r3 r4 r5 r6 r7 r8 r9 r10 r11 r12 r13 r14 r15 r16 r17 r18 r19 r20 r21 =
      rngEnv r16 r17 r18 r19 r20 r21 (mod_ r10 r11) (mod_ r12 r13) (mod_ r14 r15) (mod_ r0 r1) (mod_ r2 r3) (mod_ r4 r5)
        (mod_ r6 r7) := by
  simp only [EnvironmentalScore_ok_core, flet_eq, cond_same, Bool.true_and, cia_rng _, ciar_rng _,
    exploitCodeMaturity_rng _, remediationLevel_rng _, reportConfidence_rng _, attackVector_rng _,
    attackComplexity_rng _, userInteraction_rng _, privilegesRequired_rng (mod_ r8 r9) (mod_ r4 r5), rngEnv, rngImpact,
    rngExpl]

end Proofs.NoPanic30
