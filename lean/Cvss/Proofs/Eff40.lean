import Cvss.Proofs.Bits40
import Cvss.Proofs.EffLayout
/-!
# CVSS v4.0: `Score` depends on the metrics only through their effective values (C10)

The generated `Score` is `Score_core` applied to 26 of the field codes that `Get` decodes (`score_codes`, by unfolding
the generated wrapper; no supplemental code is among them).  By unfolding `Score_core` and `macroVector_core`, each
base/Modified pair is used only as `mod_ base modified` - except that `macroVector_core` also tests the RAW Modified
codes `MSI == 4`, `MSA == 4` (EQ4: "Safety") - and an undefined CR/IR/AR/E (code 0) is treated exactly as code 1
(H/H/H/A), in the severity distances (`crVal == ciar_x → ciar_h`) and in the EQ5/EQ6 tests (`score_congr`, `sc_nX`).
A Modified metric lists `X` and then the values of its base metric in the same order (MSI, MSA one more: `S`); E, CR,
IR, AR list `X` and then the default.  So (`Bits.resolve_inj`) for in-range codes the effective VALUE STRING determines
`mod_ k m`, and, for SI/SA, the test `m == 4` (`S` exists only as a Modified value, so "MSI is S" is the same as "the
effective SI is S"); the string with `X` read as the default determines the code up to `X ≡ code 1`.  Hence equal
`Spec.V4.scoreKey` on two well-formed objects ⇒ equal `Score` (`score_eq`; `Score` stays an opaque term).
-/
namespace Eff40
open Proofs.B40 Model
open Spec (b)

def val (c : O40) : Bytes → Bytes := fun a => (c.get a).1

/-- `X` (code 0) read as the first listed value (code 1): what an undefined E / CR / IR / AR resolves to -/
def nX (v : Nat) : Nat := cond (Nat.beq v 0) 1 v

theorem score_codes (c : O40) : c.score =
    GenV40.Score_core (code 0 c) (code 15 c) (code 1 c) (code 16 c) (code 2 c) (code 17 c) (code 3 c) (code 18 c)
      (code 4 c) (code 19 c) (code 5 c) (code 20 c) (code 8 c) (code 23 c) (code 6 c) (code 21 c)
      (code 9 c) (code 24 c) (code 7 c) (code 22 c) (code 10 c) (code 25 c)
      (code 12 c) (code 13 c) (code 14 c) (code 11 c) := by
  obtain ⟨u0, u1, u2, u3, u4, u5, u6, u7, u8⟩ := c; rfl

theorem mv_pairs {r0 r1 r2 r3 r4 r5 r6 r7 r8 r9 r10 r11 r12 r13 r14 r15 r16 r17 r18 r19 r20 r21 : Nat}
    {s0 s1 s2 s3 s4 s5 s6 s7 s8 s9 s10 s11 s12 s13 s14 s15 s16 s17 s18 s19 s20 s21 : Nat} (e cr ir ar : Nat)
    (hav : GenV40.mod_ r0 r1 = GenV40.mod_ s0 s1) (hac : GenV40.mod_ r2 r3 = GenV40.mod_ s2 s3)
    (hat : GenV40.mod_ r4 r5 = GenV40.mod_ s4 s5) (hpr : GenV40.mod_ r6 r7 = GenV40.mod_ s6 s7)
    (hui : GenV40.mod_ r8 r9 = GenV40.mod_ s8 s9) (hvc : GenV40.mod_ r10 r11 = GenV40.mod_ s10 s11)
    (hsc : GenV40.mod_ r12 r13 = GenV40.mod_ s12 s13) (hvi : GenV40.mod_ r14 r15 = GenV40.mod_ s14 s15)
    (hsi : GenV40.mod_ r17 r16 = GenV40.mod_ s17 s16) (hva : GenV40.mod_ r18 r19 = GenV40.mod_ s18 s19)
    (hsa : GenV40.mod_ r21 r20 = GenV40.mod_ s21 s20)
    (hmsi : Nat.beq r16 4 = Nat.beq s16 4) (hmsa : Nat.beq r20 4 = Nat.beq s20 4) :
    GenV40.macroVector_core r0 r1 r2 r3 r4 r5 r6 r7 r8 r9 r10 r11 r12 r13 r14 r15 r16 r17 r18 r19 r20 r21 e cr ir ar =
    GenV40.macroVector_core s0 s1 s2 s3 s4 s5 s6 s7 s8 s9 s10 s11 s12 s13 s14 s15 s16 s17 s18 s19 s20 s21 e cr ir ar := by
  simp only [GenV40.macroVector_core, flet_eq, hav, hac, hat, hpr, hui, hvc, hsc, hvi, hsi, hva, hsa, hmsi, hmsa]

theorem nX_ext {α} (F : Nat → α) (h : F 0 = F 1) (v : Nat) : F v = F (nX v) := by
  cases v with
  | zero => exact h
  | succ n => rfl

theorem nX_ext4 {α} (F : Nat → Nat → Nat → Nat → α) (h1 : ∀ b c d, F 0 b c d = F 1 b c d)
    (h2 : ∀ a c d, F a 0 c d = F a 1 c d) (h3 : ∀ a b d, F a b 0 d = F a b 1 d) (h4 : ∀ a b c, F a b c 0 = F a b c 1)
    (a b c d : Nat) : F a b c d = F (nX a) (nX b) (nX c) (nX d) :=
  (nX_ext (F · b c d) (h1 b c d) a).trans <| (nX_ext (F (nX a) · c d) (h2 _ c d) b).trans <|
    (nX_ext (F (nX a) (nX b) · d) (h3 _ _ d) c).trans (nX_ext (F (nX a) (nX b) (nX c)) (h4 _ _ _) d)

/-- `macroVector_core` reads an undefined E, CR, IR, AR (`X`, code 0) as the code-1 value (E:A, CR/IR/AR:H) -/
theorem mv_nX (r0 r1 r2 r3 r4 r5 r6 r7 r8 r9 r10 r11 r12 r13 r14 r15 r16 r17 r18 r19 r20 r21 e cr ir ar : Nat) :
    GenV40.macroVector_core r0 r1 r2 r3 r4 r5 r6 r7 r8 r9 r10 r11 r12 r13 r14 r15 r16 r17 r18 r19 r20 r21 e cr ir ar = GenV40.macroVector_core r0 r1 r2 r3 r4 r5 r6 r7 r8 r9 r10 r11 r12 r13 r14 r15 r16 r17 r18 r19 r20 r21 (nX e) (nX cr) (nX ir) (nX ar) :=
  nX_ext4 (GenV40.macroVector_core r0 r1 r2 r3 r4 r5 r6 r7 r8 r9 r10 r11 r12 r13 r14 r15 r16 r17 r18 r19 r20 r21) (fun _ _ _ => by rfl)
    (fun _ _ _ => by rfl) (fun _ _ _ => by rfl) (fun _ _ _ => by rfl) e cr ir ar

/-- `Score_core` (with its call of `macroVector_core`) reads an undefined CR, IR, AR, E as H, H, H, A -/
theorem sc_nX (r0 r1 r2 r3 r4 r5 r6 r7 r8 r9 r10 r11 r12 r13 r14 r15 r16 r17 r18 r19 r20 r21 cr ir ar e : Nat) :
    GenV40.Score_core r0 r1 r2 r3 r4 r5 r6 r7 r8 r9 r10 r11 r12 r13 r14 r15 r16 r17 r18 r19 r20 r21 cr ir ar e = GenV40.Score_core r0 r1 r2 r3 r4 r5 r6 r7 r8 r9 r10 r11 r12 r13 r14 r15 r16 r17 r18 r19 r20 r21 (nX cr) (nX ir) (nX ar) (nX e) :=
  nX_ext4 (GenV40.Score_core r0 r1 r2 r3 r4 r5 r6 r7 r8 r9 r10 r11 r12 r13 r14 r15 r16 r17 r18 r19 r20 r21) (fun _ _ _ => by rfl)
    (fun _ _ _ => by rfl) (fun _ _ _ => by rfl) (fun _ _ _ => by rfl) cr ir ar e

/-- **what `Score` may depend on**, in codes: `Score_core` looks at each base/Modified pair only through
    `mod_ base modified`, plus the tests `MSI == S`, `MSA == S` of EQ4 in `macroVector_core` -/
theorem score_congr {r0 r1 r2 r3 r4 r5 r6 r7 r8 r9 r10 r11 r12 r13 r14 r15 r16 r17 r18 r19 r20 r21 r22 r23 r24 r25 : Nat}
    {s0 s1 s2 s3 s4 s5 s6 s7 s8 s9 s10 s11 s12 s13 s14 s15 s16 s17 s18 s19 s20 s21 s22 s23 s24 s25 : Nat}
    (hav : GenV40.mod_ r0 r1 = GenV40.mod_ s0 s1) (hac : GenV40.mod_ r2 r3 = GenV40.mod_ s2 s3)
    (hat : GenV40.mod_ r4 r5 = GenV40.mod_ s4 s5) (hpr : GenV40.mod_ r6 r7 = GenV40.mod_ s6 s7)
    (hui : GenV40.mod_ r8 r9 = GenV40.mod_ s8 s9) (hvc : GenV40.mod_ r10 r11 = GenV40.mod_ s10 s11)
    (hsc : GenV40.mod_ r12 r13 = GenV40.mod_ s12 s13) (hvi : GenV40.mod_ r14 r15 = GenV40.mod_ s14 s15)
    (hsi : GenV40.mod_ r16 r17 = GenV40.mod_ s16 s17) (hva : GenV40.mod_ r18 r19 = GenV40.mod_ s18 s19)
    (hsa : GenV40.mod_ r20 r21 = GenV40.mod_ s20 s21)
    (hmsi : Nat.beq r17 4 = Nat.beq s17 4) (hmsa : Nat.beq r21 4 = Nat.beq s21 4)
    (hcr : nX r22 = nX s22) (hir : nX r23 = nX s23) (har : nX r24 = nX s24) (he : nX r25 = nX s25) :
    GenV40.Score_core r0 r1 r2 r3 r4 r5 r6 r7 r8 r9 r10 r11 r12 r13 r14 r15 r16 r17 r18 r19 r20 r21 r22 r23 r24 r25 = GenV40.Score_core s0 s1 s2 s3 s4 s5 s6 s7 s8 s9 s10 s11 s12 s13 s14 s15 s16 s17 s18 s19 s20 s21 s22 s23 s24 s25 := by
  rw [sc_nX, sc_nX (cr := s22), hcr, hir, har, he]
  unfold GenV40.Score_core
  rw [hav, hac, hat, hpr, hui, hvc, hsc, hvi, hsi, hva, hsa,
    mv_pairs (nX s25) (nX s22) (nX s23) (nX s24) hav hac hat hpr hui hvc hsc hvi hsi hva hsa hmsi hmsa]

theorem val_code (c : O40) (j : Nat) (hj : j < 32) : val c (abv j) = (gvals j).getD (code j c) [] := by
  simp only [val, get_idx c j hj]

theorem wf_codes {c : O40} (h : c.wf = true) : ∀ j, j < 32 → code j c < nv j := ((wf_iff c).mp h).2.2

/-- metric `jm` lists `X` and then `V` (its `nv jm` values are distinct) -/
abbrev XThen (jm : Nat) (V : List Bytes) : Prop :=
  gvals jm = b "X" :: V ∧ (b "X" :: V).Nodup ∧ nv jm = V.length + 1 ∧ V.length < 256

/-- the Modified metric `j + 15` lists `X` and then the values of the base metric `j` in the same order (MSI and
    MSA one more, `S`) -/
theorem modified_ok : ∀ j, j < 11 → XThen (j + 15) (gvals (j + 15)).tail ∧
    ∀ k, k < nv j → k < (gvals (j + 15)).tail.length ∧ (gvals j).getD k [] = (gvals (j + 15)).tail.getD k [] := by
  decide +kernel

/-- E, CR, IR, AR list `X` first -/
theorem default_ok : ∀ j, j < 4 → XThen (j + 11) (gvals (j + 11)).tail ∧ 0 < (gvals (j + 11)).tail.length := by
  decide +kernel

/-- `S` is the last value of MSI, MSA and no value of SI, SA: the Modified code is `S` iff the effective code is -/
theorem mod_S : ∀ k, k < 3 → ∀ m, m < 5 → Nat.beq m 4 = Nat.beq (GenV40.mod_ k m) 3 := by decide

section Codes
variable {c c' : O40} (h : c.wf = true) (h' : c'.wf = true)
include h h'

/-- the effective value string of the pair (`j`, `j + 15`) determines `mod_ base modified` -/
theorem pair_eq {j : Nat} (hj : j < 11)
    (e : Spec.eff (val c) (abv j) (abv (j + 15)) = Spec.eff (val c') (abv j) (abv (j + 15))) :
    GenV40.mod_ (code j c) (code (j + 15) c) = GenV40.mod_ (code j c') (code (j + 15) c') := by
  obtain ⟨⟨hv, hn, hnv, hl⟩, hb⟩ := modified_ok j hj
  have hk := hb _ (wf_codes h j (by omega))
  have hk' := hb _ (wf_codes h' j (by omega))
  have hm := wf_codes h (j + 15) (by omega)
  have hm' := wf_codes h' (j + 15) (by omega)
  simp only [Spec.eff, val_code _ j (show j < 32 by omega), val_code _ (j + 15) (show j + 15 < 32 by omega), hk.2, hk'.2] at e
  rw [hnv] at hm hm'
  generalize (gvals (j + 15)).tail = V at *
  rw [hv] at e
  exact Bits.resolve_inj (fun _ _ => rfl) hn (Nat.le_of_lt hl) hk.1 hm hk'.1 hm' e

/-- for SI/MSI and SA/MSA it also determines the EQ4 test `Modified == S` that `macroVector_core` makes on the raw
    Modified code -/
theorem pairS_eq {j : Nat} (hj : j < 11) (hn : nv j = 3) (hm : nv (j + 15) = 5)
    (e : Spec.eff (val c) (abv j) (abv (j + 15)) = Spec.eff (val c') (abv j) (abv (j + 15))) :
    Nat.beq (code (j + 15) c) 4 = Nat.beq (code (j + 15) c') 4 := by
  rw [mod_S _ (hn ▸ wf_codes h j (by omega)) _ (hm ▸ wf_codes h (j + 15) (by omega)),
    mod_S _ (hn ▸ wf_codes h' j (by omega)) _ (hm ▸ wf_codes h' (j + 15) (by omega)), pair_eq h h' hj e]

/-- the value string of E, CR, IR, AR (`j + 11`) with `X` read as the default `d` (the first value after `X`)
    determines the code up to `X ≡ code 1` -/
theorem nX_eq {j : Nat} (hj : j < 4) {d : Bytes} (hd : (gvals (j + 11)).tail.getD 0 [] = d)
    (e : Spec.dflt (val c) (abv (j + 11)) d = Spec.dflt (val c') (abv (j + 11)) d) :
    nX (code (j + 11) c) = nX (code (j + 11) c') := by
  obtain ⟨⟨hv, hn, hnv, hl⟩, h0⟩ := default_ok j hj
  have hm := wf_codes h (j + 11) (by omega)
  have hm' := wf_codes h' (j + 11) (by omega)
  simp only [Spec.dflt, val_code _ (j + 11) (show j + 11 < 32 by omega), ← hd] at e
  rw [hnv] at hm hm'
  generalize (gvals (j + 11)).tail = V at *
  rw [hv] at e
  have md : Bits.IsMod GenV40.mod_ := fun _ _ => rfl
  rw [md.factor (w := nX) (i := 0) rfl (Nat.lt_of_lt_of_le hm hl), md.factor (w := nX) (i := 0) rfl (Nat.lt_of_lt_of_le hm' hl),
    Bits.resolve_inj md hn (Nat.le_of_lt hl) h0 hm h0 hm' e]
end Codes

theorem scoreKey_idx (v : Bytes → Bytes) : Spec.V4.scoreKey v =
    [Spec.eff v (abv 0) (abv 15), Spec.eff v (abv 1) (abv 16), Spec.eff v (abv 2) (abv 17),
     Spec.eff v (abv 3) (abv 18), Spec.eff v (abv 4) (abv 19), Spec.eff v (abv 5) (abv 20),
     Spec.eff v (abv 6) (abv 21), Spec.eff v (abv 7) (abv 22), Spec.eff v (abv 8) (abv 23),
     Spec.eff v (abv 9) (abv 24), Spec.eff v (abv 10) (abv 25),
     Spec.dflt v (abv 11) (b "A"), Spec.dflt v (abv 12) (b "H"), Spec.dflt v (abv 13) (b "H"),
     Spec.dflt v (abv 14) (b "H")] := rfl

theorem score_eq {c c' : O40} (h : c.wf = true) (h' : c'.wf = true)
    (hk : Spec.V4.scoreKey (val c) = Spec.V4.scoreKey (val c')) : c.score = c'.score := by
  simp only [scoreKey_idx, List.cons.injEq, and_true] at hk
  obtain ⟨e0, e1, e2, e3, e4, e5, e6, e7, e8, e9, e10, e11, e12, e13, e14⟩ := hk
  rw [score_codes, score_codes]
  have P (j : Nat) (hj : j < 11) := pair_eq h h' hj
  exact score_congr (P 0 (by decide) e0) (P 1 (by decide) e1) (P 2 (by decide) e2) (P 3 (by decide) e3)
    (P 4 (by decide) e4) (P 5 (by decide) e5) (P 8 (by decide) e8) (P 6 (by decide) e6) (P 9 (by decide) e9)
    (P 7 (by decide) e7) (P 10 (by decide) e10)
    (pairS_eq h h' (j := 9) (by decide) rfl rfl e9) (pairS_eq h h' (j := 10) (by decide) rfl rfl e10)
    (nX_eq h h' (j := 1) (by decide) rfl e12) (nX_eq h h' (j := 2) (by decide) rfl e13)
    (nX_eq h h' (j := 3) (by decide) rfl e14) (nX_eq h h' (j := 0) (by decide) rfl e11)

end Eff40
