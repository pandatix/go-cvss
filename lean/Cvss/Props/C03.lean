import Cvss.Proofs.Score3Main30
import Cvss.Proofs.Score3Main31
import Cvss.Proofs.Score3Close30
import Cvss.Proofs.Score3Close31
import Cvss.Proofs.Score3Roundup
/-!
# C03 — v3.0 / v3.1 scores equal the specification equations

For **every** well-formed `CVSS30` / `CVSS31` object (all 573,308,928,000 metric assignments per version):
`BaseScore`, `TemporalScore` and `EnvironmentalScore` of the generated float model return exactly the double
nearest to `k/10`, where `k/10` is the value of the FIRST equations (`Spec/V3.lean`) evaluated over the real
numbers (exact decimals) on the strings that `Get` returns — metric weights, scope-dependent PR weight, the
0.915 MISS cap, the version's own ModifiedImpact formula, the 10 cap, zero when (Modified)Impact ≤ 0, `Roundup` —
and `Impact` / `Exploitability` return a double within 10⁻¹² of the exact (unrounded) sub-score.

Proof (`Proofs/Score3*.lean`): hoisting to the `_core` functions on field codes (definitional); kernel
enumerations of the generated code over (a) the 2,592 base code tuples of each version, (b) the temporal step on
101 tenths × the 48 temporal code triples without `X` (`X` weighs as the top value: `okT_nX`), once, the step being the
same term in both packages, (c) the environmental-inner tuples with requirement codes other than `X`, 69,984 per
version in 16 chunks: all of v3.1's, and v3.0's for a changed Modified Scope, its other half being v3.1's
(`okInner_unchanged`); requirement code `X` weighs as `M` (`Inner_nR`), which covers the 165,888 effective-code
tuples; (d) shape lemmas by unfolding the generated bodies; (e) `wf →` codes in range and
weight-of-the-string-`Get`-returns = weight-of-the-code, `mod` = the Spec's effective value.
-/
namespace Props.C03
open Model Proofs.Score3

/-- the panic marker of the generated code -/
def poison : Nat := 0x7FF8DEAD00000000

/-- `x` is exactly (bit for bit) the double nearest `k/10` with `k ≤ 100`; in particular it is IEEE-equal to it,
    finite, and not the panic marker -/
def IsScore (x k : Nat) : Prop :=
  F64.eq x (F64.tenth k) = true ∧ x = F64.tenth k ∧ k ≤ 100 ∧ F64.isFin x = true ∧ x ≠ poison

theorem isScore_of {x k : Nat} (h : x = F64.tenth k ∧ k ≤ 100) : IsScore x k := by
  obtain ⟨hx, hk⟩ := h
  have t := tenth_fin k (by omega)
  simp only [Bool.and_eq_true, Bool.not_eq_true'] at t
  subst hx
  refine ⟨t.1.1, rfl, hk, t.1.2, fun e => ?_⟩
  have := t.2; rw [e] at this; exact absurd this (by decide)

/-! ## v3.1 -/

theorem base_v31 (c : O31) (h : c.wf = true) :
    IsScore c.baseScore (Spec.V3.baseK true fun a => (c.get a).1) := isScore_of (V31.base_obj c h)
theorem temporal_v31 (c : O31) (h : c.wf = true) :
    IsScore c.temporalScore (Spec.V3.temporalK true fun a => (c.get a).1) := isScore_of (V31.temporal_obj c h)
theorem environmental_v31 (c : O31) (h : c.wf = true) :
    IsScore c.environmentalScore (Spec.V3.environmentalK true fun a => (c.get a).1) := isScore_of (V31.env_obj c h)
/-- `|Impact(c) − Spec impact| ≤ 10⁻¹²` (and finite): `within12` is the exact integer comparison of
    `Proofs/Score3CloseDef.lean` -/
theorem impact_v31 (c : O31) (h : c.wf = true) :
    within12 c.impact (Spec.V3.impact fun a => (c.get a).1) = true := V31.impact_obj c h
theorem exploitability_v31 (c : O31) (h : c.wf = true) :
    within12 c.exploitability (Spec.V3.exploitability fun a => (c.get a).1) = true := V31.exploitability_obj c h

/-! ## v3.0 -/

theorem base_v30 (c : O30) (h : c.wf = true) :
    IsScore c.baseScore (Spec.V3.baseK false fun a => (c.get a).1) := isScore_of (V30.base_obj c h)
theorem temporal_v30 (c : O30) (h : c.wf = true) :
    IsScore c.temporalScore (Spec.V3.temporalK false fun a => (c.get a).1) := isScore_of (V30.temporal_obj c h)
theorem environmental_v30 (c : O30) (h : c.wf = true) :
    IsScore c.environmentalScore (Spec.V3.environmentalK false fun a => (c.get a).1) := isScore_of (V30.env_obj c h)
theorem impact_v30 (c : O30) (h : c.wf = true) :
    within12 c.impact (Spec.V3.impact fun a => (c.get a).1) = true := V30.impact_obj c h
theorem exploitability_v30 (c : O30) (h : c.wf = true) :
    within12 c.exploitability (Spec.V3.exploitability fun a => (c.get a).1) = true := V30.exploitability_obj c h

/-! ## The property in the form of the catalogue: IEEE `==` with the Spec's tenth -/

theorem C03_v31 (c : O31) (h : c.wf = true) :
    F64.eq c.baseScore (F64.tenth (Spec.V3.baseK true fun a => (c.get a).1)) = true ∧
    F64.eq c.temporalScore (F64.tenth (Spec.V3.temporalK true fun a => (c.get a).1)) = true ∧
    F64.eq c.environmentalScore (F64.tenth (Spec.V3.environmentalK true fun a => (c.get a).1)) = true ∧
    within12 c.impact (Spec.V3.impact fun a => (c.get a).1) = true ∧
    within12 c.exploitability (Spec.V3.exploitability fun a => (c.get a).1) = true :=
  ⟨(base_v31 c h).1, (temporal_v31 c h).1, (environmental_v31 c h).1, impact_v31 c h, exploitability_v31 c h⟩

theorem C03_v30 (c : O30) (h : c.wf = true) :
    F64.eq c.baseScore (F64.tenth (Spec.V3.baseK false fun a => (c.get a).1)) = true ∧
    F64.eq c.temporalScore (F64.tenth (Spec.V3.temporalK false fun a => (c.get a).1)) = true ∧
    F64.eq c.environmentalScore (F64.tenth (Spec.V3.environmentalK false fun a => (c.get a).1)) = true ∧
    within12 c.impact (Spec.V3.impact fun a => (c.get a).1) = true ∧
    within12 c.exploitability (Spec.V3.exploitability fun a => (c.get a).1) = true :=
  ⟨(base_v30 c h).1, (temporal_v30 c h).1, (environmental_v30 c h).1, impact_v30 c h, exploitability_v30 c h⟩

/-! ## The hypotheses are satisfiable: a non-trivial well-formed object and its scores -/

/-- `CVSS:3.1/AV:N/AC:L/PR:L/UI:N/S:C/C:L/I:L/A:N/E:F/RL:O/CR:H/MAV:L/MS:C/MC:H` -/
def ex31 : O31 := ⟨10, 178, 130, 12, 9, 0⟩
def ex30 : O30 := ⟨10, 178, 130, 12, 9, 0⟩
example : ex31.wf = true := by decide +kernel
example : ex30.wf = true := by decide +kernel
example : ex31.vector = Spec.b "CVSS:3.1/AV:N/AC:L/PR:L/UI:N/S:C/C:L/I:L/A:N/E:F/RL:O/CR:H/MAV:L/MS:C/MC:H" := by
  decide +kernel
/-- Spec values 6.4 / 5.9 / 8.2, and the model returns exactly those doubles -/
example : (Spec.V3.baseK true fun a => (ex31.get a).1) = 64 ∧ (Spec.V3.temporalK true fun a => (ex31.get a).1) = 59 ∧
    (Spec.V3.environmentalK true fun a => (ex31.get a).1) = 82 := by decide +kernel
example : ex31.baseScore = F64.tenth 64 ∧ ex31.temporalScore = F64.tenth 59 ∧ ex31.environmentalScore = F64.tenth 82 := by
  decide +kernel
example : IsScore ex31.environmentalScore 82 := by
  have := environmental_v31 ex31 (by decide +kernel)
  have e : (Spec.V3.environmentalK true fun a => (ex31.get a).1) = 82 := by decide +kernel
  rwa [e] at this

/-! ## Spec sanity (no code involved) -/

/-- the closed formula of `Spec.V3.Roundup` is the specification's wording: `Roundup x = t` (tenths) is a number with
    one decimal that is `≥ x`, and the least such -/
theorem roundup_is_least_tenth (x : Spec.V3.Dec) :
    x ≤ Spec.V3.tenths (Spec.V3.Roundup x) ∧ ∀ t : Int, x ≤ Spec.V3.tenths t → Spec.V3.Roundup x ≤ t :=
  ⟨Roundup_ge x, Roundup_le x⟩

/-! ## Appendix A of v3.1 (integer `Roundup`) never differs from the real-number `Roundup` on an argument the
equations produce: see `Proofs.Score3.V31.appendixA_base`, `appendixA_temporal`, `appendixA_inner`
(and `V30.appendixA_inner` for the v3.0 ModifiedImpact formula). -/

end Props.C03
