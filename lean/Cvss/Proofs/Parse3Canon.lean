import Cvss.Proofs.Parse3Loop
/-!
# v3 parser proofs: the canonical spelling (`Spec.canonPairs`, `Spec.V3.canonical`)

`canonPairs` turns every "good" pair list (every metric reads as one of its legal values) into a witness list with
the same readings. The two sources of good lists: witness lists themselves, and `K.pairs c` of a well-formed object.
-/
namespace Proofs.Parse3
open Spec (Bytes Pair Metric render joinSlash legal isMetric findMetric abvs valueOf allLegal SLASH COLON canonPairs)
open Proofs.Table

variable {O : Type}

theorem canonical_congr (hdr : Bytes) (w₁ w₂ : List Pair)
    (h : ∀ m ∈ Spec.V3.metrics, valueOf Spec.V3.metrics w₁ m.abv = valueOf Spec.V3.metrics w₂ m.abv) :
    Spec.V3.canonical hdr w₁ = Spec.V3.canonical hdr w₂ := by
  unfold Spec.V3.canonical
  rw [canonPairs_congr h]

/-- every metric reads as one of its legal values -/
def Good (w : List Pair) : Prop := ∀ m ∈ Spec.V3.metrics, valueOf Spec.V3.metrics w m.abv ∈ m.values

theorem isWit_canonPairs (w : List Pair) (hg : Good w) : IsWit (canonPairs Spec.V3.metrics w) :=
  IsWit.of_complete (complete_canonPairs good hg)

theorem good_of_isWit (w : List Pair) (hw : IsWit w) : Good w := fun _ hm => hw.complete.valueOf_mem good hm

theorem good_pairs (K : Contract O Spec.V3.metrics) (c : O) (hc : K.WF c) : Good (K.pairs c) :=
  fun _ hm => K.valueOf_pairs_mem good.nodup hc hm

theorem canonical_witness (hdr : Bytes) (w : List Pair) (hg : Good w) :
    Spec.V3.Witness hdr (Spec.V3.canonical hdr w) (canonPairs Spec.V3.metrics w) :=
  (witness_iff _ _ _).mpr ⟨rfl, isWit_canonPairs w hg⟩

theorem parse3_canonical_pairs (K : Contract O Spec.V3.metrics) (hdr : Bytes) (c : O) (hc : K.WF c) :
    Model.parse3 (hdr ++ [SLASH]) K.zero K.set (Spec.V3.canonical hdr (K.pairs c)) = .ok c := by
  have hw := isWit_canonPairs _ (good_pairs K c hc)
  unfold Spec.V3.canonical
  rw [parse3_witness K hdr _ hw,
    K.setAll_eq good hc hw.complete fun m hm => by rw [valueOf_canonPairs good.nodup _ hm, K.valueOf_pairs good.nodup c hm]]

end Proofs.Parse3
