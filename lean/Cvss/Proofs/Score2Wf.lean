import Cvss.Proofs.Score2Defs
import Cvss.Proofs.Bits20
/-!
# C05 helpers: a well-formed v2.0 object in terms of its 14 metric codes

`cAV c … cAR c` are the bit fields of the object, the entries of `Bits20.codes c`. Every generated method of
`CVSS20` is, by unfolding (`rfl`), its `_core` applied to these codes — for `Get` and for the score functions
alike, so a score function reading a field at another position than `Get` does breaks an `rfl` here. `wf c` forces
every code into the range of legal codes, and two well-formed objects that read alike under `Get` hold the same
code (`Bits20`: code `r` of metric `j` reads as the `r`-th of the distinct strings `Bits20.vals j`).
-/
namespace Proofs.Score2
open Spec (b Bytes)
open Model

def cAV (c : O20) : Nat := Nat.shiftRight (Nat.land c.u0 192) 6
def cAC (c : O20) : Nat := Nat.shiftRight (Nat.land c.u0 48) 4
def cAu (c : O20) : Nat := Nat.shiftRight (Nat.land c.u0 12) 2
def cC (c : O20) : Nat := Nat.land c.u0 3
def cI (c : O20) : Nat := Nat.shiftRight (Nat.land c.u1 192) 6
def cA (c : O20) : Nat := Nat.shiftRight (Nat.land c.u1 48) 4
def cE (c : O20) : Nat := Nat.shiftRight (Nat.land c.u1 14) 1
def cRL (c : O20) : Nat := Nat.lor (Nat.mod (Nat.shiftLeft (Nat.land c.u1 1) 2) 256) (Nat.shiftRight (Nat.land c.u2 192) 6)
def cRC (c : O20) : Nat := Nat.shiftRight (Nat.land c.u2 48) 4
def cCDP (c : O20) : Nat := Nat.shiftRight (Nat.land c.u2 14) 1
def cTD (c : O20) : Nat := Nat.lor (Nat.mod (Nat.shiftLeft (Nat.land c.u2 1) 2) 256) (Nat.shiftRight (Nat.land c.u3 192) 6)
def cCR (c : O20) : Nat := Nat.shiftRight (Nat.land c.u3 48) 4
def cIR (c : O20) : Nat := Nat.shiftRight (Nat.land c.u3 12) 2
def cAR (c : O20) : Nat := Nat.land c.u3 3

theorem get_codes (c : O20) (a : Spec.Bytes) : c.get a = GenV20.Get_core (cAV c) (cAC c) (cAu c) (cC c) (cI c) (cA c) (cE c) (cRL c) (cRC c) (cCDP c) (cTD c) (cCR c) (cIR c) (cAR c) a := rfl
theorem baseScore_codes (c : O20) : c.baseScore = GenV20.BaseScore_core (cC c) (cI c) (cA c) (cAV c) (cAC c) (cAu c) := rfl
theorem temporalScore_codes (c : O20) : c.temporalScore = GenV20.TemporalScore_core (cE c) (cRL c) (cRC c) (cC c) (cI c) (cA c) (cAV c) (cAC c) (cAu c) := rfl
theorem environmentalScore_codes (c : O20) : c.environmentalScore = GenV20.EnvironmentalScore_core (cC c) (cI c) (cA c) (cCR c) (cIR c) (cAR c) (cAV c) (cAC c) (cAu c) (cE c) (cRL c) (cRC c) (cCDP c) (cTD c) := rfl
theorem impact_codes (c : O20) : c.impact = GenV20.Impact_core (cC c) (cI c) (cA c) := rfl
theorem exploitability_codes (c : O20) : c.exploitability = GenV20.Exploitability_core (cAV c) (cAC c) (cAu c) := rfl

theorem get_AV (c : O20) : c.get (b "AV") = GenV20.Get_core (cAV c) 0 0 0 0 0 0 0 0 0 0 0 0 0 (b "AV") := rfl
theorem get_AC (c : O20) : c.get (b "AC") = GenV20.Get_core 0 (cAC c) 0 0 0 0 0 0 0 0 0 0 0 0 (b "AC") := rfl
theorem get_Au (c : O20) : c.get (b "Au") = GenV20.Get_core 0 0 (cAu c) 0 0 0 0 0 0 0 0 0 0 0 (b "Au") := rfl
theorem get_C (c : O20) : c.get (b "C") = GenV20.Get_core 0 0 0 (cC c) 0 0 0 0 0 0 0 0 0 0 (b "C") := rfl
theorem get_I (c : O20) : c.get (b "I") = GenV20.Get_core 0 0 0 0 (cI c) 0 0 0 0 0 0 0 0 0 (b "I") := rfl
theorem get_A (c : O20) : c.get (b "A") = GenV20.Get_core 0 0 0 0 0 (cA c) 0 0 0 0 0 0 0 0 (b "A") := rfl
theorem get_E (c : O20) : c.get (b "E") = GenV20.Get_core 0 0 0 0 0 0 (cE c) 0 0 0 0 0 0 0 (b "E") := rfl
theorem get_RL (c : O20) : c.get (b "RL") = GenV20.Get_core 0 0 0 0 0 0 0 (cRL c) 0 0 0 0 0 0 (b "RL") := rfl
theorem get_RC (c : O20) : c.get (b "RC") = GenV20.Get_core 0 0 0 0 0 0 0 0 (cRC c) 0 0 0 0 0 (b "RC") := rfl
theorem get_CDP (c : O20) : c.get (b "CDP") = GenV20.Get_core 0 0 0 0 0 0 0 0 0 (cCDP c) 0 0 0 0 (b "CDP") := rfl
theorem get_TD (c : O20) : c.get (b "TD") = GenV20.Get_core 0 0 0 0 0 0 0 0 0 0 (cTD c) 0 0 0 (b "TD") := rfl
theorem get_CR (c : O20) : c.get (b "CR") = GenV20.Get_core 0 0 0 0 0 0 0 0 0 0 0 (cCR c) 0 0 (b "CR") := rfl
theorem get_IR (c : O20) : c.get (b "IR") = GenV20.Get_core 0 0 0 0 0 0 0 0 0 0 0 0 (cIR c) 0 (b "IR") := rfl
theorem get_AR (c : O20) : c.get (b "AR") = GenV20.Get_core 0 0 0 0 0 0 0 0 0 0 0 0 0 (cAR c) (b "AR") := rfl

theorem codes_eq (c : O20) : Bits20.codes c =
    [cAV c, cAC c, cAu c, cC c, cI c, cA c, cE c, cRL c, cRC c, cCDP c, cTD c, cCR c, cIR c, cAR c] := by
  cases c; rfl

theorem code_lt (c : O20) (h : c.wf = true) {j : Nat} (hj : j < 14) :
    (Bits20.codes c).getD j 0 < (Bits20.vals j).length :=
  ((Bits20.layout.wf_iff Bits20.tableOK c).1 h).2.2 j hj

theorem vals_length : ∀ j, j < 14 → (Bits20.vals j).length = [3, 3, 3, 3, 3, 3, 5, 5, 4, 6, 5, 4, 4, 4].getD j 0 := by
  decide

theorem code_congr (c c' : O20) (h : c.wf = true) (h' : c'.wf = true) {j : Nat} (hj : j < 14)
    (e : c.get (Bits.mAt Bits20.ms j).abv = c'.get (Bits.mAt Bits20.ms j).abv) :
    [cAV c, cAC c, cAu c, cC c, cI c, cA c, cE c, cRL c, cRC c, cCDP c, cTD c, cCR c, cIR c, cAR c].getD j 0 =
    [cAV c', cAC c', cAu c', cC c', cI c', cA c', cE c', cRL c', cRC c', cCDP c', cTD c', cCR c', cIR c', cAR c'].getD j 0 := by
  rw [Bits20.get_known j hj, Bits20.get_known j hj] at e
  rw [← codes_eq, ← codes_eq]
  exact Bits.nodup_getD_inj [] _ _ _ (Bits20.vals_nodup j hj) (code_lt c h hj) (code_lt c' h' hj) (congrArg Prod.fst e)

theorem codeEq_CDP (c c' : O20) (h : c.wf = true) (h' : c'.wf = true) (e : c.get (b "CDP") = c'.get (b "CDP")) :
    cCDP c = cCDP c' := code_congr c c' h h' (j := 9) (by decide) e
theorem codeEq_TD (c c' : O20) (h : c.wf = true) (h' : c'.wf = true) (e : c.get (b "TD") = c'.get (b "TD")) :
    cTD c = cTD c' := code_congr c c' h h' (j := 10) (by decide) e
theorem codeEq_CR (c c' : O20) (h : c.wf = true) (h' : c'.wf = true) (e : c.get (b "CR") = c'.get (b "CR")) :
    cCR c = cCR c' := code_congr c c' h h' (j := 11) (by decide) e
theorem codeEq_IR (c c' : O20) (h : c.wf = true) (h' : c'.wf = true) (e : c.get (b "IR") = c'.get (b "IR")) :
    cIR c = cIR c' := code_congr c c' h h' (j := 12) (by decide) e
theorem codeEq_AR (c c' : O20) (h : c.wf = true) (h' : c'.wf = true) (e : c.get (b "AR") = c'.get (b "AR")) :
    cAR c = cAR c' := code_congr c c' h h' (j := 13) (by decide) e

structure InRange (c : O20) : Prop where
  hAV : cAV c < 3
  hAC : cAC c < 3
  hAu : cAu c < 3
  hC : cC c < 3
  hI : cI c < 3
  hA : cA c < 3
  hE : cE c < 5
  hRL : cRL c < 5
  hRC : cRC c < 4
  hCDP : cCDP c < 6
  hTD : cTD c < 5
  hCR : cCR c < 4
  hIR : cIR c < 4
  hAR : cAR c < 4
theorem wf_inRange (c : O20) (h : c.wf = true) : InRange c := by
  have lt := fun j (hj : j < 14) => vals_length j hj ▸ codes_eq c ▸ code_lt c h hj
  exact ⟨lt 0 (by decide), lt 1 (by decide), lt 2 (by decide), lt 3 (by decide), lt 4 (by decide), lt 5 (by decide),
    lt 6 (by decide), lt 7 (by decide), lt 8 (by decide), lt 9 (by decide), lt 10 (by decide), lt 11 (by decide),
    lt 12 (by decide), lt 13 (by decide)⟩
end Proofs.Score2
