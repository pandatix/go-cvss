import Cvss.Proofs.GenParseBase
import Cvss.Gen.P40
/-!
# The regenerated v4.0 parser equals the hand-written model

`GenP40.ParseVector` (translated from `/repo/40/cvss40.go` by `tools/gen`, parser mode) is proved equal, on **every**
byte string (any `List Nat`), to `Model.parse40`:

* the pair `(slci, orderi)` of the Go code is a position in the regenerated table `GenV40.tbl_order`; `At` relates it
  to what `Model.flatOrder` has left at that position;
* `walk_spec` — the inner `for { … }` (run with the translator's fuel 64) computes `Model.walk4` and never runs
  out of fuel;
* `loop_inv` — loop invariant of `for i := 1; i <= len(vector); i++`: at position `|pre| + 1 + |seg|` with
  `cut = |pre|` and `vector[cut] = '/'`, what remains is `Model.loop4` on `splitSlash (seg ++ rest)`.
-/
namespace GenParse40
open Model GenParse

abbrev ord40 : List (List Bytes) := GenV40.tbl_order

/-- `orderi++; if orderi == len(order[slci]) { slci++; orderi = 0 }`, with `n = len(order[slci])` -/
def nextPos (n s o : Nat) : Nat × Nat := cond (Nat.beq (o + 1) n) (s + 1, 0) (s, o + 1)

/-- `(s, o)` is a position in `ord` (at an entry `e`, or the end position `(len(order), 0)`), and `rem` is what
    `Model.flatOrder ord` has left there -/
def At (ord : List (List Bytes)) (s o : Nat) (rem : List (Bool × Bytes)) : Prop :=
  (∃ gs g e g' gs', ord = gs ++ (g ++ e :: g') :: gs' ∧ s = gs.length ∧ o = g.length ∧
    rem = (e :: g').map (fun a => (Nat.beq s 0, a)) ++ gs'.flatten.map (fun a => (false, a))) ∨
  (s = ord.length ∧ o = 0 ∧ rem = [])

theorem at_start : At ord40 0 0 (flatOrder GenV40.tbl_order) :=
  Or.inl ⟨[], [], _, _, _, rfl, rfl, rfl, rfl⟩

section Positions
variable {ord : List (List Bytes)} {s o : Nat} {rem : List (Bool × Bytes)}

theorem At.nil (h : At ord s o []) : s = ord.length ∧ o = 0 := by
  rcases h with ⟨gs, g, e, g', gs', -, -, -, h⟩ | ⟨h1, h2, -⟩
  · simp at h
  · exact ⟨h1, h2⟩

/-- at an entry the two table lookups of the Go code succeed, and the next position is a position for the rest
    (a group is never empty, so the position after a group's last entry is the first of the next group, or the end) -/
theorem At.cons {x : Bool × Bytes} (hne : ∀ g ∈ ord, g ≠ []) (h : At ord s o (x :: rem)) :
    ∃ g e, ord[s]? = some g ∧ g[o]? = some e ∧ x = (Nat.beq s 0, e) ∧
      At ord (nextPos g.length s o).1 (nextPos g.length s o).2 rem := by
  rcases h with ⟨gs, g, e, g', gs', rfl, rfl, rfl, h⟩ | ⟨-, -, h⟩
  · simp only [List.map_cons, List.cons_append, List.cons.injEq] at h
    obtain ⟨rfl, rfl⟩ := h
    refine ⟨g ++ e :: g', e, by simp, by simp, rfl, ?_⟩
    cases g' with
    | cons e' g'' =>
      have hn : Nat.beq (g.length + 1) (g ++ e :: e' :: g'').length = false := GenParse.beq_false (by simp)
      simp only [nextPos, hn, cond_false]
      exact Or.inl ⟨gs, g ++ [e], e', g'', gs', by simp, rfl, by simp, rfl⟩
    | nil =>
      have hn : Nat.beq (g.length + 1) (g ++ [e]).length = true := beq_true (by simp)
      simp only [nextPos, hn, cond_true]
      cases gs' with
      | nil => exact Or.inr ⟨by simp, rfl, rfl⟩
      | cons g1 gs1 =>
        obtain ⟨e1, g1', rfl⟩ := List.exists_cons_of_ne_nil (hne g1 (by simp))
        have hb : Nat.beq (gs.length + 1) 0 = false := rfl
        exact Or.inl ⟨gs ++ [g ++ [e]], [], e1, g1', gs1, by simp, by simp, rfl, by simp [hb]⟩
  · cases h

/-- `slci == 0` after the scan says that entries of the first group are left -/
theorem At.any (hord : ord ≠ []) (h : At ord s o rem) : rem.any (·.1) = Nat.beq s 0 := by
  rcases h with ⟨gs, g, e, g', gs', -, -, -, rfl⟩ | ⟨rfl, -, rfl⟩
  · cases Nat.beq s 0 <;> simp [List.any_map, Function.comp_def]
  · exact (GenParse.beq_false (by simpa using hord)).symm

theorem At.length_le (h : At ord s o rem) : rem.length ≤ ord.flatten.length := by
  rcases h with ⟨gs, g, e, g', gs', rfl, -, -, rfl⟩ | ⟨-, -, rfl⟩
  · simp only [List.length_append, List.length_map, List.flatten_append, List.flatten_cons, List.length_cons]
    omega
  · exact Nat.zero_le _

end Positions

theorem ord40_zero : ord40[0]? = some (ord40.getD 0 []) := by decide +kernel

abbrev T9 := Nat × Nat × Nat × Nat × Nat × Nat × Nat × Nat × Nat
abbrev R4 := Go.Res T9

theorem strEq_eq (a b : Bytes) : Go.strEq a b = decide (a = b) := rfl

/-- one iteration at the entry `e = order[s][o]` -/
theorem for2_step (abv : Bytes) {s o : Nat} {g : List Bytes} {e : Bytes} (h1 : ord40[s]? = some g)
    (h2 : g[o]? = some e) :
    GenP40.ParseVector_for2 abv (o, s) =
      cond (Nat.beq s 0 && !Go.strEq abv e)
        (.ret (.err eOrder))
        (cond (Go.strEq abv e)
          (.brk ((nextPos g.length s o).2, (nextPos g.length s o).1))
          (.next ((nextPos g.length s o).2, (nextPos g.length s o).1))) := by
  have hne : Nat.beq s (List.length GenV40.tbl_order) = false :=
    beq_false (Nat.ne_of_lt (List.getElem?_eq_some_iff.mp h1).1)
  simp only [GenP40.ParseVector_for2]
  cases h0 : Nat.beq s 0
  · simp only [cond_false, Bool.false_and, Bool.false_or, hne]
    rw [index_some h1, index_some h2, index_some h1]
    simp only [nextPos]
  · have hs : s = 0 := Nat.eq_of_beq_eq_true h0
    subst hs
    simp only [cond_true, Bool.true_and]
    rw [index_some h1, index_some h2]
    simp only [hne, Bool.or_false]
    cases hq : Go.strEq abv e
    · simp only [Bool.not_false, cond_true, eOrder]
    · simp only [Bool.not_true, cond_false]
      rw [index_some h1, index_some h2, index_some h1]
      simp only [nextPos, hq]

theorem for2_end (abv : Bytes) : GenP40.ParseVector_for2 abv (0, ord40.length) = .ret (.err eOrder) := by
  have h1 : Nat.beq ord40.length 0 = false := by decide +kernel
  simp only [GenP40.ParseVector_for2, h1, cond_false, Nat.beq_refl, Bool.or_true, cond_true, eOrder]

theorem ord40_groups : ∀ g ∈ ord40, g ≠ [] := by decide

/-- **the inner loop is `Model.walk4`**; the fuel is never exhausted -/
theorem walk_spec (abv : Bytes) (cnd : Nat × Nat → Bool) (post : Nat × Nat → Nat × Nat)
    (hcnd : ∀ st, cnd st = true) (hpost : ∀ st, post st = st) (rem : List (Bool × Bytes)) :
    ∀ (s o fuel : Nat), At ord40 s o rem → rem.length + 1 ≤ fuel →
    match walk4 rem abv with
    | none => Go.forN fuel (o, s) cnd post (GenP40.ParseVector_for2 abv) = .ret (.err eOrder)
    | some rem' => ∃ s' o', At ord40 s' o' rem' ∧
        Go.forN fuel (o, s) cnd post (GenP40.ParseVector_for2 abv) = .done (o', s') := by
  induction rem with
  | nil =>
    intro s o fuel hat hf
    obtain ⟨n, rfl⟩ : ∃ n, fuel = n + 1 := ⟨fuel - 1, by omega⟩
    obtain ⟨rfl, rfl⟩ := hat.nil
    simp only [walk4]
    rw [forN_ret (h := hcnd _) (hb := for2_end abv)]
  | cons x rem' ih =>
    intro s o fuel hat hf
    obtain ⟨n, rfl⟩ : ∃ n, fuel = n + 1 := ⟨fuel - 1, by omega⟩
    obtain ⟨g, e, h1, h2, rfl, hnext⟩ := hat.cons ord40_groups
    have hb := for2_step abv h1 h2
    simp only [walk4]
    cases hq : Go.strEq abv e
    · have hne : abv ≠ e := by simpa [strEq_eq] using hq
      cases h0 : Nat.beq s 0
      · simp only [hq, h0, Bool.false_and, cond_false] at hb
        simp only [hne, ne_eq, not_false_eq_true, decide_true, Bool.and_true, if_false, Bool.false_eq_true]
        rw [forN_next (h := hcnd _) (hb := hb), hpost]
        exact ih _ _ n hnext (by simp at hf; omega)
      · simp only [hq, h0, Bool.true_and, Bool.not_false, cond_true] at hb
        simp only [hne, ne_eq, not_false_eq_true, decide_true, Bool.and_true, if_true]
        rw [forN_ret (h := hcnd _) (hb := hb)]
    · have he : abv = e := by simpa [strEq_eq] using hq
      simp only [hq, Bool.not_true, Bool.and_false, cond_false, cond_true] at hb
      simp only [← he, ne_eq, not_true_eq_false, decide_false, Bool.and_false, if_false, Bool.false_eq_true, if_true]
      refine ⟨_, _, hnext, ?_⟩
      rw [forN_brk (h := hcnd _) (hb := hb)]

abbrev St4 := Nat × Nat × Nat × Nat × Nat × Nat × Nat × Nat × Nat × Nat × Nat × Nat × Nat

/-- loop state `(i, cut, orderi, slci, u0 … u8)` -/
def st4 (i cut slci orderi : Nat) (c : O40) : St4 :=
  (i, cut, orderi, slci, c.u0, c.u1, c.u2, c.u3, c.u4, c.u5, c.u6, c.u7, c.u8)

def tup9 (c : O40) : T9 := (c.u0, c.u1, c.u2, c.u3, c.u4, c.u5, c.u6, c.u7, c.u8)

def dec40 : T9 → O40 | (a, b, c, d, e, f, g, h, i) => ⟨a, b, c, d, e, f, g, h, i⟩

/-- what `ParseVector` does with the value of the scan: `slci == 0` is "the first group is incomplete" -/
def after4 : Go.Loop St4 R4 → R4
  | .ret r => r
  | .fuel => .panic
  | .done (_, _, _, slci, u0, u1, u2, u3, u4, u5, u6, u7, u8) =>
    cond (Nat.beq slci 0) (.err eTooShort) (.ok (u0, u1, u2, u3, u4, u5, u6, u7, u8))

theorem errBeq_eq (e : Go.Err) : Go.Err.beq e Go.errNil = decide (e = Go.errNil) := rfl

/-- what the loop body does when position `i = |pre| + |'/' :: seg|` is the end of the string or holds a `/`:
    the element is `vector[cut:i] = '/' :: seg` -/
theorem elem40 (v pre seg rest : Bytes) (c : O40) (s o : Nat) (rem : List (Bool × Bytes))
    (hv : v = pre ++ 47 :: seg ++ rest) (hat : At ord40 s o rem) (hsep : rest = [] ∨ ∃ ys, rest = 47 :: ys) :
    match walk4 rem (cutColon seg).1 with
    | none => GenP40.ParseVector_for1 v (st4 (pre.length + (47 :: seg).length) pre.length s o c)
        = .ret (.err eOrder)
    | some rem' => ∃ s' o', At ord40 s' o' rem' ∧
        GenP40.ParseVector_for1 v (st4 (pre.length + (47 :: seg).length) pre.length s o c)
        = (match O40.set c (cutColon seg).1 (cutColon seg).2 with
           | (c', e) => cond (Go.Err.beq e Go.errNil)
               (.next (st4 (pre.length + (47 :: seg).length) (pre.length + (47 :: seg).length) s' o' c'))
               (.ret (.err e))) := by
  obtain ⟨u0, u1, u2, u3, u4, u5, u6, u7, u8⟩ := c
  have hle : pre.length + (47 :: seg).length ≤ v.length := by simp [hv]
  -- the test `i != len(vector) && vector[i] != '/'`
  have hc2 : (cond (!(Nat.beq (pre.length + (47 :: seg).length) (List.length v)))
      (Go.index v (pre.length + (47 :: seg).length) none fun t1 => some (!(Nat.beq t1 47)))
      (some false) : Option Bool) = some false := by
    rcases hsep with rfl | ⟨ys, rfl⟩
    · have : pre.length + (47 :: seg).length = v.length := by simp [hv]
      simp only [this, Nat.beq_refl, Bool.not_true, cond_false]
    · have hne : pre.length + (47 :: seg).length ≠ v.length := by simp [hv]
      have hix : v[pre.length + (47 :: seg).length]? = some 47 := by rw [hv]; exact getElem?_at pre (47 :: seg) 47 ys
      simp only [GenParse.beq_false hne, Bool.not_false, cond_true]
      rw [index_some hix]
      rfl
  have hsl : ∀ (p : Go.Ctl St4 R4) (k : Bytes → Go.Ctl St4 R4),
      Go.slice v pre.length (pre.length + (47 :: seg).length) p k = k (47 :: seg) := by
    intro p k
    rw [slice_ok v (by omega) hle, hv, take_drop_seg]
  have hp : Go.hasPrefix (47 :: seg) [47] = true := by simp [Go.hasPrefix, List.isPrefixOf]
  have hfuel : rem.length + 1 ≤ 64 := by
    have h32 : ord40.flatten.length = 32 := by decide
    have := hat.length_le
    omega
  have hw := walk_spec (cutColon seg).1 (fun _ => true) (fun st => st) (fun _ => rfl) (fun _ => rfl) rem s o 64 hat hfuel
  -- the body in terms of the value `F` of the inner loop
  have hred : ∀ (F : Go.Loop (Nat × Nat) R4),
      Go.forN 64 (o, s) (fun _ => true) (fun st => st) (GenP40.ParseVector_for2 (cutColon seg).1) = F →
      GenP40.ParseVector_for1 v (st4 (pre.length + (47 :: seg).length) pre.length s o
        ⟨u0, u1, u2, u3, u4, u5, u6, u7, u8⟩) =
      (match F with
       | Go.Loop.ret r => Go.Ctl.ret r
       | Go.Loop.fuel => Go.Ctl.ret Go.Res.panic
       | Go.Loop.done (o', s') =>
         match O40.set ⟨u0, u1, u2, u3, u4, u5, u6, u7, u8⟩ (cutColon seg).1 (cutColon seg).2 with
         | (c', e) => cond (Go.Err.beq e Go.errNil)
             (.next (st4 (pre.length + (47 :: seg).length) (pre.length + (47 :: seg).length) s' o' c'))
             (.ret (.err e))) := by
    intro F hF
    simp only [st4, GenP40.ParseVector_for1]
    rw [hc2]
    simp only [cond_false, blt_false hle]
    rw [hsl]
    simp only [hp, Bool.not_true, cond_false]
    rw [sliceFrom_ok _ (by simp)]
    simp only [List.drop_succ_cons, List.drop_zero, cut_colon]
    rw [hF]
    cases F with
    | ret r => rfl
    | fuel => rfl
    | done st =>
      obtain ⟨o', s'⟩ := st
      simp only [O40.set]
      generalize GenV40.Set u0 u1 u2 u3 u4 u5 u6 u7 u8 (cutColon seg).1 (cutColon seg).2 = r
      obtain ⟨a0, a1, a2, a3, a4, a5, a6, a7, a8, e⟩ := r
      cases he : Go.Err.beq e Go.errNil <;> simp
  cases hwk : walk4 rem (cutColon seg).1 with
  | none =>
    rw [hwk] at hw
    exact hred _ hw
  | some rem' =>
    rw [hwk] at hw
    obtain ⟨s', o', hat', hF⟩ := hw
    exact ⟨s', o', hat', hred _ hF⟩

/-- a position holding any other byte is skipped (`continue`) -/
theorem skip40 (v pre seg ys : Bytes) (y : Nat) (c : O40) (s o : Nat)
    (hv : v = pre ++ 47 :: seg ++ y :: ys) (hy : y ≠ 47) :
    GenP40.ParseVector_for1 v (st4 (pre.length + (47 :: seg).length) pre.length s o c)
      = .next (st4 (pre.length + (47 :: seg).length) pre.length s o c) := by
  have hne : pre.length + (47 :: seg).length ≠ v.length := by simp [hv]
  have hix : v[pre.length + (47 :: seg).length]? = some y := by rw [hv]; exact getElem?_at pre (47 :: seg) y ys
  simp only [st4, GenP40.ParseVector_for1, GenParse.beq_false hne, Bool.not_false, cond_true]
  rw [index_some hix]
  simp only [GenParse.beq_false hy, Bool.not_false, cond_true]

section Loop
variable (v : Bytes) (cnd : St4 → Bool) (post : St4 → St4)
  (hcnd : ∀ i cut s o c, cnd (st4 i cut s o c) = Nat.ble i v.length)
  (hpost : ∀ i cut s o c, post (st4 i cut s o c) = st4 (i + 1) cut s o c)

include hcnd in
/-- one element `'/' :: seg` ending at position `i`: the generated loop and `Model.loop4` on `seg :: els` agree if
    they agree once the element is done -/
theorem elem_inv {n : Nat} {pre seg rest : Bytes} {c : O40} {s o : Nat} {rem : List (Bool × Bytes)} {els : List Bytes}
    (hv : v = pre ++ 47 :: seg ++ rest) (hat : At ord40 s o rem) (hsep : rest = [] ∨ ∃ ys, rest = 47 :: ys)
    (ih : ∀ c' s' o' rem', At ord40 s' o' rem' → ofGo dec40 (after4 (Go.forN n
        (post (st4 (pre.length + (47 :: seg).length) (pre.length + (47 :: seg).length) s' o' c')) cnd post
        (GenP40.ParseVector_for1 v))) = loop4 O40.set els c' rem') :
    ofGo dec40 (after4 (Go.forN (n + 1) (st4 (pre.length + (47 :: seg).length) pre.length s o c) cnd post
      (GenP40.ParseVector_for1 v))) = loop4 O40.set (seg :: els) c rem := by
  have hc : cnd (st4 (pre.length + (47 :: seg).length) pre.length s o c) = true := by
    rw [hcnd]; exact ble_true (by simp [hv])
  have hb := elem40 v pre seg rest c s o rem hv hat hsep
  simp only [loop4]
  cases hw : walk4 rem (cutColon seg).1 with
  | none =>
    rw [hw] at hb
    rw [forN_ret (h := hc) (hb := hb)]
    rfl
  | some rem' =>
    rw [hw] at hb
    obtain ⟨s', o', hat', hb⟩ := hb
    cases hs : O40.set c (cutColon seg).1 (cutColon seg).2 with
    | mk c' e =>
      rw [hs] at hb
      by_cases he : e = Go.errNil
      · simp only [errBeq_eq, he, decide_true, cond_true] at hb
        simp only [he, if_true]
        rw [forN_next (h := hc) (hb := hb)]
        exact ih c' s' o' rem' hat'
      · simp only [errBeq_eq, he, decide_false, cond_false] at hb
        simp only [he, if_false]
        rw [forN_ret (h := hc) (hb := hb)]
        rfl

include hcnd hpost

/-- **loop invariant** of `for i := 1; i <= len(vector); i++`: `cut = |pre|`, `vector[cut] = '/'`,
    `i = |pre| + |'/' :: seg|`, no `/` in `seg`, and `(slci, orderi)` is a position with `rem` left: what remains to
    be done is `Model.loop4` on the elements of `seg ++ rest`; the fuel `len(vector) + 2` does not run out -/
theorem loop_inv (rest : Bytes) : ∀ (seg pre : Bytes) (c : O40) (s o : Nat) (rem : List (Bool × Bytes)) (fuel : Nat),
    v = pre ++ 47 :: seg ++ rest → 47 ∉ seg → At ord40 s o rem → rest.length + 2 ≤ fuel →
    ofGo dec40 (after4 (Go.forN fuel (st4 (pre.length + (47 :: seg).length) pre.length s o c) cnd post
      (GenP40.ParseVector_for1 v))) = loop4 O40.set (splitSlash (seg ++ rest)) c rem := by
  induction rest with
  | nil =>
    intro seg pre c s o rem fuel hv hseg hat hf
    obtain ⟨n, rfl⟩ : ∃ n, fuel = n + 2 := ⟨fuel - 2, by omega⟩
    rw [List.append_nil, splitSlash_seg_nil seg hseg]
    refine elem_inv v cnd post hcnd hv hat (.inl rfl) fun c' s' o' rem' hat' => ?_
    rw [hpost, forN_stop _ _ _ _ _ (by rw [hcnd]; exact ble_false (by simp [hv]))]
    simp only [loop4, hat'.any (by decide)]
    show ofGo dec40 (cond (Nat.beq s' 0) (.err eTooShort) (.ok (tup9 c'))) = _
    cases Nat.beq s' 0 <;> rfl
  | cons y ys ih =>
    intro seg pre c s o rem fuel hv hseg hat hf
    obtain ⟨n, rfl⟩ : ∃ n, fuel = n + 1 := ⟨fuel - 1, by omega⟩
    by_cases hy : y = 47
    · subst hy
      rw [splitSlash_seg_slash seg ys hseg]
      refine elem_inv v cnd post hcnd hv hat (.inr ⟨ys, rfl⟩) fun c' s' o' rem' hat' => ?_
      rw [hpost]
      have := ih [] (pre ++ 47 :: seg) c' s' o' rem' n (by simp [hv]) (by simp) hat' (by simp at hf; omega)
      simp only [List.length_append, List.length_singleton, List.nil_append] at this ⊢
      exact this
    · have hc : cnd (st4 (pre.length + (47 :: seg).length) pre.length s o c) = true := by
        rw [hcnd]; exact ble_true (by simp [hv])
      rw [forN_next (h := hc) (hb := skip40 v pre seg ys y c s o hv hy), hpost]
      have := ih (seg ++ [y]) pre c s o rem n (by simp [hv]) (by simp [hseg, Ne.symm hy]) hat
        (by simp at hf; omega)
      simpa [Nat.add_assoc] using this

end Loop

/-- `ParseVector` behind the header and separator tests, on the rest `v` of the string -/
def scan4 (v : Bytes) : R4 :=
  after4 (Go.forN (v.length + 2) (st4 1 0 0 0 O40.zero)
    (fun (i, _, _, _, _, _, _, _, _, _, _, _, _) => Nat.ble i v.length)
    (fun (i, r) => (i + 1, r))
    (GenP40.ParseVector_for1 v))

theorem scan4_spec (rest : Bytes) :
    ofGo dec40 (scan4 (47 :: rest)) = loop4 O40.set (splitSlash rest) O40.zero (flatOrder GenV40.tbl_order) :=
  loop_inv (47 :: rest) _ _ (by intro i cut s o c; rfl) (by intro i cut s o c; rfl) rest [] [] O40.zero 0 0 _ _
    rfl (by simp) at_start (by simp)

/-- **v4.0**: on every byte string the regenerated parser returns the same object / the same error as the
    hand-written model, and it does not panic -/
theorem genParse40 (s : Bytes) : ofGo dec40 (GenP40.ParseVector s) = parse40 s := by
  show ofGo dec40 (cond (!Go.hasPrefix s GenV40.const_header) (.err eHeader)
    (match (cond (Nat.blt 8 s.length) (Go.index s 8 none fun t0 => some (!Nat.beq t0 47)) (some false) : Option Bool) with
     | none => .panic
     | some c1 => cond c1 (.err eHeader) (Go.sliceFrom s 8 .panic scan4))) = _
  unfold parse40
  rw [← hasPrefix_eq]
  cases h : Go.hasPrefix s GenV40.const_header
  · rfl
  · have hlen : 8 ≤ s.length := length_le_of_hasPrefix h
    simp only [Bool.not_true, cond_false, if_true, sliceFrom_ok _ hlen, show GenV40.const_header.length = 8 from rfl]
    cases hd : List.drop 8 s with
    | nil =>
      -- the bare header: the separator test is skipped (`len(vector) > len(header)` is false), the loop never runs
      have hl : s.length ≤ 8 := by simpa using hd
      rw [blt_false hl]
      rfl
    | cons x rest =>
      have hl : 8 < s.length := by
        have := congrArg List.length hd
        simp at this; omega
      have hx8 : s[8]? = some x := by
        have := congrArg List.head? hd
        simpa [List.head?_drop] using this
      rw [blt_true hl]
      simp only [cond_true]
      rw [index_some hx8]
      by_cases hx : x = 47
      · subst hx
        simp only [Nat.beq_refl, Bool.not_true, cond_false, SLASH, if_true]
        exact scan4_spec rest
      · -- the header followed by a byte other than the separator: ErrInvalidCVSSHeader
        simp only [GenParse.beq_false hx, Bool.not_false, cond_true, SLASH, hx, if_false]
        rfl

end GenParse40
