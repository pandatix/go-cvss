import Cvss.Props.ParseTie
import Cvss.Proofs.Parse3Loop
import Cvss.Proofs.Parse4Run
/-!
# C01, clause "a rejection returns a nil object and a NON-NIL error"

`Res` has the three outcomes `ok c | err e | panic`, so "object xor error" holds by construction; what needs a proof is that the
error of a rejection is never Go's `nil` (`Go.errNil`, code 0). Proved for the four readable models (every `.err` carries a
sentinel, a typed error, or the error of `Set` behind an `e ≠ nil` test: `loop3_err`, `loop4_err`) and transferred to the regenerated parsers by
`Props/ParseTie`. Together with `C01.no_panic` this is the whole result shape of the property's last sentence.
-/
namespace C01b
open Model

theorem parse3_err {O : Type} (header : Bytes) (zero : O) (set : O → Bytes → Bytes → O × Go.Err) (s : Bytes) (e : Go.Err)
    (h : parse3 header zero set s = .err e) : e ≠ Go.errNil := by
  by_cases hp : header <+: s
  · rw [Proofs.Parse3.parse3_of_prefix hp] at h
    rcases Proofs.Parse3.loop3_err set _ _ _ e h with ⟨a, rfl | rfl | rfl⟩ | ⟨_, _, _, _, hne⟩
    · exact fun h => by cases h
    · exact fun h => by cases h
    · exact fun h => by cases h
    · exact hne
  · rw [Proofs.Parse3.parse3_of_not_prefix hp] at h
    cases h
    decide

theorem v30 (s : Bytes) (e : Go.Err) (h : parse30 s = .err e) : e ≠ Go.errNil := parse3_err _ _ _ s e h
theorem v31 (s : Bytes) (e : Go.Err) (h : parse31 s = .err e) : e ≠ Go.errNil := parse3_err _ _ _ s e h

theorem v40 (s : Bytes) (e : Go.Err) (h : parse40 s = .err e) : e ≠ Go.errNil := by
  unfold parse40 at h
  split at h
  · split at h
    · cases h; decide
    · split at h
      · rcases Proofs.P4.loop4_err _ _ _ _ e h with rfl | rfl | ⟨_, _, _, _, hne⟩
        · decide
        · decide
        · exact hne
      · cases h; decide
  · cases h; decide

theorem step2_err (order : List (List Bytes)) (slci i : Nat) (c : O20) (pt : Bytes) (e : Go.Err)
    (h : step2 order slci i c pt = .err e) : e ≠ Go.errNil := by
  simp only [step2] at h
  split at h
  · cases h; decide
  · cases h
  · split at h
    · cases h; decide
    · split at h
      · rename_i hne; cases h; exact hne
      · split at h <;> cases h

theorem loop2_err (order : List (List Bytes)) :
    ∀ (pts : List Bytes) (slci i : Nat) (c : O20) (e : Go.Err), loop2 order pts slci i c = .err e → e ≠ Go.errNil := by
  intro pts
  induction pts with
  | nil =>
    intro slci i c e h
    simp only [loop2] at h
    split at h
    · cases h; decide
    · cases h
  | cons pt rest ih =>
    intro slci i c e h
    simp only [loop2] at h
    split at h
    · exact ih _ _ _ _ h
    · rename_i e' hs; cases h; exact step2_err _ _ _ _ _ _ hs
    · cases h

theorem v20 (s : Bytes) (e : Go.Err) (h : parse20 s = .err e) : e ≠ Go.errNil := loop2_err _ _ _ _ _ _ h

theorem gen30 (s : Bytes) (e : Go.Err) (h : ParseTie.res30 (GenP30.ParseVector s) = .err e) : e ≠ Go.errNil :=
  v30 s e (by rw [← ParseTie.v30]; exact h)
theorem gen31 (s : Bytes) (e : Go.Err) (h : ParseTie.res31 (GenP31.ParseVector s) = .err e) : e ≠ Go.errNil :=
  v31 s e (by rw [← ParseTie.v31]; exact h)
theorem gen40 (s : Bytes) (e : Go.Err) (h : ParseTie.res40 (GenP40.ParseVector s) = .err e) : e ≠ Go.errNil :=
  v40 s e (by rw [← ParseTie.v40]; exact h)
theorem gen20 (buf : List Bytes) (hbuf : buf.length = 14) (s : Bytes) (e : Go.Err)
    (h : ParseTie.res20 (GenP20.ParseVector buf s) = .err e) : e ≠ Go.errNil :=
  v20 s e (by rw [← ParseTie.v20 buf hbuf]; exact h)

/-- not vacuous: rejections exist -/
example : parse31 [] = .err eHeader ∧ eHeader ≠ Go.errNil := by decide +kernel

end C01b
