import Cvss.Props.C11v4
import Cvss.Proofs.Mono4Raw
import Cvss.Proofs.Bits40
import Cvss.Proofs.F64Tenth
/-!
# C12 (v4.0 part) — the score is monotone in every single metric

"Changing a single metric to a more severe value of the specification's ordering (others fixed) never decreases
the score": for every well-formed `CVSS40` object `c`, every metric `a` (all 32) and legal values `v₁`, `v₂` of `a`
such that `v₂` is at least as severe as `v₁` in the order of `Spec/Effective.lean` (`Spec.atLeastAsSevere` with
`Spec.V4.rank`: AV N>A>L>P, AC L>H, AT N>P, PR N>L>H, UI N>P>A, VC/VI/VA/SC/SI/SA H>L>N (MSI/MSA S>H>L>N),
E A>P>U with X as A, CR/IR/AR H>M>L with X as H; a Modified `X` ranks as the current value of its base metric;
supplemental metrics are not ordered, so for them the hypothesis is never satisfied — they do not influence the
score at all, `C10.v40_supplemental`):

    F64.le (c.set a v₁).1.score (c.set a v₂).1.score = true      (IEEE `≤` on the generated float model)

Proof. Both objects are well formed (`contract40.wf_set`) and hold the value strings `upd val a vᵢ`
(`EffKeys.cval_set`, the Get/Set contract). By the bit-level C11 (`Props.C11v4.score_bits`) their scores are
`F64.tenth k₁`, `F64.tenth k₂` with `kᵢ = Spec.V4.scoreK (upd val a vᵢ) ≤ 100`. The Spec is monotone:
`Proofs.Mono4.scoreK_mono` gives `k₁ ≤ k₂` — per raw metric, the effective value of one EQ group moves to an at
least as severe one (small enumerations), the (level, distance) summary of that group moves along a listed
transition (`Mono4Cover`, `Mono4Cover36`: enumeration of the Spec over all vectors of the group), and along every
listed transition, in every context of the other groups, the exact half-up score does not decrease (`Mono4Tab`: kernel
evaluation of a primitive form of the Spec's `scoreOf`, itself checked against the readable Spec on all 52,650
points, `Score4.point_all`). Finally `k₁ ≤ k₂ ≤ 100 → F64.le (tenth k₁) (tenth k₂)` (`F64Tenth.tenth_le`).
-/
namespace Props.C12v4
open Model Proofs.Mono4
open Spec (b legal atLeastAsSevere isMetric)
open EffKeys (upd cval)

/-- the one-decimal doubles are ordered like their numerators -/
theorem tenth_le {k₁ k₂ : Nat} (h : k₁ ≤ k₂) (h2 : k₂ ≤ 100) : F64.le (F64.tenth k₁) (F64.tenth k₂) = true := by
  rw [F64Tenth.tenth_le (by omega) h2, decide_eq_true h]

theorem legalV_of_wf (c : O40) (h : c.wf = true) : LegalV (fun a => (c.get a).1) := by
  intro a ha
  exact EffKeys.legal_get Proofs.B40.contract40 EffKeys.V4.tableOK c h a ha

/-- the two scores are `k₁/10 ≤ k₂/10`, as numbers -/
theorem C12v4_tenths (c : O40) (h : c.wf = true) (a v₁ v₂ : Spec.Bytes)
    (h₁ : legal Spec.V4.metrics a v₁ = true) (h₂ : legal Spec.V4.metrics a v₂ = true)
    (hs : atLeastAsSevere Spec.V4.metrics Spec.V4.rank (fun x => (c.get x).1) a v₁ v₂ = true) :
    ∃ k₁ k₂ : Nat, k₁ ≤ k₂ ∧ k₂ ≤ 100 ∧ (c.set a v₁).1.score = F64.tenth k₁ ∧ (c.set a v₂).1.score = F64.tenth k₂ := by
  have w₁ : (c.set a v₁).1.wf = true := Proofs.B40.contract40.wf_set c a v₁ h
  have w₂ : (c.set a v₂).1.wf = true := Proofs.B40.contract40.wf_set c a v₂ h
  have e₁ : (fun x => ((c.set a v₁).1.get x).1) = upd (fun x => (c.get x).1) a v₁ :=
    EffKeys.cval_set Proofs.B40.contract40 c a v₁ h₁
  have e₂ : (fun x => ((c.set a v₂).1.get x).1) = upd (fun x => (c.get x).1) a v₂ :=
    EffKeys.cval_set Proofs.B40.contract40 c a v₂ h₂
  refine ⟨_, _, ?_, Spec.V4.scoreK_le_100 _, Props.C11v4.score_bits _ w₁, Props.C11v4.score_bits _ w₂⟩
  rw [e₁, e₂]
  exact scoreK_mono _ (legalV_of_wf c h) a v₁ v₂ h₁ h₂ hs

theorem C12v4 (c : O40) (h : c.wf = true) (a v₁ v₂ : Spec.Bytes)
    (h₁ : legal Spec.V4.metrics a v₁ = true) (h₂ : legal Spec.V4.metrics a v₂ = true)
    (hs : atLeastAsSevere Spec.V4.metrics Spec.V4.rank (fun x => (c.get x).1) a v₁ v₂ = true) :
    F64.le (c.set a v₁).1.score (c.set a v₂).1.score = true := by
  obtain ⟨k₁, k₂, hle, h100, e₁, e₂⟩ := C12v4_tenths c h a v₁ v₂ h₁ h₂ hs
  rw [e₁, e₂]
  exact tenth_le hle h100

/-- the hypotheses are satisfiable non-trivially: on `CVSS:4.0/AV:N/AC:L/AT:N/PR:N/UI:N/VC:H/VI:H/VA:H/SC:N/SI:N/SA:N`
    (9.3), `MAV:P` (7.0 … ) is less severe than `MAV:X` (= the base value `N`), and `SI:L` less severe than `SI:H`;
    strictly increasing scores in both cases -/
example :
    let c : O40 := ⟨0x28, 0x22, 0x20, 0, 0, 0, 0, 0, 0⟩
    c.wf = true ∧
    atLeastAsSevere Spec.V4.metrics Spec.V4.rank (fun x => (c.get x).1) (b "MAV") (b "P") (b "X") = true ∧
    (c.set (b "MAV") (b "P")).1.score ≠ (c.set (b "MAV") (b "X")).1.score ∧
    atLeastAsSevere Spec.V4.metrics Spec.V4.rank (fun x => (c.get x).1) (b "SI") (b "L") (b "H") = true ∧
    (c.set (b "SI") (b "L")).1.score ≠ (c.set (b "SI") (b "H")).1.score := by decide +kernel

end Props.C12v4

