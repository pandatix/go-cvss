import Cvss.Proofs.Parse3Read
import Cvss.Proofs.Parse3Inst
/-!
# C01 (v3.0 / v3.1): `ParseVector` accepts exactly the grammar — for every byte string

Generic in the header `hdr` and in a `Contract` `K` for the generated `Get`/`Set` (instances are proved from
the bit-field code elsewhere). The parser model is `Model.parse3 (hdr ++ "/") K.zero K.set`.
-/
namespace C01.V3
open Proofs Proofs.Parse3
open Spec (Bytes Pair render joinSlash legal SLASH COLON)

variable {O : Type} (K : Contract O Spec.V3.metrics) (hdr : Bytes)

/-- **accepts ⇔ grammar**, for all byte strings (no length bound) -/
theorem accepts_iff (s : Bytes) :
    (Model.parse3 (hdr ++ [47]) K.zero K.set s).isOk = true ↔ Spec.V3.G hdr s := by
  constructor
  · intro h
    cases hp : Model.parse3 (hdr ++ [47]) K.zero K.set s with
    | ok c =>
      obtain ⟨w, hw, _⟩ := parse3_sound K hdr s c hp
      exact ⟨w, hw⟩
    | err e => rw [hp] at h; cases h
    | panic => rw [hp] at h; cases h
  · rintro ⟨w, hw⟩
    obtain ⟨hs, hw'⟩ := (witness_iff _ _ _).mp hw
    subst hs
    have := parse3_witness K hdr w hw'
    exact (congrArg Model.Res.isOk this).trans rfl

/-- the parser model never panics (whatever the `Set`) -/
theorem no_panic (header : Bytes) (zero : O) (set : O → Bytes → Bytes → O × Go.Err) (s : Bytes) :
    Model.parse3 header zero set s ≠ .panic := parse3_no_panic header zero set s

/-- **the executable recogniser is exactly the grammar** and returns the witness -/
theorem read?_iff (s : Bytes) (w : List Pair) :
    Spec.V3.read? hdr s = some w ↔ Spec.V3.Witness hdr s w := read?_eq_some_iff hdr s w

theorem G_iff_read? (s : Bytes) : Spec.V3.G hdr s ↔ (Spec.V3.read? hdr s).isSome = true :=
  Parse3.G_iff_read? hdr s

theorem witness_unique (s : Bytes) (w₁ w₂ : List Pair)
    (h₁ : Spec.V3.Witness hdr s w₁) (h₂ : Spec.V3.Witness hdr s w₂) : w₁ = w₂ := Parse3.witness_unique h₁ h₂

theorem accepts_iff_read? (s : Bytes) :
    (Model.parse3 (hdr ++ [47]) K.zero K.set s).isOk = (Spec.V3.read? hdr s).isSome := by
  rw [Bool.eq_iff_iff, accepts_iff, G_iff_read?]

/-- **case-sensitivity**: after the header only `/`, `:` and upper-case ASCII letters occur -/
theorem case_sensitive (s : Bytes) (h : Spec.V3.G hdr s) :
    ∀ x ∈ s.drop hdr.length, x = 47 ∨ x = 58 ∨ (65 ≤ x ∧ x ≤ 90) := by
  obtain ⟨w, hw0⟩ := h
  obtain ⟨hs, hw⟩ := (witness_iff _ _ _).mp hw0
  subst hs
  rw [List.drop_left]
  intro x hx
  rcases List.mem_cons.mp hx with hx | hx
  · exact Or.inl hx
  · rcases mem_joinSlash hx with hx | ⟨part, hp, hx⟩
    · exact Or.inl hx
    · obtain ⟨p, hpw, rfl⟩ := List.mem_map.mp hp
      obtain ⟨m, hm, habv, hv⟩ := Table.legal_mem (hw.1 p hpw)
      obtain ⟨u1, u2⟩ := tbl_upper m hm
      rcases List.mem_append.mp hx with hx | hx
      · exact Or.inr (Or.inr (u1 x (habv ▸ hx)))
      · rcases List.mem_cons.mp hx with hx | hx
        · exact Or.inr (Or.inl hx)
        · exact Or.inr (Or.inr (u2 _ hv x hx))

/-- **every element is `abv:value` of a legal pair**, in particular … -/
theorem elements_legal (s : Bytes) (h : Spec.V3.G hdr s) :
    ∀ el ∈ Spec.splitSlash (s.drop (hdr.length + 1)),
      ∃ p : Pair, el = render p ∧ legal Spec.V3.metrics p.1 p.2 = true := G_elements h

/-- … **no empty element** … -/
theorem no_empty_element (s : Bytes) (h : Spec.V3.G hdr s) :
    [] ∉ Spec.splitSlash (s.drop (hdr.length + 1)) := G_no_empty h

/-- … no `//` anywhere after the header's own `/` (with `a = []`: nothing like `CVSS:3.1//AV:N…`) … -/
theorem no_double_slash (s : Bytes) (h : Spec.V3.G hdr s) (a b : Bytes) :
    s ≠ hdr ++ 47 :: (a ++ 47 :: 47 :: b) := by
  show s ≠ hdr ++ SLASH :: (a ++ SLASH :: SLASH :: b)
  rintro rfl
  apply G_no_empty h
  have e : hdr ++ SLASH :: (a ++ SLASH :: SLASH :: b) = (hdr ++ [SLASH]) ++ (a ++ SLASH :: SLASH :: b) := by simp
  have l : hdr.length + 1 = (hdr ++ [SLASH]).length := by simp
  rw [e, l, List.drop_left, Lex.splitSlash_append, Lex.splitSlash_cons_slash]
  simp

/-- … and **no trailing `/`** -/
theorem no_trailing_slash (s : Bytes) (h : Spec.V3.G hdr s) (t : Bytes) : s ≠ t ++ [47] := by
  show s ≠ t ++ [SLASH]
  intro hs
  have hne := G_no_empty h
  obtain ⟨w, hw⟩ := h
  have hel := witness_elements hw
  obtain ⟨e, _⟩ := (witness_iff _ _ _).mp hw
  rw [hel.1] at hne
  rw [e] at hs
  obtain ⟨b', hb'⟩ := snoc_of_append_eq_snoc hs (by simp)
  cases b' with
  | nil =>
    have : joinSlash (w.map render) = [] := by simpa using hb'
    rw [this] at hne
    exact hne (by simp [Spec.splitSlash])
  | cons y ys =>
    have : joinSlash (w.map render) = ys ++ [SLASH] := by
      have := List.tail_eq_of_cons_eq hb'
      simpa using this
    rw [this, Lex.splitSlash_append] at hne
    exact hne (by simp [Spec.splitSlash])

/-- **nothing before the header** (and the header is followed by `/`) -/
theorem nothing_before_header (s : Bytes) (h : Spec.V3.G hdr s) : (hdr ++ [47]) <+: s := by
  obtain ⟨w, rfl, _⟩ := h
  exact ⟨joinSlash (w.map render), by simp [Spec.SLASH]⟩

/-- at least the eight base metrics are present -/
theorem at_least_base (s : Bytes) (w : List Pair) (h : Spec.V3.Witness hdr s w) :
    ∀ m ∈ Spec.V3.base, m.abv ∈ w.map (·.1) := h.2.2.2

/-! concrete members and non-members (decided through `read?`, which is the grammar) -/
example : Spec.V3.G Spec.V3.header31 (Spec.b "CVSS:3.1/AV:N/AC:L/PR:N/UI:N/S:U/C:H/I:H/A:H") := by decide +kernel
example : Spec.V3.G Spec.V3.header30 (Spec.b "CVSS:3.0/S:U/C:H/I:H/A:H/AV:N/AC:L/PR:N/UI:N/MAV:X/E:F") := by decide +kernel
example : ¬ Spec.V3.G Spec.V3.header31 (Spec.b "CVSS:3.1/av:N/AC:L/PR:N/UI:N/S:U/C:H/I:H/A:H") := by decide +kernel
example : ¬ Spec.V3.G Spec.V3.header31 (Spec.b "CVSS:3.1/AV:n/AC:L/PR:N/UI:N/S:U/C:H/I:H/A:H") := by decide +kernel
example : ¬ Spec.V3.G Spec.V3.header31 (Spec.b "cvss:3.1/AV:N/AC:L/PR:N/UI:N/S:U/C:H/I:H/A:H") := by decide +kernel
example : ¬ Spec.V3.G Spec.V3.header31 (Spec.b " CVSS:3.1/AV:N/AC:L/PR:N/UI:N/S:U/C:H/I:H/A:H") := by decide +kernel
example : ¬ Spec.V3.G Spec.V3.header31 (Spec.b "CVSS:3.1/AV:N/AC:L/PR:N/UI:N/S:U/C:H/I:H/A:H/") := by decide +kernel
example : ¬ Spec.V3.G Spec.V3.header31 (Spec.b "CVSS:3.1/AV:N//AC:L/PR:N/UI:N/S:U/C:H/I:H/A:H") := by decide +kernel
example : ¬ Spec.V3.G Spec.V3.header31 (Spec.b "CVSS:3.1/AV:N/AC:L/PR:N/UI:N/S:U/C:H/I:H/A:H/AV:N") := by decide +kernel
example : ¬ Spec.V3.G Spec.V3.header31 (Spec.b "CVSS:3.1/AV:N/AC:L/PR:N/UI:N/S:U/C:H/I:H") := by decide +kernel
example : ¬ Spec.V3.G Spec.V3.header31 (Spec.b "CVSS:3.0/AV:N/AC:L/PR:N/UI:N/S:U/C:H/I:H/A:H") := by decide +kernel

/-! ## Instances: `Model.parse30` / `Model.parse31`

Only the header constants of the generated code are used (`Parse3.const_header30/31`, by evaluation). `Props/C01.lean`
supplies the concrete contracts (`contract30`, `contract31`, proved from the generated bit-field code) for `K30`/`K31`;
`hz`/`hs` are then `rfl`. -/
section Instances
open Model (O30 O31)
variable (K30 : Contract O30 Spec.V3.metrics) (hz30 : K30.zero = O30.zero) (hs30 : K30.set = O30.set)
variable (K31 : Contract O31 Spec.V3.metrics) (hz31 : K31.zero = O31.zero) (hs31 : K31.set = O31.set)
include hz30 hs30 in
theorem accepts_iff_30 (s : Bytes) : (Model.parse30 s).isOk = true ↔ Spec.V3.G Spec.V3.header30 s := by
  rw [parse30_eq_K K30 hz30 hs30]; exact accepts_iff K30 _ s
include hz31 hs31 in
theorem accepts_iff_31 (s : Bytes) : (Model.parse31 s).isOk = true ↔ Spec.V3.G Spec.V3.header31 s := by
  rw [parse31_eq_K K31 hz31 hs31]; exact accepts_iff K31 _ s

/-- needs no contract at all -/
theorem no_panic_30 (s : Bytes) : Model.parse30 s ≠ .panic := parse3_no_panic _ _ _ s
theorem no_panic_31 (s : Bytes) : Model.parse31 s ≠ .panic := parse3_no_panic _ _ _ s
end Instances

end C01.V3
