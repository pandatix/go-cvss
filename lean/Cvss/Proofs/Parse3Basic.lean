import Cvss.Proofs.Contract
import Cvss.Proofs.Lex
import Cvss.Proofs.Table
import Cvss.Spec.Errors
/-!
# v3 parser proofs: prefix tests and closed facts about the tables

Closed facts about `Spec.V3.metrics`, `Model.kvmNames`, `Model.kvmMandatory`, all by `decide`, and what they say
about a legal pair.
-/
namespace Proofs.Parse3
open Spec (Bytes Pair Metric render joinSlash legal isMetric findMetric abvs valueOf allLegal SLASH COLON)
open Proofs.Table

theorem model_SLASH : Model.SLASH = Spec.SLASH := rfl
theorem model_COLON : Model.COLON = Spec.COLON := rfl

theorem cutColon_fst_no_colon (el : Bytes) : COLON ∉ (Model.cutColon el).1 := Lex.cutColon_fst el

theorem hasPrefix_iff (s p : Bytes) : Model.hasPrefix s p = true ↔ p <+: s := by
  simp [Model.hasPrefix]

theorem eq_append_drop_of_prefix {p s : Bytes} (h : p <+: s) : s = p ++ s.drop p.length := by
  obtain ⟨t, rfl⟩ := h
  simp

theorem kvmNames_eq : Model.kvmNames = abvs Spec.V3.metrics := by decide
theorem kvmMandatory_eq : Model.kvmMandatory = abvs Spec.V3.base := by decide

theorem good : GoodTable Spec.V3.metrics := ⟨by decide, by decide, by decide⟩

/-- no value contains `:` either (not needed by the parser proofs; stated for the reader) -/
theorem tbl_values_no_colon : ∀ m ∈ Spec.V3.metrics, ∀ v ∈ m.values, COLON ∉ v := by decide

theorem tbl_mandatory_base : ∀ m ∈ Spec.V3.metrics, m.mandatory = true → m ∈ Spec.V3.base := by decide

theorem tbl_base_sub : ∀ m ∈ Spec.V3.base, m ∈ Spec.V3.metrics ∧ m.mandatory = true := by decide

/-- every byte of every abbreviation and value is an upper-case ASCII letter -/
theorem tbl_upper : ∀ m ∈ Spec.V3.metrics,
    (∀ x ∈ m.abv, 65 ≤ x ∧ x ≤ 90) ∧ ∀ v ∈ m.values, ∀ x ∈ v, 65 ≤ x ∧ x ≤ 90 := by decide

/-- two distinct base abbreviations (used to show a witness list has at least two elements) -/
theorem tbl_two_base : Spec.b "AV" ∈ abvs Spec.V3.base ∧ Spec.b "AC" ∈ abvs Spec.V3.base ∧
    Spec.b "AV" ≠ Spec.b "AC" := by decide

theorem render_no_slash {p : Pair} (h : legal Spec.V3.metrics p.1 p.2 = true) : SLASH ∉ render p :=
  Lex.render_noslash (good.legal_clean h).2.1 (good.legal_clean h).2.2.1

theorem contains_kvmNames_iff (a : Bytes) : Model.kvmNames.contains a = true ↔ isMetric Spec.V3.metrics a = true := by
  rw [kvmNames_eq, isMetric_iff, List.contains_iff_mem]

end Proofs.Parse3
