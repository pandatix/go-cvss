import Cvss.Proofs.Parse2Canon
/-!
# C02 (v2.0): `Vector()` then `ParseVector` returns the same object

For every well-formed object at once; `Vector()` through `VecContract`, `Get`/`Set` through `Contract`.
-/
namespace C02.V2
open Proofs Proofs.Parse2
open Model (Bytes Res)
open Spec.V2 (metrics canonical)

section
variable (K : Contract Model.O20 metrics) (VK : VecContract Model.O20 metrics K canonical)

theorem roundtrip {c : Model.O20} (h : K.WF c) : parseK K (VK.vector c) = .ok c := by
  rw [VK.vector_eq c h]; exact parse_canonical_pairs K h

/-- hence the serialisation of a well-formed object is grammatical -/
theorem vector_grammatical {c : Model.O20} (h : K.WF c) : Spec.V2.G (VK.vector c) := by
  obtain ⟨w, hw, _⟩ := parse_sound K (roundtrip K VK h)
  exact ⟨w, hw⟩

/-- and `Vector()` is injective on well-formed objects -/
theorem vector_injective {c c' : Model.O20} (h : K.WF c) (h' : K.WF c') (hv : VK.vector c = VK.vector c') : c = c' := by
  have h1 := roundtrip K VK h
  rw [hv, roundtrip K VK h'] at h1
  cases h1; rfl

/-- about `Model.parse20` itself, for a contract whose zero/`Set` are the generated ones -/
theorem model_roundtrip (hz : K.zero = Model.O20.zero) (hs : K.set = Model.O20.set)
    {c : Model.O20} (h : K.WF c) : Model.parse20 (VK.vector c) = .ok c := by
  rw [parse20_eq_parseK K hz hs]; exact roundtrip K VK h

end

/-- a concrete non-trivial object through the real generated `Vector` and `Set` -/
example : Model.parse20 (Model.O20.vector ⟨32, 0, 64, 0⟩) = .ok ⟨32, 0, 64, 0⟩ := by decide +kernel

end C02.V2
