import Cvss.Proofs.Score2Ok
import Cvss.Proofs.F64Eval
/-! C05 table: all 729 Base code tuples (conformance incl. O1, sub-scores, monotonicity), and the weights.
    The divisions are first put in the form `F64.divK`, which the kernel evaluates faster (`F64Eval`). -/
namespace Proofs.Score2

theorem base_chunk : baseChunk = true := by
  simp only [baseChunk, okBase, GenV20.BaseScore_core, GenV20.roundTo1Decimal, ← F64.divK_eq]
  decide +kernel

theorem sub_chunk : subChunk = true := by decide +kernel

theorem weights_chunk : weightsChunk = true := by decide +kernel

theorem mono_base_chunk : monoBaseChunk = true := by
  simp only [monoBaseChunk, monoBase, GenV20.BaseScore_core, GenV20.roundTo1Decimal, ← F64.divK_eq]
  decide +kernel

theorem eq_chunk : eqChunk = true := by decide +kernel

end Proofs.Score2
