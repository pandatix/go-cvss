import Cvss.Props.ParseTie
import Cvss.Props.C01
import Cvss.Props.C18
/-!
# ParseTieTransfer — parser theorems restated for the REGENERATED parsers

The parser properties are proved about the hand-written `Model.parseXX`. `ParseTie.v20/v30/v31/v40` make every
one of them a statement about `GenPxx.ParseVector`, the text produced from the Go source on each check. Two are
transferred here as a demonstration, through `ParseTie.transfer` (the others transfer the same way):

* C01 — the generated parser accepts exactly the specification's grammar, and never panics (on no byte string:
  no index out of range, no nil dereference, no loop fuel exhaustion);
* C18 — on a defective vector the generated parser returns exactly the documented error value (every defect of
  `Spec.Defect`, including the general "misplaced" `move i j`; v2.0 with the `afterEnv` restriction of finding F3),
  and the unconditional header clause: every byte string not beginning with `CVSS:3.x/` (v3) / being neither the bare
  `CVSS:4.0` nor beginning with `CVSS:4.0/` (v4.0) gets ErrInvalidCVSSHeader from the generated parser, and only those.
-/
namespace ParseTie
open Model GenParse

theorem C01_v31 (s : Bytes) : okOf (GenP31.ParseVector s) = true ↔ Spec.V3.G Spec.V3.header31 s := by
  rw [← (transfer (v31 s)).2.2.2]; exact C01.v31 s
theorem C01_v30 (s : Bytes) : okOf (GenP30.ParseVector s) = true ↔ Spec.V3.G Spec.V3.header30 s := by
  rw [← (transfer (v30 s)).2.2.2]; exact C01.v30 s
theorem C01_v40 (s : Bytes) : okOf (GenP40.ParseVector s) = true ↔ Spec.V4.G s := by
  rw [← (transfer (v40 s)).2.2.2]; exact C01.v40 s
theorem C01_v20 (buf : List Bytes) (hbuf : buf.length = 14) (s : Bytes) :
    okOf (GenP20.ParseVector buf s) = true ↔ Spec.V2.G s := by
  rw [← (transfer (v20 buf hbuf s)).2.2.2]; exact C01.v20 s

/-- **no panic**: on no byte string (and no pool buffer content) does a generated parser reach a panic outcome —
    no `s[i]` / `s[a:b]` / `order[i][j]` / `dst[curr]` out of range, no nil `*dst`, and neither the `l+2` fuel of
    the counting loops nor the fuel 64 of the v4 `for { }` is ever exhausted -/
theorem no_panic (buf : List Bytes) (hbuf : buf.length = 14) (s : Bytes) :
    GenP20.ParseVector buf s ≠ .panic ∧ GenP30.ParseVector s ≠ .panic ∧ GenP31.ParseVector s ≠ .panic ∧
    GenP40.ParseVector s ≠ .panic := by
  obtain ⟨h2, h30, h31, h4⟩ := C01.no_panic s
  exact ⟨fun h => h2 ((transfer (v20 buf hbuf s)).2.2.1.mpr h), fun h => h30 ((transfer (v30 s)).2.2.1.mpr h),
    fun h => h31 ((transfer (v31 s)).2.2.1.mpr h), fun h => h4 ((transfer (v40 s)).2.2.1.mpr h)⟩

theorem C18_v31 (w : List Spec.Pair) (d : Spec.Defect) (s : Bytes) (e : Spec.ErrVal)
    (hw : ∃ s0, Spec.V3.Witness Spec.V3.header31 s0 w) (hd : d.apply .v31 w = some (s, e)) :
    GenP31.ParseVector s = .err ⟨e.1, e.2⟩ :=
  ((transfer (v31 s)).2.1 _).mp (C18.v31 w d s e hw hd)
theorem C18_v30 (w : List Spec.Pair) (d : Spec.Defect) (s : Bytes) (e : Spec.ErrVal)
    (hw : ∃ s0, Spec.V3.Witness Spec.V3.header30 s0 w) (hd : d.apply .v30 w = some (s, e)) :
    GenP30.ParseVector s = .err ⟨e.1, e.2⟩ :=
  ((transfer (v30 s)).2.1 _).mp (C18.v30 w d s e hw hd)
theorem C18_v40 (w : List Spec.Pair) (d : Spec.Defect) (s : Bytes) (e : Spec.ErrVal)
    (hw : ∃ s0, Spec.V4.Witness s0 w) (hd : d.apply .v40 w = some (s, e)) :
    GenP40.ParseVector s = .err ⟨e.1, e.2⟩ :=
  ((transfer (v40 s)).2.1 _).mp (C18.v40 w d s e hw hd)
theorem C18_v20_partial (buf : List Bytes) (hbuf : buf.length = 14) (w : List Spec.Pair) (d : Spec.Defect) (s : Bytes)
    (e : Spec.ErrVal) (hw : ∃ s0, Spec.V2.Witness s0 w) (hd : d.apply .v20 w = some (s, e))
    (hna : C18.V2.afterEnv w d = false) : GenP20.ParseVector buf s = .err ⟨e.1, e.2⟩ :=
  ((transfer (v20 buf hbuf s)).2.1 _).mp (C18.v20_partial w d s e hw hd hna)
/-- v2.0 "misplaced" in general: no side condition -/
theorem C18_v20_move (buf : List Bytes) (hbuf : buf.length = 14) (w : List Spec.Pair) (i j : Nat) (s : Bytes)
    (e : Spec.ErrVal) (hw : ∃ s0, Spec.V2.Witness s0 w) (hd : (Spec.Defect.move i j).apply .v20 w = some (s, e)) :
    GenP20.ParseVector buf s = .err eOrder :=
  ((transfer (v20 buf hbuf s)).2.1 _).mp (C18.v20_move w i j s e hw hd).1

theorem C18_header31 (s : Bytes) : GenP31.ParseVector s = .err eHeader ↔ ¬ (Spec.V3.header31 ++ [47]) <+: s :=
  ((transfer (v31 s)).2.1 _).symm.trans (C18.header31_iff s)
theorem C18_header30 (s : Bytes) : GenP30.ParseVector s = .err eHeader ↔ ¬ (Spec.V3.header30 ++ [47]) <+: s :=
  ((transfer (v30 s)).2.1 _).symm.trans (C18.header30_iff s)
theorem C18_header40 (s : Bytes) :
    GenP40.ParseVector s = .err eHeader ↔ ¬ (s = Spec.V4.header ∨ (Spec.V4.header ++ [47]) <+: s) :=
  ((transfer (v40 s)).2.1 _).symm.trans (C18.header40_iff s)
/-- in the specification's terms: the part before the first `/` is not `CVSS:4.0` -/
theorem C18_header40_spec (s : Bytes) : GenP40.ParseVector s = .err eHeader ↔ Spec.headOf s ≠ Spec.V4.header :=
  ((transfer (v40 s)).2.1 _).symm.trans (C18.header40_spec s)
/-- `CVSS:4.0` followed directly by a byte other than `/`: ErrInvalidCVSSHeader from the generated parser
    (finding F4; against the unrepaired source this is ErrInvalidMetricValue and the theorem does not compile) -/
theorem C18_v40_header_then_junk (c : Nat) (r : Bytes) (hc : c ≠ 47) :
    GenP40.ParseVector (Spec.V4.header ++ c :: r) = .err eHeader :=
  ((transfer (v40 _)).2.1 _).mp (C18.v40_header_then_junk c r hc)
/-- the bare `CVSS:4.0`: ErrTooShortVector from the generated parser -/
theorem C18_v40_header_only : GenP40.ParseVector Spec.V4.header = .err eTooShort :=
  ((transfer (v40 _)).2.1 _).mp C18.v40_header_only

end ParseTie
