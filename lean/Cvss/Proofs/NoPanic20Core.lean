import Cvss.Gen.K20
import Cvss.Proofs.Bits20
import Cvss.Proofs.Score2Wf
/-!
# CVSS v2.0 no-panic twins (`GenK20.*_ok`): helper lemmas on the decoded field codes

`GenK20.X_ok_core` is the regenerated "returns normally" twin of method `X` over the field codes. Each weight
helper twin (`cia_ok`, `accessVector_ok`, …) is `true` exactly on the legal codes of its metric (by `decide` over
the regenerated definition, so a weight helper that loses a `case` breaks a proof here); the method twins are
conjunctions of those (by unfolding the regenerated definitions).
-/
namespace Proofs.NoPanic20
open Bits (flet_eq)

theorem cia_ok : ∀ v, v < 3 → GenK20.cia_ok v = true := by decide
theorem accessVector_ok : ∀ v, v < 3 → GenK20.accessVector_ok v = true := by decide
theorem accessComplexity_ok : ∀ v, v < 3 → GenK20.accessComplexity_ok v = true := by decide
theorem authentication_ok : ∀ v, v < 3 → GenK20.authentication_ok v = true := by decide
theorem ciar_ok : ∀ v, v < 4 → GenK20.ciar_ok v = true := by decide
theorem exploitability_ok : ∀ v, v < 5 → GenK20.exploitability_ok v = true := by decide
theorem remediationLevel_ok : ∀ v, v < 5 → GenK20.remediationLevel_ok v = true := by decide
theorem reportConfidence_ok : ∀ v, v < 4 → GenK20.reportConfidence_ok v = true := by decide
theorem collateralDamagePotential_ok : ∀ v, v < 6 → GenK20.collateralDamagePotential_ok v = true := by decide
theorem targetDistribution_ok : ∀ v, v < 5 → GenK20.targetDistribution_ok v = true := by decide

/-- every `uint8` beyond the legal codes reaches the `panic` of the `default:` arm, so the ranges above are exact
    (`reportConfidence`/`ciar` accept all four 2-bit codes) -/
theorem helpers_exact : ∀ v, v < 256 →
    GenK20.cia_ok v = Nat.blt v 3 ∧ GenK20.accessVector_ok v = Nat.blt v 3 ∧
    GenK20.accessComplexity_ok v = Nat.blt v 3 ∧ GenK20.authentication_ok v = Nat.blt v 3 ∧
    GenK20.ciar_ok v = Nat.blt v 4 ∧ GenK20.exploitability_ok v = Nat.blt v 5 ∧
    GenK20.remediationLevel_ok v = Nat.blt v 5 ∧ GenK20.reportConfidence_ok v = Nat.blt v 4 ∧
    GenK20.collateralDamagePotential_ok v = Nat.blt v 6 ∧ GenK20.targetDistribution_ok v = Nat.blt v 5 := by
  decide +kernel

/-- the twin of a weight helper says `false` exactly where the ordinary translation (`Gen/V20.lean`) returns its panic
    sentinel `0x7FF8DEAD00000000` -/
theorem helpers_sentinel : ∀ v, v < 256 →
    GenK20.cia_ok v = !Nat.beq (GenV20.cia v) 0x7FF8DEAD00000000 ∧
    GenK20.accessVector_ok v = !Nat.beq (GenV20.accessVector v) 0x7FF8DEAD00000000 ∧
    GenK20.accessComplexity_ok v = !Nat.beq (GenV20.accessComplexity v) 0x7FF8DEAD00000000 ∧
    GenK20.authentication_ok v = !Nat.beq (GenV20.authentication v) 0x7FF8DEAD00000000 ∧
    GenK20.ciar_ok v = !Nat.beq (GenV20.ciar v) 0x7FF8DEAD00000000 ∧
    GenK20.exploitability_ok v = !Nat.beq (GenV20.exploitability v) 0x7FF8DEAD00000000 ∧
    GenK20.remediationLevel_ok v = !Nat.beq (GenV20.remediationLevel v) 0x7FF8DEAD00000000 ∧
    GenK20.reportConfidence_ok v = !Nat.beq (GenV20.reportConfidence v) 0x7FF8DEAD00000000 ∧
    GenK20.collateralDamagePotential_ok v = !Nat.beq (GenV20.collateralDamagePotential v) 0x7FF8DEAD00000000 ∧
    GenK20.targetDistribution_ok v = !Nat.beq (GenV20.targetDistribution v) 0x7FF8DEAD00000000 := by
  decide +kernel

theorem impact_ok_core (r0 r1 r2 : Nat) (h0 : r0 < 3) (h1 : r1 < 3) (h2 : r2 < 3) :
    GenK20.Impact_ok_core r0 r1 r2 = true := by
  simp only [GenK20.Impact_ok_core, flet_eq, cia_ok _ h0, cia_ok _ h1, cia_ok _ h2, Bool.and_self]

theorem exploitability_ok_core (r0 r1 r2 : Nat) (h0 : r0 < 3) (h1 : r1 < 3) (h2 : r2 < 3) :
    GenK20.Exploitability_ok_core r0 r1 r2 = true := by
  simp only [GenK20.Exploitability_ok_core, flet_eq, accessVector_ok _ h0, accessComplexity_ok _ h1,
    authentication_ok _ h2, Bool.and_self]

theorem baseScore_ok_core (r0 r1 r2 r3 r4 r5 : Nat) (h0 : r0 < 3) (h1 : r1 < 3) (h2 : r2 < 3)
    (h3 : r3 < 3) (h4 : r4 < 3) (h5 : r5 < 3) : GenK20.BaseScore_ok_core r0 r1 r2 r3 r4 r5 = true := by
  simp only [GenK20.BaseScore_ok_core, flet_eq, impact_ok_core _ _ _ h0 h1 h2,
    exploitability_ok_core _ _ _ h3 h4 h5, Bool.and_self]

theorem temporalScore_ok_core (r0 r1 r2 r3 r4 r5 r6 r7 r8 : Nat) (h0 : r0 < 5) (h1 : r1 < 5) (h2 : r2 < 4)
    (h3 : r3 < 3) (h4 : r4 < 3) (h5 : r5 < 3) (h6 : r6 < 3) (h7 : r7 < 3) (h8 : r8 < 3) :
    GenK20.TemporalScore_ok_core r0 r1 r2 r3 r4 r5 r6 r7 r8 = true := by
  simp only [GenK20.TemporalScore_ok_core, flet_eq, exploitability_ok _ h0, remediationLevel_ok _ h1,
    reportConfidence_ok _ h2, baseScore_ok_core _ _ _ _ _ _ h3 h4 h5 h6 h7 h8, Bool.and_self]

theorem environmentalScore_ok_core (r0 r1 r2 r3 r4 r5 r6 r7 r8 r9 r10 r11 r12 r13 : Nat)
    (h0 : r0 < 3) (h1 : r1 < 3) (h2 : r2 < 3) (h3 : r3 < 4) (h4 : r4 < 4) (h5 : r5 < 4)
    (h6 : r6 < 3) (h7 : r7 < 3) (h8 : r8 < 3) (h9 : r9 < 5) (h10 : r10 < 5) (h11 : r11 < 4)
    (h12 : r12 < 6) (h13 : r13 < 5) :
    GenK20.EnvironmentalScore_ok_core r0 r1 r2 r3 r4 r5 r6 r7 r8 r9 r10 r11 r12 r13 = true := by
  simp only [GenK20.EnvironmentalScore_ok_core, flet_eq, cia_ok _ h0, cia_ok _ h1, cia_ok _ h2,
    ciar_ok _ h3, ciar_ok _ h4, ciar_ok _ h5, exploitability_ok_core _ _ _ h6 h7 h8,
    exploitability_ok _ h9, remediationLevel_ok _ h10, reportConfidence_ok _ h11,
    collateralDamagePotential_ok _ h12, targetDistribution_ok _ h13, Bool.and_self]

end Proofs.NoPanic20
