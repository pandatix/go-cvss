import Cvss.Proofs.Parse4Order
import Cvss.Proofs.Table
/-!
# v4.0 parser proofs: table facts

Closed facts tying the **regenerated** `GenV40.const_header` / `GenV40.tbl_order` to the Spec tables, and
closed facts about the Spec metric table itself. All by `decide`: a changed header literal or order
table in the Go source breaks the first two after regeneration.
-/
namespace Proofs.P4
open Spec

theorem header_eq : GenV40.const_header = V4.header := by decide

/-- the generated `order` table is the specification's four groups, in Table 23 order -/
theorem order_eq : GenV40.tbl_order =
    [abvs V4.base, abvs V4.threat, abvs V4.environmental, abvs V4.supplemental] := by decide

theorem optional_flat : [abvs V4.threat, abvs V4.environmental, abvs V4.supplemental].flatten = abvs V4.optional := by
  simp [abvs, V4.optional]

theorem ord0_eq : Model.flatOrder GenV40.tbl_order = mk (abvs V4.base) (abvs V4.optional) := by
  rw [order_eq, flatOrder_eq, optional_flat]

theorem metrics_eq : V4.metrics = V4.base ++ V4.optional := by simp only [V4.metrics, V4.optional, List.append_assoc]

theorem abvs_metrics : abvs V4.metrics = abvs V4.base ++ abvs V4.optional := by
  rw [metrics_eq]; simp [abvs]

theorem base_length : (abvs V4.base).length = 11 := by decide

theorem good : Proofs.Table.GoodTable V4.metrics := ⟨by decide, by decide, by decide⟩

theorem base_mandatory : ∀ m ∈ V4.base, m.mandatory = true := by decide

theorem mandatory_base : ∀ m ∈ V4.metrics, m.mandatory = true → m ∈ V4.base := by decide

theorem unique_abv {m m' : Metric} (hm : m ∈ V4.metrics) (hm' : m' ∈ V4.metrics) (h : m.abv = m'.abv) : m = m' := by
  have := good.find_self hm
  rw [h, good.find_self hm'] at this
  exact (Option.some.inj this).symm

end Proofs.P4
