import Cvss.Proofs.Mono4Cover
/-!
# coverage of the EQ3+EQ6 transition list

The 729 vectors of the group are numbered in base 3 by the positions of their values in the value lists (most severe
first), so that an at least as severe value of one metric is a smaller digit. The summary of every vector is computed
once, as its index in `S36`, into a table of bytes (`Mono4Pack`); the neighbours of a vector are read from the table.
-/
namespace Proofs.Mono4
open Spec Spec.V4 F64

def at3 (a : String) (i : Nat) : Bytes := (Vof a).getD i []

theorem at3_sev {a : String} {x : Bytes} (hx : x ∈ Vof a) : at3 a (sev (b a) x) = x := getD_idxOf hx

theorem sev_lt3 {a : String} (ha : a ∈ ["VC", "VI", "VA", "CR", "IR", "AR"]) {x : Bytes} (hx : x ∈ Vof a) :
    sev (b a) x < 3 := by
  have hl : (["VC", "VI", "VA", "CR", "IR", "AR"].all fun a => (Vof a).length == 3) = true := by decide
  have := List.idxOf_lt_length_of_mem hx
  rwa [show (Vof a).length = 3 by simpa using List.all_eq_true.mp hl a ha] at this

def idx6 (i5 i4 i3 i2 i1 i0 : Nat) : Nat := ((((i5 * 3 + i4) * 3 + i3) * 3 + i2) * 3 + i1) * 3 + i0

def sum36At (n : Nat) : Nat × Nat × Nat :=
  sum36 (at3 "VC" (n / 243 % 3)) (at3 "VI" (n / 81 % 3)) (at3 "VA" (n / 27 % 3)) (at3 "CR" (n / 9 % 3))
    (at3 "IR" (n / 3 % 3)) (at3 "AR" (n % 3))

theorem sum36At_idx6 {i5 i4 i3 i2 i1 i0 : Nat} (h5 : i5 < 3) (h4 : i4 < 3) (h3 : i3 < 3) (h2 : i2 < 3) (h1 : i1 < 3)
    (h0 : i0 < 3) : sum36At (idx6 i5 i4 i3 i2 i1 i0) =
      sum36 (at3 "VC" i5) (at3 "VI" i4) (at3 "VA" i3) (at3 "CR" i2) (at3 "IR" i1) (at3 "AR" i0) := by
  have : idx6 i5 i4 i3 i2 i1 i0 / 243 % 3 = i5 ∧ idx6 i5 i4 i3 i2 i1 i0 / 81 % 3 = i4 ∧
      idx6 i5 i4 i3 i2 i1 i0 / 27 % 3 = i3 ∧ idx6 i5 i4 i3 i2 i1 i0 / 9 % 3 = i2 ∧
      idx6 i5 i4 i3 i2 i1 i0 / 3 % 3 = i1 ∧ idx6 i5 i4 i3 i2 i1 i0 % 3 = i0 := by unfold idx6; omega
  rw [sum36At, this.1, this.2.1, this.2.2.1, this.2.2.2.1, this.2.2.2.2.1, this.2.2.2.2.2]

/-- index in `S36` of the summary of vector `n` (39 if it is not listed) -/
def idx36 (n : Nat) : Nat := S36.idxOf (sum36At n)

def tab36 : Nat := packB (8 * 1) ((List.range 729).map idx36)

theorem digit_tab36 {n : Nat} (hn : n < 729) : digit tab36 n = idx36 n := by
  have h : ∀ m, idx36 m < 256 ^ 1 := fun m => Nat.lt_of_le_of_lt List.idxOf_le_length (by decide)
  have := lane_packB_map (List.range 729) 0 idx36 h (i := n) (by simpa using hn) (r := 0) (by decide)
  rw [Nat.one_mul, Nat.add_zero, lane_of_lt (h _)] at this
  rw [digit_eq_lane, tab36, this]
  simp [List.getD_eq_getElem?_getD, hn]

/-- from vector `n`, whose digit in question is `i`: every smaller digit `j` (vector `f j`) is a listed transition -/
def stepsListed (p m n i : Nat) (f : Nat → Nat) : Bool :=
  (List.range (i + 1)).all fun j => hasPair m (digit p n) (digit p (f j))

def cov36 : Bool :=
  flet tab36 fun p => flet (pairBits tr36) fun m =>
  (List.range 3).all fun i5 => (List.range 3).all fun i4 => (List.range 3).all fun i3 =>
  (List.range 3).all fun i2 => (List.range 3).all fun i1 => (List.range 3).all fun i0 =>
    Nat.blt (digit p (idx6 i5 i4 i3 i2 i1 i0)) 39 &&
    stepsListed p m (idx6 i5 i4 i3 i2 i1 i0) i5 (fun j => idx6 j i4 i3 i2 i1 i0) &&
    stepsListed p m (idx6 i5 i4 i3 i2 i1 i0) i4 (fun j => idx6 i5 j i3 i2 i1 i0) &&
    stepsListed p m (idx6 i5 i4 i3 i2 i1 i0) i3 (fun j => idx6 i5 i4 j i2 i1 i0) &&
    stepsListed p m (idx6 i5 i4 i3 i2 i1 i0) i2 (fun j => idx6 i5 i4 i3 j i1 i0) &&
    stepsListed p m (idx6 i5 i4 i3 i2 i1 i0) i1 (fun j => idx6 i5 i4 i3 i2 j i0) &&
    stepsListed p m (idx6 i5 i4 i3 i2 i1 i0) i0 (fun j => idx6 i5 i4 i3 i2 i1 j)

theorem cov36_ok : cov36 = true := by decide +kernel

theorem stepsListed_elim {n i : Nat} {f : Nat → Nat} (h : stepsListed tab36 (pairBits tr36) n i f = true)
    (hn : n < 729) (hf : ∀ j, j ≤ i → f j < 729) (j : Nat) (hj : j ≤ i) : (idx36 n, idx36 (f j)) ∈ tr36 := by
  have := List.all_eq_true.mp h j (List.mem_range.mpr (by omega))
  rw [digit_tab36 hn, digit_tab36 (hf j hj)] at this
  have hb : ∀ t ∈ tr36, t.2 < 64 := fun t ht => Nat.lt_trans (tr_bounds.2.2.1 t ht).2 (by decide)
  exact hasPair_elim hb (Nat.lt_of_le_of_lt List.idxOf_le_length (by decide)) this

theorem idx6_lt {i5 i4 i3 i2 i1 i0 : Nat} (h5 : i5 < 3) (h4 : i4 < 3) (h3 : i3 < 3) (h2 : i2 < 3) (h1 : i1 < 3)
    (h0 : i0 < 3) : idx6 i5 i4 i3 i2 i1 i0 < 729 := by unfold idx6; omega

theorem cov36_idx {i5 i4 i3 i2 i1 i0 : Nat} (h5 : i5 < 3) (h4 : i4 < 3) (h3 : i3 < 3) (h2 : i2 < 3) (h1 : i1 < 3)
    (h0 : i0 < 3) : idx36 (idx6 i5 i4 i3 i2 i1 i0) < 39 ∧
    (∀ j, j ≤ i5 → (idx36 (idx6 i5 i4 i3 i2 i1 i0), idx36 (idx6 j i4 i3 i2 i1 i0)) ∈ tr36) ∧
    (∀ j, j ≤ i4 → (idx36 (idx6 i5 i4 i3 i2 i1 i0), idx36 (idx6 i5 j i3 i2 i1 i0)) ∈ tr36) ∧
    (∀ j, j ≤ i3 → (idx36 (idx6 i5 i4 i3 i2 i1 i0), idx36 (idx6 i5 i4 j i2 i1 i0)) ∈ tr36) ∧
    (∀ j, j ≤ i2 → (idx36 (idx6 i5 i4 i3 i2 i1 i0), idx36 (idx6 i5 i4 i3 j i1 i0)) ∈ tr36) ∧
    (∀ j, j ≤ i1 → (idx36 (idx6 i5 i4 i3 i2 i1 i0), idx36 (idx6 i5 i4 i3 i2 j i0)) ∈ tr36) ∧
    (∀ j, j ≤ i0 → (idx36 (idx6 i5 i4 i3 i2 i1 i0), idx36 (idx6 i5 i4 i3 i2 i1 j)) ∈ tr36) := by
  have h := cov36_ok
  unfold cov36 at h
  rw [flet_eq, flet_eq] at h
  have := List.all_eq_true.mp (List.all_eq_true.mp (List.all_eq_true.mp (List.all_eq_true.mp (List.all_eq_true.mp
    (List.all_eq_true.mp h i5 (List.mem_range.mpr h5)) i4 (List.mem_range.mpr h4)) i3 (List.mem_range.mpr h3))
    i2 (List.mem_range.mpr h2)) i1 (List.mem_range.mpr h1)) i0 (List.mem_range.mpr h0)
  simp only [Bool.and_eq_true] at this
  have hn := idx6_lt h5 h4 h3 h2 h1 h0
  refine ⟨?_, stepsListed_elim this.1.1.1.1.1.2 hn fun j hj => idx6_lt (by omega) h4 h3 h2 h1 h0,
    stepsListed_elim this.1.1.1.1.2 hn fun j hj => idx6_lt h5 (by omega) h3 h2 h1 h0,
    stepsListed_elim this.1.1.1.2 hn fun j hj => idx6_lt h5 h4 (by omega) h2 h1 h0,
    stepsListed_elim this.1.1.2 hn fun j hj => idx6_lt h5 h4 h3 (by omega) h1 h0,
    stepsListed_elim this.1.2 hn fun j hj => idx6_lt h5 h4 h3 h2 (by omega) h0,
    stepsListed_elim this.2 hn fun j hj => idx6_lt h5 h4 h3 h2 h1 (by omega)⟩
  rw [← digit_tab36 hn]
  exact Nat.le_of_ble_eq_true this.1.1.1.1.1.1

theorem listed36 {n n' : Nat} (hn : idx36 n < 39) (hn' : idx36 n' < 39) (h : (idx36 n, idx36 n') ∈ tr36) :
    Listed S36 (0, 0, 0) tr36 (sum36At n) (sum36At n') :=
  ⟨_, h, getD_idxOf (List.idxOf_lt_length_iff.mp hn), getD_idxOf (List.idxOf_lt_length_iff.mp hn')⟩

/-- `N` is the least severe value of `VC`, `VI`, `VA` -/
theorem N_stays {a : String} (ha : a ∈ ["VC", "VI", "VA"]) {x old : Bytes} (hx : x ∈ Vof a) (ho : old ∈ Vof a)
    (hs : sev (b a) x ≤ sev (b a) old) (hn : is x "N" = true) : is old "N" = true := by
  have ht : (["VC", "VI", "VA"].all fun a => (Vof a).all fun old => (Vof a).all fun x =>
      !(Nat.ble (sev (b a) x) (sev (b a) old)) || !(is x "N") || is old "N") = true := by decide
  have := List.all_eq_true.mp (List.all_eq_true.mp (List.all_eq_true.mp ht a ha) old ho) x hx
  rw [Nat.ble_eq_true_of_le hs, hn] at this
  simpa using this

theorem steps36 {a : String} {imp : Bool} {old : Bytes} {s : Nat × Nat × Nat} {f : Bytes → Nat × Nat × Nat}
    (ho : old ∈ Vof a) (hN : imp = true → a ∈ ["VC", "VI", "VA"])
    (h : ∀ x ∈ Vof a, sev (b a) x ≤ sev (b a) old → Listed S36 (0, 0, 0) tr36 s (f x)) :
    Steps S36 (0, 0, 0) tr36 a imp old s f :=
  fun x hx hs => ⟨h x hx hs, fun hi hn => N_stays (hN hi) hx ho hs hn⟩

def vecNo (vc vi va cr ir ar : Bytes) : Nat :=
  idx6 (sev (b "VC") vc) (sev (b "VI") vi) (sev (b "VA") va) (sev (b "CR") cr) (sev (b "IR") ir) (sev (b "AR") ar)

section
variable {vc vi va cr ir ar : Bytes} (hvc : vc ∈ Vof "VC") (hvi : vi ∈ Vof "VI") (hva : va ∈ Vof "VA")
  (hcr : cr ∈ Vof "CR") (hir : ir ∈ Vof "IR") (har : ar ∈ Vof "AR")
include hvc hvi hva hcr hir har

theorem sum36At_vecNo : sum36At (vecNo vc vi va cr ir ar) = sum36 vc vi va cr ir ar := by
  rw [vecNo, sum36At_idx6 (sev_lt3 (by decide) hvc) (sev_lt3 (by decide) hvi) (sev_lt3 (by decide) hva)
    (sev_lt3 (by decide) hcr) (sev_lt3 (by decide) hir) (sev_lt3 (by decide) har),
    at3_sev hvc, at3_sev hvi, at3_sev hva, at3_sev hcr, at3_sev hir, at3_sev har]

theorem cov36_at :
    sum36 vc vi va cr ir ar ∈ S36 ∧
    Steps S36 (0, 0, 0) tr36 "VC" true vc (sum36 vc vi va cr ir ar) (fun x => sum36 x vi va cr ir ar) ∧
    Steps S36 (0, 0, 0) tr36 "VI" true vi (sum36 vc vi va cr ir ar) (fun x => sum36 vc x va cr ir ar) ∧
    Steps S36 (0, 0, 0) tr36 "VA" true va (sum36 vc vi va cr ir ar) (fun x => sum36 vc vi x cr ir ar) ∧
    Steps S36 (0, 0, 0) tr36 "CR" false cr (sum36 vc vi va cr ir ar) (fun x => sum36 vc vi va x ir ar) ∧
    Steps S36 (0, 0, 0) tr36 "IR" false ir (sum36 vc vi va cr ir ar) (fun x => sum36 vc vi va cr x ar) ∧
    Steps S36 (0, 0, 0) tr36 "AR" false ar (sum36 vc vi va cr ir ar) (fun x => sum36 vc vi va cr ir x) := by
  have c := cov36_idx (sev_lt3 (by decide) hvc) (sev_lt3 (by decide) hvi) (sev_lt3 (by decide) hva)
    (sev_lt3 (by decide) hcr) (sev_lt3 (by decide) hir) (sev_lt3 (by decide) har)
  have e := sum36At_vecNo hvc hvi hva hcr hir har
  -- the vector after the step has a listed summary as well
  have c' : ∀ {vc vi va cr ir ar : Bytes}, vc ∈ Vof "VC" → vi ∈ Vof "VI" → va ∈ Vof "VA" → cr ∈ Vof "CR" →
      ir ∈ Vof "IR" → ar ∈ Vof "AR" → idx36 (vecNo vc vi va cr ir ar) < 39 := fun h5 h4 h3 h2 h1 h0 =>
    (cov36_idx (sev_lt3 (by decide) h5) (sev_lt3 (by decide) h4) (sev_lt3 (by decide) h3) (sev_lt3 (by decide) h2)
      (sev_lt3 (by decide) h1) (sev_lt3 (by decide) h0)).1
  refine ⟨e ▸ List.idxOf_lt_length_iff.mp (c' hvc hvi hva hcr hir har), ?_, ?_, ?_, ?_, ?_, ?_⟩
  · refine steps36 hvc (fun _ => by decide) fun x hx hs => ?_
    have := listed36 (c' hvc hvi hva hcr hir har) (c' hx hvi hva hcr hir har) (c.2.1 _ hs)
    rwa [e, sum36At_vecNo hx hvi hva hcr hir har] at this
  · refine steps36 hvi (fun _ => by decide) fun x hx hs => ?_
    have := listed36 (c' hvc hvi hva hcr hir har) (c' hvc hx hva hcr hir har) (c.2.2.1 _ hs)
    rwa [e, sum36At_vecNo hvc hx hva hcr hir har] at this
  · refine steps36 hva (fun _ => by decide) fun x hx hs => ?_
    have := listed36 (c' hvc hvi hva hcr hir har) (c' hvc hvi hx hcr hir har) (c.2.2.2.1 _ hs)
    rwa [e, sum36At_vecNo hvc hvi hx hcr hir har] at this
  · refine steps36 hcr (nofun) fun x hx hs => ?_
    have := listed36 (c' hvc hvi hva hcr hir har) (c' hvc hvi hva hx hir har) (c.2.2.2.2.1 _ hs)
    rwa [e, sum36At_vecNo hvc hvi hva hx hir har] at this
  · refine steps36 hir (nofun) fun x hx hs => ?_
    have := listed36 (c' hvc hvi hva hcr hir har) (c' hvc hvi hva hcr hx har) (c.2.2.2.2.2.1 _ hs)
    rwa [e, sum36At_vecNo hvc hvi hva hcr hx har] at this
  · refine steps36 har (nofun) fun x hx hs => ?_
    have := listed36 (c' hvc hvi hva hcr hir har) (c' hvc hvi hva hcr hir hx) (c.2.2.2.2.2.2 _ hs)
    rwa [e, sum36At_vecNo hvc hvi hva hcr hir hx] at this

end

end Proofs.Mono4
