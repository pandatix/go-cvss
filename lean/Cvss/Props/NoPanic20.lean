import Cvss.Proofs.NoPanic20Core
import Cvss.Spec.Metrics
/-!
# NoPanic (CVSS v2.0): no scoring or serialising method of `CVSS20` panics on a well-formed object

`GenK20.X_ok` (regenerated from the Go source by `tools/okgen` + the translator on every check run) returns `true`
exactly when method `X` of package `20` returns normally. For every well-formed object `c` (`c.wf = true`, i.e.
every field holds a code of one of its metric's values; `Bits20.reachable_iff_wf`: exactly the objects reachable
through the API) every twin returns `true`.

The only `panic`s of the package are the `default:` arms of the ten weight helpers (`cia`, `accessVector`, …, reached
on a field code outside the metric's values) and `get` (reached when `Get` reports an error, i.e. on an abbreviation
that is not a metric). The proofs unfold the regenerated twins down to those and use that `wf` bounds every code
(`Proofs.Score2.wf_inRange`).
-/
namespace Props.NoPanic20
open Model Proofs.NoPanic20 Proofs.Score2
open Spec (b isMetric)

/-! ## the K copies of the ordinary functions are the V ones -/
theorem cia_tie : GenK20.cia = GenV20.cia := rfl
theorem accessVector_tie : GenK20.accessVector = GenV20.accessVector := rfl
theorem accessComplexity_tie : GenK20.accessComplexity = GenV20.accessComplexity := rfl
theorem authentication_tie : GenK20.authentication = GenV20.authentication := rfl
theorem ciar_tie : GenK20.ciar = GenV20.ciar := rfl
theorem exploitability_tie : GenK20.exploitability = GenV20.exploitability := rfl
theorem remediationLevel_tie : GenK20.remediationLevel = GenV20.remediationLevel := rfl
theorem reportConfidence_tie : GenK20.reportConfidence = GenV20.reportConfidence := rfl
theorem collateralDamagePotential_tie : GenK20.collateralDamagePotential = GenV20.collateralDamagePotential := rfl
theorem targetDistribution_tie : GenK20.targetDistribution = GenV20.targetDistribution := rfl
theorem roundTo1Decimal_tie : GenK20.roundTo1Decimal = GenV20.roundTo1Decimal := rfl
theorem impact_tie : GenK20.Impact = GenV20.Impact := rfl
theorem exploitability_method_tie : GenK20.Exploitability = GenV20.Exploitability := rfl
theorem get_tie : GenK20.Get = GenV20.Get := rfl
theorem get_core_tie : GenK20.Get_core = GenV20.Get_core := rfl
theorem app_tie : GenK20.app = GenV20.app := rfl
theorem lenVec_tie : GenK20.lenVec = GenV20.lenVec := rfl

theorem impact_ok (c : O20) (h : c.wf = true) : GenK20.Impact_ok c.u0 c.u1 c.u2 c.u3 = true :=
  have r := wf_inRange c h
  impact_ok_core _ _ _ r.hC r.hI r.hA

theorem exploitability_ok (c : O20) (h : c.wf = true) : GenK20.Exploitability_ok c.u0 c.u1 c.u2 c.u3 = true :=
  have r := wf_inRange c h
  exploitability_ok_core _ _ _ r.hAV r.hAC r.hAu

theorem baseScore_ok (c : O20) (h : c.wf = true) : GenK20.BaseScore_ok c.u0 c.u1 c.u2 c.u3 = true :=
  have r := wf_inRange c h
  baseScore_ok_core _ _ _ _ _ _ r.hC r.hI r.hA r.hAV r.hAC r.hAu

theorem temporalScore_ok (c : O20) (h : c.wf = true) : GenK20.TemporalScore_ok c.u0 c.u1 c.u2 c.u3 = true :=
  have r := wf_inRange c h
  temporalScore_ok_core _ _ _ _ _ _ _ _ _ r.hE r.hRL r.hRC r.hC r.hI r.hA r.hAV r.hAC r.hAu

theorem environmentalScore_ok (c : O20) (h : c.wf = true) :
    GenK20.EnvironmentalScore_ok c.u0 c.u1 c.u2 c.u3 = true :=
  have r := wf_inRange c h
  environmentalScore_ok_core _ _ _ _ _ _ _ _ _ _ _ _ _ _ r.hC r.hI r.hA r.hCR r.hIR r.hAR r.hAV r.hAC r.hAu
    r.hE r.hRL r.hRC r.hCDP r.hTD

/-- the twin of the internal `get` is "`Get` returned a nil error" (by unfolding the regenerated twin) -/
theorem get_ok_eq (c : O20) (a : Spec.Bytes) :
    GenK20.get_ok c.u0 c.u1 c.u2 c.u3 a = Go.Err.beq (c.get a).2 Go.errNil := by
  show GenK20.get_ok_core _ _ _ _ _ _ _ _ _ _ _ _ _ _ a = Go.Err.beq (GenV20.Get_core _ _ _ _ _ _ _ _ _ _ _ _ _ _ a).2 _
  rw [GenK20.get_ok_core, get_core_tie]
  generalize GenV20.Get_core _ _ _ _ _ _ _ _ _ _ _ _ _ _ a = p
  obtain ⟨s, e⟩ := p
  cases hb : Go.Err.beq e Go.errNil <;> simp [hb]

/-- on ANY state (well formed or not) the internal `get` panics exactly on the abbreviations that are not metrics -/
theorem get_ok_iff (c : O20) (a : Spec.Bytes) :
    GenK20.get_ok c.u0 c.u1 c.u2 c.u3 a = true ↔ isMetric Spec.V2.metrics a = true := by
  rw [get_ok_eq, ← Bits20.get_ok_iff c a, Go.Err.beq, decide_eq_true_iff]

theorem get_ok (c : O20) (_h : c.wf = true) (abv : Spec.Bytes) (hm : abv ∈ Spec.V2.metrics.map (·.abv)) :
    GenK20.get_ok c.u0 c.u1 c.u2 c.u3 abv = true := by
  refine (get_ok_iff c abv).2 ?_
  have : ∀ a ∈ Spec.V2.metrics.map (·.abv), isMetric Spec.V2.metrics a = true := by decide
  exact this abv hm

/-- … spelled out: the 14 abbreviations -/
theorem get_ok_all (c : O20) (h : c.wf = true) :
    ∀ abv ∈ [b "AV", b "AC", b "Au", b "C", b "I", b "A", b "E", b "RL", b "RC", b "CDP", b "TD", b "CR", b "IR", b "AR"],
      GenK20.get_ok c.u0 c.u1 c.u2 c.u3 abv = true :=
  fun abv hm => get_ok c h abv (by
    have e : [b "AV", b "AC", b "Au", b "C", b "I", b "A", b "E", b "RL", b "RC", b "CDP", b "TD", b "CR", b "IR", b "AR"]
        = Spec.V2.metrics.map (·.abv) := by decide
    exact e ▸ hm)

/-- the core form used inside `lenVec_ok_core`/`Vector_ok_core` -/
theorem get_ok_core_metric (c : O20) (a : Spec.Bytes) (hm : isMetric Spec.V2.metrics a = true) :
    GenK20.get_ok_core (cAV c) (cAC c) (cAu c) (cC c) (cI c) (cA c) (cE c) (cRL c) (cRC c) (cCDP c) (cTD c)
      (cCR c) (cIR c) (cAR c) a = true :=
  (get_ok_iff c a).2 hm

/-- `lenVec` does not panic (on any state: it only calls `get` on metrics) -/
theorem lenVec_ok_any (c : O20) : GenK20.lenVec_ok c.u0 c.u1 c.u2 c.u3 = true := by
  show GenK20.lenVec_ok_core (cAV c) (cAC c) (cAu c) (cC c) (cI c) (cA c) (cE c) (cRL c) (cRC c) (cCDP c) (cTD c)
      (cCR c) (cIR c) (cAR c) = true
  have g := fun a hm => get_ok_core_metric c a hm
  simp only [GenK20.lenVec_ok_core, Bits.flet_eq, g _ (by decide : isMetric Spec.V2.metrics [69] = true),
    g _ (by decide : isMetric Spec.V2.metrics [82, 76] = true), g _ (by decide : isMetric Spec.V2.metrics [82, 67] = true),
    g _ (by decide : isMetric Spec.V2.metrics [67, 68, 80] = true), g _ (by decide : isMetric Spec.V2.metrics [84, 68] = true),
    g _ (by decide : isMetric Spec.V2.metrics [67, 82] = true), g _ (by decide : isMetric Spec.V2.metrics [73, 82] = true),
    g _ (by decide : isMetric Spec.V2.metrics [65, 82] = true), Bool.and_self]

theorem lenVec_ok (c : O20) (_h : c.wf = true) : GenK20.lenVec_ok c.u0 c.u1 c.u2 c.u3 = true := lenVec_ok_any c

/-- `Vector()` does not panic (on any state) -/
theorem vector_ok_any (c : O20) : GenK20.Vector_ok c.u0 c.u1 c.u2 c.u3 = true := by
  show GenK20.Vector_ok_core (cAV c) (cAC c) (cAu c) (cC c) (cI c) (cA c) (cE c) (cRL c) (cRC c) (cCDP c) (cTD c)
      (cCR c) (cIR c) (cAR c) = true
  have g := fun a hm => get_ok_core_metric c a hm
  have l : GenK20.lenVec_ok_core (cAV c) (cAC c) (cAu c) (cC c) (cI c) (cA c) (cE c) (cRL c) (cRC c) (cCDP c) (cTD c)
      (cCR c) (cIR c) (cAR c) = true := lenVec_ok_any c
  simp only [GenK20.Vector_ok_core, Bits.flet_eq, l,
    g _ (by decide : isMetric Spec.V2.metrics [65, 86] = true), g _ (by decide : isMetric Spec.V2.metrics [65, 67] = true),
    g _ (by decide : isMetric Spec.V2.metrics [65, 117] = true), g _ (by decide : isMetric Spec.V2.metrics [67] = true),
    g _ (by decide : isMetric Spec.V2.metrics [73] = true), g _ (by decide : isMetric Spec.V2.metrics [65] = true),
    g _ (by decide : isMetric Spec.V2.metrics [69] = true),
    g _ (by decide : isMetric Spec.V2.metrics [82, 76] = true), g _ (by decide : isMetric Spec.V2.metrics [82, 67] = true),
    g _ (by decide : isMetric Spec.V2.metrics [67, 68, 80] = true), g _ (by decide : isMetric Spec.V2.metrics [84, 68] = true),
    g _ (by decide : isMetric Spec.V2.metrics [67, 82] = true), g _ (by decide : isMetric Spec.V2.metrics [73, 82] = true),
    g _ (by decide : isMetric Spec.V2.metrics [65, 82] = true), Bool.and_self]

theorem vector_ok (c : O20) (_h : c.wf = true) : GenK20.Vector_ok c.u0 c.u1 c.u2 c.u3 = true := vector_ok_any c

/-- **NoPanic (v2.0)**: on a well-formed object no exported or internal method panics -/
theorem no_panic (c : O20) (h : c.wf = true) :
    GenK20.BaseScore_ok c.u0 c.u1 c.u2 c.u3 = true ∧
    GenK20.TemporalScore_ok c.u0 c.u1 c.u2 c.u3 = true ∧
    GenK20.EnvironmentalScore_ok c.u0 c.u1 c.u2 c.u3 = true ∧
    GenK20.Impact_ok c.u0 c.u1 c.u2 c.u3 = true ∧
    GenK20.Exploitability_ok c.u0 c.u1 c.u2 c.u3 = true ∧
    GenK20.Vector_ok c.u0 c.u1 c.u2 c.u3 = true ∧
    GenK20.lenVec_ok c.u0 c.u1 c.u2 c.u3 = true ∧
    (∀ m ∈ Spec.V2.metrics, GenK20.get_ok c.u0 c.u1 c.u2 c.u3 m.abv = true) :=
  ⟨baseScore_ok c h, temporalScore_ok c h, environmentalScore_ok c h, impact_ok c h, exploitability_ok c h,
   vector_ok c h, lenVec_ok c h, fun m hm => get_ok c h m.abv (List.mem_map_of_mem hm)⟩

/-- the hypothesis is satisfiable by a non-trivial object (`AV:N/AC:L/Au:N/C:C/I:C/A:C/E:H/RL:U/RC:C/CDP:H/TD:H/CR:H/IR:H/AR:H`) -/
example : (⟨0xAA, 0xA9, 0x3B, 0x3F⟩ : O20).wf = true := by decide +kernel

/-! ## the functions without a twin -/

/-- The functions of package `20` in which okgen found no panic source at all (no `panic`, no index expression, no call
    of a function that can panic), so that no twin was generated: they are panic-free by construction.
    Of the API these are **`Get`** and **`Set`** (on every state and every argument); further the `Error` method of
    `ErrInvalidMetric` and the internal `app`, `roundTo1Decimal`, `validate`.
    `Vector` is NOT in the list — it goes through the panicking `get` — and is covered by `vector_ok` above (v2.0 has no
    `Rating`/`Nomenclature`). `ParseVector`/`split` are handled by the parser-mode translator (`Gen/P20.lean`), not here. -/
theorem panic_free : GenK20.tbl_okPanicFree =
    [b "CVSS20.Get", b "CVSS20.Set", b "ErrInvalidMetric.Error", b "app", b "roundTo1Decimal", b "validate"] := by
  decide

/-! ## the twins do fail outside the well-formed objects (the theorems above are not vacuous) -/

/-- `u0 = 0xFF`: AV, AC, Au, C all hold the code 3, which none of the weight helpers accepts -/
example : (⟨0xFF, 0, 0, 0⟩ : O20).wf = false := by decide
example : GenK20.BaseScore_ok 0xFF 0 0 0 = false := by decide +kernel
example : GenK20.Impact_ok 0xFF 0 0 0 = false := by decide +kernel
example : GenK20.Exploitability_ok 0xFF 0 0 0 = false := by decide +kernel
example : GenK20.TemporalScore_ok 0xFF 0 0 0 = false := by decide +kernel
example : GenK20.EnvironmentalScore_ok 0xFF 0 0 0 = false := by decide +kernel
/-- only the temporal metric E out of range (code 7): base score fine, temporal score panics -/
example : GenK20.BaseScore_ok 0 0x0E 0 0 = true ∧ GenK20.TemporalScore_ok 0 0x0E 0 0 = false := by decide +kernel
/-- only the environmental metric CDP out of range (code 6): temporal score fine, environmental score panics -/
example : GenK20.TemporalScore_ok 0 0 0x0C 0 = true ∧ GenK20.EnvironmentalScore_ok 0 0 0x0C 0 = false := by
  decide +kernel
/-- the internal `get` panics on an abbreviation that is not a metric, even on the zero object -/
example : GenK20.get_ok 0 0 0 0 (b "XX") = false := by decide +kernel
/-- the weight helpers reject exactly the codes outside their metric (`Proofs.NoPanic20.helpers_exact`) -/
example : GenK20.cia_ok 3 = false ∧ GenK20.exploitability_ok 5 = false ∧ GenK20.collateralDamagePotential_ok 6 = false := by
  decide

end Props.NoPanic20
