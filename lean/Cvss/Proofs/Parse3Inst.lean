import Cvss.Proofs.Parse3Loop
/-!
# v3 parser proofs: tying `Model.parse30` / `Model.parse31` to the generic `Model.parse3 (hdr ++ "/")`

The only facts about the generated code needed here are the two header constants, checked by evaluation
(a 3.0/3.1 copy-paste slip, a shortened prefix or a missing `/` in `/repo/30|31/cvss3x.go` makes these fail).
-/
namespace Proofs.Parse3
open Model (O30 O31)

theorem const_header30 : GenV30.const_header = Spec.V3.header30 ++ [47] := by decide
theorem const_header31 : GenV31.const_header = Spec.V3.header31 ++ [47] := by decide

theorem parse30_eq (s : Model.Bytes) :
    Model.parse30 s = Model.parse3 (Spec.V3.header30 ++ [47]) O30.zero O30.set s := by
  unfold Model.parse30; rw [const_header30]

theorem parse31_eq (s : Model.Bytes) :
    Model.parse31 s = Model.parse3 (Spec.V3.header31 ++ [47]) O31.zero O31.set s := by
  unfold Model.parse31; rw [const_header31]

theorem parse30_eq_K (K : Contract O30 Spec.V3.metrics) (hz : K.zero = O30.zero) (hs : K.set = O30.set)
    (s : Model.Bytes) : Model.parse30 s = Model.parse3 (Spec.V3.header30 ++ [47]) K.zero K.set s := by
  rw [parse30_eq, hz, hs]

theorem parse31_eq_K (K : Contract O31 Spec.V3.metrics) (hz : K.zero = O31.zero) (hs : K.set = O31.set)
    (s : Model.Bytes) : Model.parse31 s = Model.parse3 (Spec.V3.header31 ++ [47]) K.zero K.set s := by
  rw [parse31_eq, hz, hs]

end Proofs.Parse3
