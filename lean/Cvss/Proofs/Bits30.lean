import Cvss.Proofs.BitsCommon
import Cvss.Proofs.BitField
/-!
# CVSS v3.0: the generated bit-field `Get`/`Set` satisfy the contract (C07, C09)

`codes` and `upd` transcribe the field extraction of `GenV30.Get` and the byte updates of `GenV30.Set`;
`get_core`/`set_known` tie them to the generated definitions (by unfolding those), so any change of a mask,
shift, literal or value list in the Go source breaks a proof below.  The bit facts are proved for ALL
`Nat`-valued fields (in particular all byte states): writing a field and reading the codes back is an instance of
the lemmas of `BitField.lean` per arm; only the converse, that the codes determine the bytes, enumerates a byte.
(`Bits31.lean` carries all of it over to the v3.1 package, whose `Get` and `Set` are the same terms.)
-/
namespace Bits30
open Bits Model BitField
open Spec (Metric legal isMetric)

abbrev ms : List Metric := Spec.V3.metrics

theorem tableOK : TableOK ms where
  nodup := by decide +kernel
  vne := by decide +kernel

/-- field codes in Spec table order, as `GenV30.Get` extracts them -/
def codes : O30 → List Nat
  | ⟨u0, u1, u2, u3, u4, u5⟩ =>
    [ Nat.shiftRight (Nat.land u0 192) 6,
      Nat.shiftRight (Nat.land u0 32) 5,
      Nat.shiftRight (Nat.land u0 24) 3,
      Nat.shiftRight (Nat.land u0 4) 2,
      Nat.shiftRight (Nat.land u0 2) 1,
      Nat.lor (Nat.mod (Nat.shiftLeft (Nat.land u0 1) 1) 256) (Nat.shiftRight (Nat.land u1 128) 7),
      Nat.shiftRight (Nat.land u1 96) 5,
      Nat.shiftRight (Nat.land u1 24) 3,
      Nat.land u1 7,
      Nat.shiftRight (Nat.land u2 224) 5,
      Nat.shiftRight (Nat.land u2 24) 3,
      Nat.shiftRight (Nat.land u2 6) 1,
      Nat.lor (Nat.mod (Nat.shiftLeft (Nat.land u2 1) 1) 256) (Nat.shiftRight (Nat.land u3 128) 7),
      Nat.shiftRight (Nat.land u3 96) 5,
      Nat.shiftRight (Nat.land u3 28) 2,
      Nat.land u3 3,
      Nat.shiftRight (Nat.land u4 192) 6,
      Nat.shiftRight (Nat.land u4 48) 4,
      Nat.shiftRight (Nat.land u4 12) 2,
      Nat.land u4 3,
      Nat.shiftRight (Nat.land u5 192) 6,
      Nat.shiftRight (Nat.land u5 48) 4 ]

def upd : Nat → O30 → Nat → O30
  | 0, ⟨u0, u1, u2, u3, u4, u5⟩, k => ⟨Nat.lor (Nat.land u0 63) (Nat.mod (Nat.shiftLeft k 6) 256), u1, u2, u3, u4, u5⟩  -- AV
  | 1, ⟨u0, u1, u2, u3, u4, u5⟩, k => ⟨Nat.lor (Nat.land u0 223) (Nat.mod (Nat.shiftLeft k 5) 256), u1, u2, u3, u4, u5⟩  -- AC
  | 2, ⟨u0, u1, u2, u3, u4, u5⟩, k => ⟨Nat.lor (Nat.land u0 231) (Nat.mod (Nat.shiftLeft k 3) 256), u1, u2, u3, u4, u5⟩  -- PR
  | 3, ⟨u0, u1, u2, u3, u4, u5⟩, k => ⟨Nat.lor (Nat.land u0 251) (Nat.mod (Nat.shiftLeft k 2) 256), u1, u2, u3, u4, u5⟩  -- UI
  | 4, ⟨u0, u1, u2, u3, u4, u5⟩, k => ⟨Nat.lor (Nat.land u0 253) (Nat.mod (Nat.shiftLeft k 1) 256), u1, u2, u3, u4, u5⟩  -- S
  | 5, ⟨u0, u1, u2, u3, u4, u5⟩, k => ⟨Nat.lor (Nat.land u0 254) (Nat.shiftRight (Nat.land k 2) 1), Nat.lor (Nat.land u1 127) (Nat.mod (Nat.shiftLeft (Nat.land k 1) 7) 256), u2, u3, u4, u5⟩  -- C
  | 6, ⟨u0, u1, u2, u3, u4, u5⟩, k => ⟨u0, Nat.lor (Nat.land u1 159) (Nat.mod (Nat.shiftLeft k 5) 256), u2, u3, u4, u5⟩  -- I
  | 7, ⟨u0, u1, u2, u3, u4, u5⟩, k => ⟨u0, Nat.lor (Nat.land u1 231) (Nat.mod (Nat.shiftLeft k 3) 256), u2, u3, u4, u5⟩  -- A
  | 8, ⟨u0, u1, u2, u3, u4, u5⟩, k => ⟨u0, Nat.lor (Nat.land u1 248) k, u2, u3, u4, u5⟩  -- E
  | 9, ⟨u0, u1, u2, u3, u4, u5⟩, k => ⟨u0, u1, Nat.lor (Nat.land u2 31) (Nat.mod (Nat.shiftLeft k 5) 256), u3, u4, u5⟩  -- RL
  | 10, ⟨u0, u1, u2, u3, u4, u5⟩, k => ⟨u0, u1, Nat.lor (Nat.land u2 231) (Nat.mod (Nat.shiftLeft k 3) 256), u3, u4, u5⟩  -- RC
  | 11, ⟨u0, u1, u2, u3, u4, u5⟩, k => ⟨u0, u1, Nat.lor (Nat.land u2 249) (Nat.mod (Nat.shiftLeft k 1) 256), u3, u4, u5⟩  -- CR
  | 12, ⟨u0, u1, u2, u3, u4, u5⟩, k => ⟨u0, u1, Nat.lor (Nat.land u2 254) (Nat.shiftRight (Nat.land k 2) 1), Nat.lor (Nat.land u3 127) (Nat.mod (Nat.shiftLeft (Nat.land k 1) 7) 256), u4, u5⟩  -- IR
  | 13, ⟨u0, u1, u2, u3, u4, u5⟩, k => ⟨u0, u1, u2, Nat.lor (Nat.land u3 159) (Nat.mod (Nat.shiftLeft k 5) 256), u4, u5⟩  -- AR
  | 14, ⟨u0, u1, u2, u3, u4, u5⟩, k => ⟨u0, u1, u2, Nat.lor (Nat.land u3 227) (Nat.mod (Nat.shiftLeft k 2) 256), u4, u5⟩  -- MAV
  | 15, ⟨u0, u1, u2, u3, u4, u5⟩, k => ⟨u0, u1, u2, Nat.lor (Nat.land u3 252) k, u4, u5⟩  -- MAC
  | 16, ⟨u0, u1, u2, u3, u4, u5⟩, k => ⟨u0, u1, u2, u3, Nat.lor (Nat.land u4 63) (Nat.mod (Nat.shiftLeft k 6) 256), u5⟩  -- MPR
  | 17, ⟨u0, u1, u2, u3, u4, u5⟩, k => ⟨u0, u1, u2, u3, Nat.lor (Nat.land u4 207) (Nat.mod (Nat.shiftLeft k 4) 256), u5⟩  -- MUI
  | 18, ⟨u0, u1, u2, u3, u4, u5⟩, k => ⟨u0, u1, u2, u3, Nat.lor (Nat.land u4 243) (Nat.mod (Nat.shiftLeft k 2) 256), u5⟩  -- MS
  | 19, ⟨u0, u1, u2, u3, u4, u5⟩, k => ⟨u0, u1, u2, u3, Nat.lor (Nat.land u4 252) k, u5⟩  -- MC
  | 20, ⟨u0, u1, u2, u3, u4, u5⟩, k => ⟨u0, u1, u2, u3, u4, Nat.lor (Nat.land u5 63) (Nat.mod (Nat.shiftLeft k 6) 256)⟩  -- MI
  | 21, ⟨u0, u1, u2, u3, u4, u5⟩, k => ⟨u0, u1, u2, u3, u4, Nat.lor (Nat.land u5 192) (Nat.mod (Nat.shiftLeft k 4) 256)⟩  -- MA
  | _, c, _ => c

def core (rs : List Nat) (abv : Bytes) : Bytes × Go.Err :=
  GenV30.Get_core (rs.getD 0 0) (rs.getD 1 0) (rs.getD 2 0) (rs.getD 3 0) (rs.getD 4 0) (rs.getD 5 0) (rs.getD 6 0)
    (rs.getD 7 0) (rs.getD 8 0) (rs.getD 9 0) (rs.getD 10 0) (rs.getD 11 0) (rs.getD 12 0) (rs.getD 13 0)
    (rs.getD 14 0) (rs.getD 15 0) (rs.getD 16 0) (rs.getD 17 0) (rs.getD 18 0) (rs.getD 19 0) (rs.getD 20 0)
    (rs.getD 21 0) abv

theorem get_core (c : O30) (abv : Bytes) : c.get abv = core (codes c) abv := by
  obtain ⟨u0, u1, u2, u3, u4, u5⟩ := c; rfl

theorem codes_len (c : O30) : (codes c).length = ms.length := by
  obtain ⟨u0, u1, u2, u3, u4, u5⟩ := c; rfl

/-- the value strings of metric `j` in the code's numbering, read off the generated `Get_core`
    (decode codes 0, 1, … until the empty string) -/
def vals (j : Nat) : List Bytes :=
  ((List.range 8).map fun x => (core (List.replicate 22 x) (mAt ms j).abv).1).takeWhile (fun v => !v.isEmpty)

theorem vals_nodup : ∀ j, j < 22 → (vals j).Nodup := by decide +kernel
theorem vals_len : ∀ j, j < 22 → (vals j).length ≤ 256 := by decide +kernel
theorem vals_spec : ∀ j, j < 22 → ∀ v, v ∈ vals j ↔ v ∈ (mAt ms j).values := by
  have h : ∀ j, j < 22 → sameMembers (vals j) (mAt ms j).values = true := by decide +kernel
  exact fun j hj => sameMembers_iff (h j hj)

theorem core_known : ∀ j, j < 22 → ∀ rs : List Nat,
    core rs (mAt ms j).abv = ((vals j).getD (rs.getD j 0) [], Go.errNil) := by
  split_lt <;> (
    intro rs
    simp only [core, GenV30.Get_core, flet_eq, reduceStrEq, cond_true, cond_false]
    generalize rs.getD _ 0 = x
    match x with
    | 0 | 1 | 2 | 3 | 4 | 5 | 6 | 7 => rfl
    | n+8 => rfl)

theorem get_known (j : Nat) (hj : j < ms.length) (c : O30) :
    c.get (mAt ms j).abv = ((vals j).getD ((codes c).getD j 0) [], Go.errNil) := by
  rw [get_core]; exact core_known j hj _

theorem get_default (c : O30) (a : Bytes) (h : a ∉ ms.map (·.abv)) : c.get a = ([], eInvalidMetric a) := by
  obtain ⟨u0, u1, u2, u3, u4, u5⟩ := c
  simp (disch := exact ne_of_not_mem h (by decide)) only
    [O30.get, GenV30.Get, GenV30.Get_core, cond_strEq_ne]
  rfl

theorem set_default (c : O30) (a v : Bytes) (h : a ∉ ms.map (·.abv)) : c.set a v = (c, eInvalidMetric a) := by
  obtain ⟨u0, u1, u2, u3, u4, u5⟩ := c
  simp (disch := exact ne_of_not_mem h (by decide)) only
    [O30.set, GenV30.Set, cond_strEq_ne]
  rfl

theorem set_known : ∀ j, j < 22 → ∀ (c : O30) (v : Bytes), c.set (mAt ms j).abv v =
    (match validate v (vals j) with
     | (k, err) => cond (!(Go.Err.beq err Go.errNil)) (c, err) (upd j c k, Go.errNil)) := by
  split_lt <;> (
    rintro ⟨u0, u1, u2, u3, u4, u5⟩ v
    generalize hp : validate v (vals _) = p
    simp only [O30.set, GenV30.Set, flet_eq, reduceStrEq, cond_true, cond_false]
    generalize hq : GenV30.validate v _ = q
    obtain rfl : q = p := hq.symm.trans hp
    obtain ⟨k, err⟩ := q
    cases Go.Err.beq err Go.errNil <;> rfl)

def width (j : Nat) : Nat := [2, 1, 2, 1, 1, 2, 2, 2, 3, 3, 2, 2, 2, 2, 3, 2, 2, 2, 2, 2, 2, 2].getD j 0

theorem vals_fit : ∀ j, j < 22 → (vals j).length ≤ 2 ^ width j := by decide +kernel

/-- `C` and `IR` straddle two bytes: bit 1 of the index is stored in bit 0 of one byte, bit 0 in bit 7 of the next -/
theorem join : ∀ k, k < 2 ^ 2 →
    Nat.lor (Nat.mod (Nat.shiftLeft (Nat.shiftRight (Nat.land k 2) 1) 1) 256) (Nat.land k 1) = k := by decide

/-- `codes` reads the written field back, and every other field of the same byte through a mask that the clear mask
    keeps -/
theorem upd_codes : ∀ j, j < 22 → ∀ (c : O30) (k : Nat), k < (vals j).length →
    codes (upd j c k) = (codes c).set j k := by
  intro j hj ⟨u0, u1, u2, u3, u4, u5⟩ k hk
  replace hk : k < 2 ^ width j := Nat.lt_of_lt_of_le hk (vals_fit j hj)
  match j with
  | 5 | 12 =>
    have hi : Nat.shiftRight (Nat.land k 2) 1 < 2 ^ 1 := shr_land_lt k 2 1 1 (by decide)
    have lo : Nat.land k 1 < 2 ^ 1 := shr_land_lt k 1 0 1 (by decide)
    -- `show` lets the unifier compute arm `j` of `upd`; `simp only [upd]` would try its equations one after the other
    show codes (O30.mk _ _ _ _ _ _) = _
    simp (disch := decide) only [codes, List.set_cons_zero, List.set_cons_succ, get_wr0 (hi := hi), get_wr (hi := lo),
      keep_wr0 (hi := hi), keep_wr (hi := lo), join k hk]
  | 0 | 1 | 2 | 3 | 4 | 6 | 7 | 8 | 9 | 10 | 11 | 13 | 14 | 15 | 16 | 17 | 18 | 19 | 20 | 21 =>
    show codes (O30.mk _ _ _ _ _ _) = _
    simp (disch := decide) only [codes, List.set_cons_zero, List.set_cons_succ, get_wr (hi := hk), get_wr0 (hi := hk),
      keep_wr (hi := hk), keep_wr0 (hi := hk)]
  | n + 22 => omega

theorem upd_isB : ∀ j, j < 22 → ∀ (c : O30) (k : Nat), k < (vals j).length →
    c.IsBytes → (upd j c k).IsBytes := by
  intro j hj ⟨u0, u1, u2, u3, u4, u5⟩ k hk ⟨h0, h1, h2, h3, h4, h5⟩
  replace hk : k < 256 := Nat.lt_of_lt_of_le hk (vals_len j hj)
  have hi : Nat.shiftRight (Nat.land k 2) 1 < 256 := Nat.lt_trans (shr_land_lt k 2 1 1 (by decide)) (by decide)
  match j with
  | 0 | 1 | 2 | 3 | 4 | 5 | 6 | 7 | 8 | 9 | 10 | 11 | 12 | 13 | 14 | 15 | 16 | 17 | 18 | 19 | 20 | 21 =>
    show O30.IsBytes (O30.mk _ _ _ _ _ _)
    simp (disch := decide) only [O30.IsBytes, h0, h1, h2, h3, h4, h5, and_self, wr_lt, wr0_lt (hx := hk),
      wr0_lt (hx := hi)]
  | n + 22 => exact ⟨h0, h1, h2, h3, h4, h5⟩

/-- the low 4 bits of `u5` belong to no metric -/
def Spare (c : O30) : Prop := c.u5 % 16 = 0

theorem upd_spare : ∀ j, j < 22 → ∀ (c : O30) (k : Nat), k < (vals j).length →
    Spare c → Spare (upd j c k) := by
  rintro j - ⟨u0, u1, u2, u3, u4, u5⟩ k - hs
  match j with
  | 20 => exact wr_mod u5 63 6 k 4 hs (by decide) (by decide)
  | 21 => exact wr_mod u5 192 4 k 4 hs (by decide) (by decide)
  | 0 | 1 | 2 | 3 | 4 | 5 | 6 | 7 | 8 | 9 | 10 | 11 | 12 | 13 | 14 | 15 | 16 | 17 | 18 | 19 => exact hs
  | n + 22 => exact hs

/-- the bytes are determined by the codes (given that the unused bits are zero) -/
def recon (rs : List Nat) : O30 :=
  ⟨rs.getD 0 0 * 64 + rs.getD 1 0 * 32 + rs.getD 2 0 * 8 + rs.getD 3 0 * 4 + rs.getD 4 0 * 2 + rs.getD 5 0 / 2,
   rs.getD 5 0 % 2 * 128 + rs.getD 6 0 * 32 + rs.getD 7 0 * 8 + rs.getD 8 0,
   rs.getD 9 0 * 32 + rs.getD 10 0 * 8 + rs.getD 11 0 * 2 + rs.getD 12 0 / 2,
   rs.getD 12 0 % 2 * 128 + rs.getD 13 0 * 32 + rs.getD 14 0 * 4 + rs.getD 15 0,
   rs.getD 16 0 * 64 + rs.getD 17 0 * 16 + rs.getD 18 0 * 4 + rs.getD 19 0,
   rs.getD 20 0 * 64 + rs.getD 21 0 * 16⟩

theorem recon_codes (c : O30) (h : c.IsBytes) (hs : Spare c) : recon (codes c) = c := by
  obtain ⟨u0, u1, u2, u3, u4, u5⟩ := c
  obtain ⟨h0, h1, h2, h3, h4, h5⟩ := h
  have lo : ∀ u, u < 256 → Nat.shiftRight (Nat.land u 128) 7 < 2 := by decide +kernel
  have hi : ∀ u, u < 256 → Nat.mod (Nat.shiftLeft (Nat.land u 1) 1) 256 = 0 ∨
      Nat.mod (Nat.shiftLeft (Nat.land u 1) 1) 256 = 2 := by decide +kernel
  have e0 : ∀ u, u < 256 → ∀ x, x < 2 → Nat.shiftRight (Nat.land u 192) 6 * 64 + Nat.shiftRight (Nat.land u 32) 5 * 32 +
      Nat.shiftRight (Nat.land u 24) 3 * 8 + Nat.shiftRight (Nat.land u 4) 2 * 4 + Nat.shiftRight (Nat.land u 2) 1 * 2 +
      Nat.lor (Nat.mod (Nat.shiftLeft (Nat.land u 1) 1) 256) x / 2 = u := by decide +kernel
  have e1 : ∀ u, u < 256 → ∀ y, y < 3 → (y = 0 ∨ y = 2) →
      Nat.lor y (Nat.shiftRight (Nat.land u 128) 7) % 2 * 128 + Nat.shiftRight (Nat.land u 96) 5 * 32 +
      Nat.shiftRight (Nat.land u 24) 3 * 8 + Nat.land u 7 = u := by decide +kernel
  have e2 : ∀ u, u < 256 → ∀ x, x < 2 → Nat.shiftRight (Nat.land u 224) 5 * 32 + Nat.shiftRight (Nat.land u 24) 3 * 8 +
      Nat.shiftRight (Nat.land u 6) 1 * 2 + Nat.lor (Nat.mod (Nat.shiftLeft (Nat.land u 1) 1) 256) x / 2 = u := by
    decide +kernel
  have e3 : ∀ u, u < 256 → ∀ y, y < 3 → (y = 0 ∨ y = 2) →
      Nat.lor y (Nat.shiftRight (Nat.land u 128) 7) % 2 * 128 + Nat.shiftRight (Nat.land u 96) 5 * 32 +
      Nat.shiftRight (Nat.land u 28) 2 * 4 + Nat.land u 3 = u := by decide +kernel
  have e4 : ∀ u, u < 256 → Nat.shiftRight (Nat.land u 192) 6 * 64 + Nat.shiftRight (Nat.land u 48) 4 * 16 +
      Nat.shiftRight (Nat.land u 12) 2 * 4 + Nat.land u 3 = u := by decide +kernel
  have e5 : ∀ u, u < 256 → u % 16 = 0 →
      Nat.shiftRight (Nat.land u 192) 6 * 64 + Nat.shiftRight (Nat.land u 48) 4 * 16 = u := by decide +kernel
  have lt3 : ∀ {y}, (y = 0 ∨ y = 2) → y < 3 := by rintro y (rfl | rfl) <;> decide
  show O30.mk _ _ _ _ _ _ = _
  congr 1
  · exact e0 u0 h0 _ (lo u1 h1)
  · exact e1 u1 h1 _ (lt3 (hi u0 h0)) (hi u0 h0)
  · exact e2 u2 h2 _ (lo u3 h3)
  · exact e3 u3 h3 _ (lt3 (hi u2 h2)) (hi u2 h2)
  · exact e4 u4 h4
  · exact e5 u5 h5 hs

theorem codes_inj (c c' : O30) (h : c.IsBytes) (h' : c'.IsBytes) (hs : Spare c) (hs' : Spare c')
    (e : codes c = codes c') : c = c' := by
  rw [← recon_codes c h hs, ← recon_codes c' h' hs', e]

theorem wfB_iff (c : O30) : c.wf = true ↔ c.IsBytes ∧ Spare c ∧ legalGets ms c.get = true := by
  obtain ⟨u0, u1, u2, u3, u4, u5⟩ := c
  simp [O30.wf, O30.bytes, O30.IsBytes, Spare, and_assoc]

def layout : Layout O30 ms where
  zero := O30.zero
  get := O30.get
  set := O30.set
  wfB := O30.wf
  IsB := O30.IsBytes
  Spare := Spare
  codes := codes
  upd := upd
  vals := vals
  vals_nodup := vals_nodup
  vals_len := vals_len
  vals_spec := vals_spec
  codes_len := codes_len
  get_known := get_known
  get_default := get_default
  set_known := set_known
  set_default := set_default
  upd_codes := upd_codes
  upd_isB := upd_isB
  upd_spare := upd_spare
  codes_inj := codes_inj
  wfB_iff := wfB_iff
  wf_zero := by decide
  zero_opt := by decide

/-- **the v3.0 Get/Set contract**, with `WF c := c.wf = true` -/
def contract30 : Proofs.Contract O30 Spec.V3.metrics := layout.contract tableOK

theorem set_other (c : O30) (a v a' : Bytes) (h : legal ms a v = true) (hm : isMetric ms a' = true)
    (hne : a' ≠ a) : (c.set a v).1.get a' = c.get a' := contract30.get_set_other c a v a' h hm hne

theorem wf_set (c : O30) (a v : Bytes) (h : c.wf = true) : (c.set a v).1.wf = true := contract30.wf_set c a v h

theorem wf_get (c : O30) (h : c.wf = true) :
    ∀ m ∈ ms, (c.get m.abv).2 = Go.errNil ∧ (c.get m.abv).1 ∈ m.values ∧ (c.get m.abv).1 ≠ [] :=
  wf_get_ne_nil contract30 tableOK c h

/-- **reachable = well-formed**: `→` by induction over the history of `Set` calls; `←` by `Set`ting every
    metric of the Spec table, in order, on the zero value (`Bits.rebuild`) -/
theorem reachable_iff_wf (c : O30) : O30.Reachable c ↔ c.wf = true := by
  constructor
  · intro h
    show contract30.WF c  -- the contract's fields then apply as they are; against `_.wf = true` the zero case is evaluated
    induction h with
    | zero => exact contract30.wf_zero
    | set c a v _ ih => exact contract30.wf_set c a v ih
  · exact fun h => closed_of_wf contract30 tableOK h .zero fun c a v => .set c a v

theorem rebuild_eq (c : O30) (h : c.wf = true) : rebuild contract30 c ms O30.zero = c :=
  Bits.rebuild_eq contract30 tableOK c h

end Bits30
