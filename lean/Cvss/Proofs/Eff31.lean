import Cvss.Proofs.Bits31
import Cvss.Proofs.EffLayout
/-!
# CVSS v3.x: the scores depend on the metrics only through their effective values (C10)

The argument is the same for the v3.0 and the v3.1 package and is given once, for a `Package`: a layout of the v3
table together with three scores and what is used of them.  The generated `BaseScore`/`TemporalScore`/
`EnvironmentalScore` are their `_core` functions applied to the field codes that `Get` decodes (by unfolding the
generated wrappers, `rfl`: the parameter list of a core IS the set of reads of the Go method), and, by unfolding the
cores, these use the E/RL/RC codes only through their weights, each base/Modified pair only as `mod_ base modified`,
CR/IR/AR only as `ciar ·`.  A Modified metric lists `X` and then the values of its base metric; E, RL, RC, CR, IR, AR
list `X` first, and the weight of `X` is the weight of the default: so for in-range codes the effective VALUE STRING
determines the effective CODE `mod_ k m`, resp. the weight (`Layout.pair_eq`, `Layout.weight_eq`).  Hence equal Spec
key on two well-formed objects ⇒ equal score (`Package.base_eq`, `temporal_eq`, `env_eq`; the scores stay opaque
terms).  `pkg` is the v3.1 package; `Eff30.lean` has the v3.0 one.
-/
open Bits Model
open Spec (b)

namespace Eff31
open Bits31

theorem baseKey_idx (v : Bytes → Bytes) : Spec.V3.baseKey v =
    [v (mAt ms 0).abv, v (mAt ms 1).abv, v (mAt ms 2).abv, v (mAt ms 3).abv, v (mAt ms 4).abv, v (mAt ms 5).abv,
     v (mAt ms 6).abv, v (mAt ms 7).abv] := rfl

theorem temporalKey_idx (v : Bytes → Bytes) : Spec.V3.temporalKey v =
    [v (mAt ms 0).abv, v (mAt ms 1).abv, v (mAt ms 2).abv, v (mAt ms 3).abv, v (mAt ms 4).abv, v (mAt ms 5).abv,
     v (mAt ms 6).abv, v (mAt ms 7).abv, Spec.dflt v (mAt ms 8).abv (b "H"), Spec.dflt v (mAt ms 9).abv (b "U"),
     Spec.dflt v (mAt ms 10).abv (b "C")] := rfl

theorem envKey_idx (v : Bytes → Bytes) : Spec.V3.envKey v =
    [Spec.eff v (mAt ms 0).abv (mAt ms 14).abv, Spec.eff v (mAt ms 1).abv (mAt ms 15).abv,
     Spec.eff v (mAt ms 2).abv (mAt ms 16).abv, Spec.eff v (mAt ms 3).abv (mAt ms 17).abv,
     Spec.eff v (mAt ms 4).abv (mAt ms 18).abv, Spec.eff v (mAt ms 5).abv (mAt ms 19).abv,
     Spec.eff v (mAt ms 6).abv (mAt ms 20).abv, Spec.eff v (mAt ms 7).abv (mAt ms 21).abv,
     Spec.dflt v (mAt ms 11).abv (b "M"), Spec.dflt v (mAt ms 12).abv (b "M"), Spec.dflt v (mAt ms 13).abv (b "M"),
     Spec.dflt v (mAt ms 8).abv (b "H"), Spec.dflt v (mAt ms 9).abv (b "U"), Spec.dflt v (mAt ms 10).abv (b "C")] := rfl

end Eff31

namespace Eff3

/-- `S` is read a second time, unshifted (`u0 & 2`), for the scope test: that is the `S` code shifted back -/
theorem scope_raw (u : Nat) : Nat.land u 2 = Nat.shiftLeft (Nat.shiftRight (Nat.land u 2) 1) 1 := by
  rw [land_mod256 u 2 (by decide)]
  have : ∀ w, w < 256 → Nat.land w 2 = Nat.shiftLeft (Nat.shiftRight (Nat.land w 2) 1) 1 := by decide +kernel
  exact this _ (Nat.mod_lt _ (by decide))

/-- a v3 package as far as C10 looks at it: the three scores, their generated cores and weight functions, and what
    is used of them -/
structure Package {O : Type} (L : Layout O Spec.V3.metrics) where
  baseScore : O → Nat
  temporalScore : O → Nat
  environmentalScore : O → Nat
  baseCore : Nat → Nat → Nat → Nat → Nat → Nat → Nat → Nat → Nat → Nat
  temporalCore : Nat → Nat → Nat → Nat → Nat → Nat → Nat → Nat → Nat → Nat → Nat → Nat → Nat
  envCore : Nat → Nat → Nat → Nat → Nat → Nat → Nat → Nat → Nat → Nat → Nat → Nat → Nat → Nat → Nat → Nat → Nat → Nat → Nat → Nat → Nat → Nat → Nat
  mod : Nat → Nat → Nat
  ciar : Nat → Nat
  wE : Nat → Nat
  wRL : Nat → Nat
  wRC : Nat → Nat
  isMod : IsMod mod
  /-- the generated scores as functions of the field codes -/
  base_codes : ∀ c, baseScore c =
    baseCore (L.cd c 5) (L.cd c 6) (L.cd c 7) (Nat.shiftLeft (L.cd c 4) 1) (L.cd c 0) (L.cd c 1) (L.cd c 2) (L.cd c 4) (L.cd c 3)
  temporal_codes : ∀ c, temporalScore c =
    temporalCore (L.cd c 8) (L.cd c 9) (L.cd c 10) (L.cd c 5) (L.cd c 6) (L.cd c 7) (Nat.shiftLeft (L.cd c 4) 1)
      (L.cd c 0) (L.cd c 1) (L.cd c 2) (L.cd c 4) (L.cd c 3)
  env_codes : ∀ c, environmentalScore c =
    envCore (L.cd c 0) (L.cd c 14) (L.cd c 1) (L.cd c 15) (L.cd c 2) (L.cd c 16) (L.cd c 3) (L.cd c 17)
      (L.cd c 4) (L.cd c 18) (L.cd c 5) (L.cd c 19) (L.cd c 6) (L.cd c 20) (L.cd c 7) (L.cd c 21)
      (L.cd c 11) (L.cd c 12) (L.cd c 13) (L.cd c 8) (L.cd c 9) (L.cd c 10)
  /-- `TemporalScore_core` looks at E, RL, RC only through their weights -/
  temporal_congr : ∀ {e rl rc e' rl' rc' : Nat} (r3 r4 r5 r6 r7 r8 r9 r10 r11 : Nat),
    wE e = wE e' → wRL rl = wRL rl' → wRC rc = wRC rc' →
    temporalCore e rl rc r3 r4 r5 r6 r7 r8 r9 r10 r11 = temporalCore e' rl' rc' r3 r4 r5 r6 r7 r8 r9 r10 r11
  /-- `EnvironmentalScore_core` looks at each base/Modified pair only through `mod_ base modified`, at CR, IR, AR
      only through `ciar`, at E, RL, RC only through their weights -/
  env_congr : ∀ {r0 r1 r2 r3 r4 r5 r6 r7 r8 r9 r10 r11 r12 r13 r14 r15 r16 r17 r18 r19 r20 r21 : Nat}
      {s0 s1 s2 s3 s4 s5 s6 s7 s8 s9 s10 s11 s12 s13 s14 s15 s16 s17 s18 s19 s20 s21 : Nat},
    mod r0 r1 = mod s0 s1 → mod r2 r3 = mod s2 s3 → mod r4 r5 = mod s4 s5 → mod r6 r7 = mod s6 s7 →
    mod r8 r9 = mod s8 s9 → mod r10 r11 = mod s10 s11 → mod r12 r13 = mod s12 s13 → mod r14 r15 = mod s14 s15 →
    ciar r16 = ciar s16 → ciar r17 = ciar s17 → ciar r18 = ciar s18 →
    wE r19 = wE s19 → wRL r20 = wRL s20 → wRC r21 = wRC s21 →
    envCore r0 r1 r2 r3 r4 r5 r6 r7 r8 r9 r10 r11 r12 r13 r14 r15 r16 r17 r18 r19 r20 r21 = envCore s0 s1 s2 s3 s4 s5 s6 s7 s8 s9 s10 s11 s12 s13 s14 s15 s16 s17 s18 s19 s20 s21
  /-- a Modified metric lists `X` and then the values of its base metric -/
  vals_mod : ∀ j, j < 8 → L.vals (j + 14) = b "X" :: L.vals j
  dE : L.Default 8 (b "H") wE
  dRL : L.Default 9 (b "U") wRL
  dRC : L.Default 10 (b "C") wRC
  dCR : L.Default 11 (b "M") ciar
  dIR : L.Default 12 (b "M") ciar
  dAR : L.Default 13 (b "M") ciar

namespace Package
open Eff31 (baseKey_idx temporalKey_idx envKey_idx)
variable {O : Type} {L : Layout O Spec.V3.metrics} (M : Package L) (T : TableOK Spec.V3.metrics)
  {c c' : O} (h : L.wfB c = true) (h' : L.wfB c' = true)
include T h h'

theorem base_eq (hk : Spec.V3.baseKey (L.val c) = Spec.V3.baseKey (L.val c')) : M.baseScore c = M.baseScore c' := by
  simp only [baseKey_idx, List.cons.injEq, and_true] at hk
  obtain ⟨e0, e1, e2, e3, e4, e5, e6, e7⟩ := hk
  rw [M.base_codes, M.base_codes, L.code_eq T h h' (j := 0) (by decide) e0, L.code_eq T h h' (j := 1) (by decide) e1,
    L.code_eq T h h' (j := 2) (by decide) e2, L.code_eq T h h' (j := 3) (by decide) e3,
    L.code_eq T h h' (j := 4) (by decide) e4, L.code_eq T h h' (j := 5) (by decide) e5,
    L.code_eq T h h' (j := 6) (by decide) e6, L.code_eq T h h' (j := 7) (by decide) e7]

theorem temporal_eq (hk : Spec.V3.temporalKey (L.val c) = Spec.V3.temporalKey (L.val c')) :
    M.temporalScore c = M.temporalScore c' := by
  simp only [temporalKey_idx, List.cons.injEq, and_true] at hk
  obtain ⟨e0, e1, e2, e3, e4, e5, e6, e7, e8, e9, e10⟩ := hk
  rw [M.temporal_codes, M.temporal_codes, L.code_eq T h h' (j := 0) (by decide) e0, L.code_eq T h h' (j := 1) (by decide) e1,
    L.code_eq T h h' (j := 2) (by decide) e2, L.code_eq T h h' (j := 3) (by decide) e3,
    L.code_eq T h h' (j := 4) (by decide) e4, L.code_eq T h h' (j := 5) (by decide) e5,
    L.code_eq T h h' (j := 6) (by decide) e6, L.code_eq T h h' (j := 7) (by decide) e7]
  exact M.temporal_congr _ _ _ _ _ _ _ _ _ (L.weight_eq T h h' M.isMod (by decide) M.dE e8)
    (L.weight_eq T h h' M.isMod (by decide) M.dRL e9) (L.weight_eq T h h' M.isMod (by decide) M.dRC e10)

theorem env_eq (hk : Spec.V3.envKey (L.val c) = Spec.V3.envKey (L.val c')) :
    M.environmentalScore c = M.environmentalScore c' := by
  simp only [envKey_idx, List.cons.injEq, and_true] at hk
  obtain ⟨e0, e1, e2, e3, e4, e5, e6, e7, e8, e9, e10, e11, e12, e13⟩ := hk
  have P (j : Nat) (hj : j < 8) := L.pair_eq T h h' M.isMod (j := j) (jm := j + 14)
    (show j < 22 by omega) (show j + 14 < 22 by omega) (M.vals_mod j hj) fun _ hk => ⟨hk, rfl⟩
  rw [M.env_codes, M.env_codes]
  exact M.env_congr (P 0 (by decide) e0) (P 1 (by decide) e1) (P 2 (by decide) e2) (P 3 (by decide) e3)
    (P 4 (by decide) e4) (P 5 (by decide) e5) (P 6 (by decide) e6) (P 7 (by decide) e7)
    (L.weight_eq T h h' M.isMod (by decide) M.dCR e8) (L.weight_eq T h h' M.isMod (by decide) M.dIR e9)
    (L.weight_eq T h h' M.isMod (by decide) M.dAR e10) (L.weight_eq T h h' M.isMod (by decide) M.dE e11)
    (L.weight_eq T h h' M.isMod (by decide) M.dRL e12) (L.weight_eq T h h' M.isMod (by decide) M.dRC e13)

end Package
end Eff3

namespace Eff31
open Bits31

def pkg : Eff3.Package layout where
  baseScore := O31.baseScore
  temporalScore := O31.temporalScore
  environmentalScore := O31.environmentalScore
  baseCore := GenV31.BaseScore_core
  temporalCore := GenV31.TemporalScore_core
  envCore := GenV31.EnvironmentalScore_core
  mod := GenV31.mod_
  ciar := GenV31.ciar
  wE := GenV31.exploitCodeMaturity
  wRL := GenV31.remediationLevel
  wRC := GenV31.reportConfidence
  isMod := fun _ _ => rfl
  base_codes := fun ⟨u0, u1, u2, u3, u4, u5⟩ => by
    show _ = GenV31.BaseScore_core _ _ _ (Nat.shiftLeft (Nat.shiftRight (Nat.land u0 2) 1) 1) _ _ _ _ _
    rw [← Eff3.scope_raw u0]; rfl
  temporal_codes := fun ⟨u0, u1, u2, u3, u4, u5⟩ => by
    show _ = GenV31.TemporalScore_core _ _ _ _ _ _ (Nat.shiftLeft (Nat.shiftRight (Nat.land u0 2) 1) 1) _ _ _ _ _
    rw [← Eff3.scope_raw u0]; rfl
  env_codes := fun ⟨u0, u1, u2, u3, u4, u5⟩ => rfl
  temporal_congr := fun _ _ _ _ _ _ _ _ _ he hrl hrc => by
    simp only [GenV31.TemporalScore_core, flet_eq, he, hrl, hrc]
  env_congr := fun hav hac hpr hui hs hc hi ha hcr hir har he hrl hrc => by
    simp only [GenV31.EnvironmentalScore_core, flet_eq, hav, hac, hpr, hui, hs, hc, hi, ha, hcr, hir, har, he, hrl, hrc]
  vals_mod := by decide +kernel
  dE := ⟨_, 0, rfl, by decide, rfl, rfl⟩
  dRL := ⟨_, 0, rfl, by decide, rfl, rfl⟩
  dRC := ⟨_, 0, rfl, by decide, rfl, rfl⟩
  dCR := ⟨_, 1, rfl, by decide, rfl, rfl⟩
  dIR := ⟨_, 1, rfl, by decide, rfl, rfl⟩
  dAR := ⟨_, 1, rfl, by decide, rfl, rfl⟩

theorem base_eq {c c' : O31} (h : c.wf = true) (h' : c'.wf = true)
    (hk : Spec.V3.baseKey (layout.val c) = Spec.V3.baseKey (layout.val c')) : c.baseScore = c'.baseScore :=
  pkg.base_eq tableOK h h' hk

theorem temporal_eq {c c' : O31} (h : c.wf = true) (h' : c'.wf = true)
    (hk : Spec.V3.temporalKey (layout.val c) = Spec.V3.temporalKey (layout.val c')) : c.temporalScore = c'.temporalScore :=
  pkg.temporal_eq tableOK h h' hk

theorem env_eq {c c' : O31} (h : c.wf = true) (h' : c'.wf = true)
    (hk : Spec.V3.envKey (layout.val c) = Spec.V3.envKey (layout.val c')) : c.environmentalScore = c'.environmentalScore :=
  pkg.env_eq tableOK h h' hk

end Eff31
