import Cvss.Proofs.VecCommon
import Cvss.Proofs.Layout40
/-!
# v4.0: the generated `Vector()` writes the Spec canonical form, and `lenVec()` is its length

* `vector_eq` (A): for **every** object `c` (no well-formedness needed)
  `c.vector = Spec.V4.canonical (metrics.map fun m => (m.abv, (c.get m.abv).1))`.
* `length_formula` (B, strongest form, every object, byte-sized fields or not):
  `c.vector.length + #{metrics reading as an illegal value} = c.lenVec + 4·[U reads as an illegal value]`.
  As for v3.0 (`Vec30.lean`), from `B40.get_idx` and one table over the field codes. The values of `U` have
  different lengths (`Clear/Green/Amber` add 8, `Red` adds 6), and `lenVec` switches on its code: the table row of
  `U` is compared with that `switch`. A `U` code 5..7 reads as `""`, which is not `"X"`: `Vector` writes `/U:`
  (3 bytes) for it but `lenVec` reserves nothing.
* `length_gt_example`: a non-well-formed byte state where `Vector()` OUTGROWS the pre-sized buffer.
  (`Props/C17.lean` draws the consequences.)
-/
namespace Proofs.Vec40
open Spec Proofs.Vec
open Model (O40)
open Bits (mAt)

theorem mand_eq (b pre v : Spec.Bytes) : GenV40.mandatory b pre v = b ++ (pre ++ v) :=
  List.append_assoc b pre v

theorem nm_eq (b pre v : Spec.Bytes) : GenV40.notMandatory b pre v = b ++ opt pre v :=
  notMandatory_eq b pre v

theorem core_shape (r0 r1 r2 r3 r4 r5 r6 r7 r8 r9 r10 r11 r12 r13 r14 r15 r16 r17 r18 r19 r20 r21 r22 r23 r24 r25 r26 r27 r28 r29 r30 r31 r32 r33 r34 r35 r36 r37 r38 r39 r40 r41 r42 r43 r44 r45 r46 r47 r48 r49 r50 r51 r52 r53 r54 : Nat) :
    GenV40.Vector_core r0 r1 r2 r3 r4 r5 r6 r7 r8 r9 r10 r11 r12 r13 r14 r15 r16 r17 r18 r19 r20 r21 r22 r23 r24 r25 r26 r27 r28 r29 r30 r31 r32 r33 r34 r35 r36 r37 r38 r39 r40 r41 r42 r43 r44 r45 r46 r47 r48 r49 r50 r51 r52 r53 r54
    = V4.header ++ emit V4.metrics
        (GenV40.get_core r25 r26 r27 r28 r29 r30 r31 r32 r33 r34 r35 r36 r1 r37 r38 r39 r40 r41 r42 r43 r44 r45 r46 r47 r48 r49 r50 r51 r52 r53 r54 r24) := by
  simp only [GenV40.Vector_core, flet_eq, mand_eq, nm_eq]
  generalize GenV40.get_core r25 r26 r27 r28 r29 r30 r31 r32 r33 r34 r35 r36 r1 r37 r38 r39 r40 r41 r42 r43 r44 r45 r46 r47 r48 r49 r50 r51 r52 r53 r54 r24 = G
  simp [emit, piece, opt, render, V4.metrics, V4.base, V4.threat, V4.environmental, V4.supplemental, V4.header,
    mand, optX, Spec.b, SLASH, COLON]

/-- the private `get` of `Vector()` is the first component of the public `Get` -/
theorem get_fst (c : O40) :
    (fun a => (c.get a).1) = GenV40.get c.u0 c.u1 c.u2 c.u3 c.u4 c.u5 c.u6 c.u7 c.u8 := rfl

theorem vector_shape (c : O40) : c.vector = V4.header ++ emit V4.metrics (fun a => (c.get a).1) := by
  rw [get_fst]
  unfold O40.vector GenV40.Vector GenV40.get
  rw [core_shape]

/-- **(A)** `Vector()` spells the canonical form of the object's own values — for every object. -/
theorem vector_eq (c : O40) :
    c.vector = V4.canonical (V4.metrics.map fun m => (m.abv, (c.get m.abv).1)) := by
  rw [vector_shape]; exact (V4_canonical_eq _).symm

abbrev M (a : String) : Metric := met V4.metrics a

/-- what `lenVec` reserves for each metric but `U`, in table order: the eleven mandatory ones make up its
    constant (`63 = 8 + 55`, with the header), the others it adds when the field is not zero -/
def incs : List Nat :=
  [5, 5, 5, 5, 5, 5, 5, 5, 5, 5, 5, 4, 5, 5, 5, 6, 6, 6, 6, 6, 6, 6, 6, 6, 6, 6, 4, 5, 4, 4, 5]

theorem slot_table : ∀ j, j < 31 → (B40.gvals j).length ≤ 8 ∧ ∀ x, x ≤ 8 →
    plen (mAt V4.metrics j) ((B40.gvals j).getD x []) = slotLen (mAt V4.metrics j).mandatory (incs.getD j 0) x := by
  decide +kernel

/-- the `switch` of `lenVec` on the code of `U` -/
def lenU (x : Nat) : Nat := cond ((Nat.beq x 1) || (Nat.beq x 2) || (Nat.beq x 3)) 8 (cond (Nat.beq x 4) 6 0)

/-- … and here the illegal codes are NOT covered by `lenVec`: `/U:` (3 bytes, +1 for being illegal) on the left,
    nothing on the right -/
theorem slot_U : (B40.gvals 31).length ≤ 8 ∧ ∀ x, x ≤ 8 →
    plen (mAt V4.metrics 31) ((B40.gvals 31).getD x []) = lenU x + 4 * bad (M "U") ((B40.gvals 31).getD x []) := by
  decide +kernel

def slotOf (j x : Nat) : Nat :=
  if j = 31 then lenU x + 4 * bad (M "U") ((B40.gvals 31).getD x [])
  else slotLen (mAt V4.metrics j).mandatory (incs.getD j 0) x

theorem slot (j : Nat) (hj : j < 32) (x : Nat) :
    plen (mAt V4.metrics j) ((B40.gvals j).getD x []) = slotOf j x := by
  unfold slotOf
  by_cases h : j = 31
  · subst h
    refine forall_code _ 8 slot_U.1 _ (fun x v => lenU x + 4 * bad (M "U") v) (fun x hx => ?_) slot_U.2 x
    obtain ⟨y, rfl⟩ := Nat.exists_eq_add_of_le' hx
    rfl
  · rw [if_neg h]
    exact slotLen_all (slot_table j (by omega)) x

/-- closed form of the generated two-way `switch` step of `lenVec` -/
theorem cond_add2 (c : Bool) (l k x : Nat) : cond c (Nat.add l k) (l + x) = l + cond c k x := by
  cases c <;> rfl

/-- **(B)** for every object: `len(Vector())` + number of metrics reading as an illegal value
    = `lenVec()` + 4 if `U` reads as an illegal value -/
theorem length_formula (c : O40) :
    c.vector.length + (V4.metrics.map fun m => bad m (c.get m.abv).1).sum
      = c.lenVec + 4 * bad (M "U") (c.get (b "U")).1 := by
  rw [vector_shape, length_plen _ 8 rfl,
    sum_codes V4.metrics plen (fun a => (c.get a).1) B40.gvals (B40.codes c) slotOf
      (fun j hj => congrArg Prod.fst (B40.get_idx c j hj)) slot,
    show V4.metrics.length = 32 from rfl,
    show (c.get (b "U")).1 = (B40.gvals 31).getD ((B40.codes c).getD 31 0) [] from
      congrArg Prod.fst (B40.get_idx c 31 (by decide))]
  obtain ⟨u0, u1, u2, u3, u4, u5, u6, u7, u8⟩ := c
  -- the right side as `63 + cond (mask test) increment 0 + … + (the switch on the code of U)`
  simp only [O40.lenVec, GenV40.lenVec, GenV40.lenVec_core, flet_eq, cond_add, cond_add2]
  -- the left side term by term, with the tests on the codes turned into tests on the masked bytes
  simp only [List.range, List.range.loop, List.map, List.sum_cons, List.sum_nil, List.getD_cons_zero,
    List.getD_cons_succ, B40.codes, B40.D0, B40.D1, B40.D2, B40.D3, B40.D4, B40.D5, B40.D6, B40.D7, B40.D8, incs, mAt,
    V4.metrics, V4.base, V4.threat, V4.environmental, V4.supplemental, mand, optX, List.cons_append,
    List.nil_append, slotOf, Nat.reduceEqDiff, reduceIte, lenU, slotLen, Bool.true_or, Bool.false_or, cond_true,
    beq_shiftRight_land, beq_lor, beq_shiftLeft_land1, Nat.reduceLT, Bool.not_and]
  omega

theorem mem_U : M "U" ∈ V4.metrics := met_mem _ _ (by decide +kernel)

/-- a sample: a well-formed object (with the short `U:Red`), and what `Vector()` writes for it -/
example : (⟨86, 88, 40, 0, 64, 1, 1, 1, 0⟩ : O40).wf = true := by decide +kernel
example : (⟨86, 88, 40, 0, 64, 1, 1, 1, 0⟩ : O40).vector
    = b "CVSS:4.0/AV:A/AC:H/AT:P/PR:L/UI:A/VC:L/VI:N/VA:H/SC:L/SI:H/SA:N/E:P/MAT:P/MSI:S/AU:Y/U:Red" := by
  decide +kernel

/-- On a non-well-formed byte state the equality fails, and in the bad direction: `U` code 5 (`u7 = 1`,
    `u8 = 0x40`) makes `Vector()` write `/U:` (66 bytes) into a buffer pre-sized by `lenVec()` to 63. -/
theorem length_gt_example :
    (⟨0, 0, 0, 0, 0, 0, 0, 1, 64⟩ : O40).vector.length = 66 ∧ (⟨0, 0, 0, 0, 0, 0, 0, 1, 64⟩ : O40).lenVec = 63 := by
  decide +kernel

end Proofs.Vec40
