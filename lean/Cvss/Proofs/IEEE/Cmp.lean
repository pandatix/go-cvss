import Cvss.Proofs.IEEE.Neg
/-!
# `F64.eq`, `F64.min` on finite operands (`F64.lt`, `F64.le` are in `Proofs/F64Order.lean`)
-/
namespace IEEE
open Spec F64Order

theorem val_eq_iff (x y : Nat) (vx vy : Int) (hx : x < 2^64) (hy : y < 2^64)
    (hvx : F64Val.ofBits x = .fin vx) (hvy : F64Val.ofBits y = .fin vy) :
    vx = vy ↔ (x = y ∨ (x % P63 = 0 ∧ y % P63 = 0)) := by
  obtain ⟨_, rfl⟩ := (ofBits_fin_iff x vx).mp hvx
  obtain ⟨_, rfl⟩ := (ofBits_fin_iff y vy).mp hvy
  have ex := split x hx
  have ey := split y hy
  have hsx := signBit_le x
  have hsy := signBit_le y
  have hz := wp_eq_zero_iff (x % P63)
  have hinj : wp (x % P63) = wp (y % P63) ↔ x % P63 = y % P63 := by
    have a := wp_le_iff (x % P63) (y % P63)
    have b := wp_le_iff (y % P63) (x % P63)
    omega
  rw [sv_inj _ _ _ _ hsx hsy, hinj, hz]
  simp only [P63] at *
  omega

theorem eq_spec (x y : Nat) (vx vy : Int) (hx : x < 2^64) (hy : y < 2^64)
    (hvx : F64Val.ofBits x = .fin vx) (hvy : F64Val.ofBits y = .fin vy) :
    F64.eq x y = decide (vx = vy) := by
  obtain ⟨hex, _⟩ := decode x vx hx hvx
  obtain ⟨hey, _⟩ := decode y vy hy hvy
  unfold F64.eq F64.isFin2
  rw [flet_eq, flet_eq, fin2_true x y hex hey, cond_true]
  unfold F64.mag
  rw [Bool.eq_iff_iff, decide_eq_true_iff, val_eq_iff x y vx vy hx hy hvx hvy, Bool.or_eq_true,
    Bool.and_eq_true, nbeq, nbeq, nbeq]
  rfl

theorem ltF_val (x y : Nat) (vx vy : Int) (hx : x < 2^64) (hy : y < 2^64)
    (hvx : F64Val.ofBits x = .fin vx) (hvy : F64Val.ofBits y = .fin vy) :
    F64.ltF x y = true ↔ vx < vy := by
  rw [ltF_iff x y hx hy, sval_of_fin x vx hx hvx, sval_of_fin y vy hy hvy]

/-- **`F64.min` is Go's `math.Min`** on finite operands: the smaller value; of two zeros, `−0` if there is one -/
theorem min_spec (x y : Nat) (vx vy : Int) (hx : x < 2^64) (hy : y < 2^64)
    (hvx : F64Val.ofBits x = .fin vx) (hvy : F64Val.ofBits y = .fin vy) :
    F64.min x y = if vx < vy then x else if vy < vx then y else if signBit x = 1 then x else y := by
  obtain ⟨hex, dx⟩ := decode x vx hx hvx
  obtain ⟨hey, dy⟩ := decode y vy hy hvy
  have hlt := ltF_val x y vx vy hx hy hvx hvy
  have heq := val_eq_iff x y vx vy hx hy hvx hvy
  have hzx := dx.zero_iff.trans dx.mod_zero_iff.symm
  have hzy := dy.zero_iff.trans dy.mod_zero_iff.symm
  unfold F64.min F64.isFin2
  rw [flet_eq, flet_eq, fin2_true x y hex hey, cond_true]
  unfold F64.mag
  rw [nmod, nmod]
  have hP : F64.P63 = P63 := rfl
  rw [hP]
  by_cases hz : x % P63 = 0 ∧ y % P63 = 0
  · have e1 : (Nat.beq (x % P63) 0 && Nat.beq (y % P63) 0) = true := by
      rw [Bool.and_eq_true, nbeq, nbeq]; exact hz
    rw [e1, cond_true, cond_ble]
    have h1 : vx = 0 := hzx.mpr hz.1
    have h2 : vy = 0 := hzy.mpr hz.2
    rw [h1, h2, if_neg (show ¬ (0:Int) < 0 by omega), if_neg (show ¬ (0:Int) < 0 by omega)]
    have : P63 ≤ x ↔ signBit x = 1 := by unfold signBit; simp only [P63]; omega
    by_cases h : P63 ≤ x
    · rw [if_pos h, if_pos (this.mp h)]
    · rw [if_neg h, if_neg (fun h' => h (this.mpr h'))]
  · have e1 : (Nat.beq (x % P63) 0 && Nat.beq (y % P63) 0) = false := by
      cases hb : (Nat.beq (x % P63) 0 && Nat.beq (y % P63) 0)
      · rfl
      · rw [Bool.and_eq_true, nbeq, nbeq] at hb; exact absurd hb hz
    rw [e1, cond_false]
    by_cases h : vx < vy
    · rw [hlt.mpr h, cond_true, if_pos h]
    · have : F64.ltF x y = false := by
        cases hb : F64.ltF x y
        · rfl
        · exact absurd (hlt.mp hb) h
      rw [this, cond_false, if_neg h]
      by_cases h2 : vy < vx
      · rw [if_pos h2]
      · rw [if_neg h2]
        have : vx = vy := by omega
        rcases heq.mp this with h | h
        · subst h; split <;> rfl
        · exact absurd h hz

end IEEE
