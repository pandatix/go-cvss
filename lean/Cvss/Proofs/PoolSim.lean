import Cvss.Proofs.GenParse20
/-!
# The ownership machine runs the regenerated parser (C14, tie by proof)

`Cvss/Model/Pool.lean` cuts a v2.0 `ParseVector` call into `tick`s (one iteration of `split`'s scan, or one
iteration of `for _, pt := range pts`, on the thread's own buffer). The link between that hand-written
decomposition and the Go source is a proof against the **regenerated** functions of `Cvss/Gen/P20.lean`, which
`Proofs/GenParse20.lean` presents as loops over the generated bodies (`split_unfold`, `pv_unfold`). It is a
(stuttering) simulation, `Rem`: "the generated computation that remains to be done from the thread's state
evaluates to `GenP20.ParseVector B inp`", `B` = buffer content at `Get`. A tick keeps it because the remaining
generated loop is the remaining model loop (`splitK_forN`, `range_step`), of which the tick is one unfolding; with
`GenParse20.genParse20` it gives the model-level promise `Pool.PhaseOK`. An action of another thread changes
neither a thread's phase nor its buffer (`frame_thr`, `frame_heap`), so `Rem` for every thread is an invariant of
the interleaved machine (`GInv`); `Tracks` is the same for one call with the buffer content it actually received.

Correspondence of steps (the machine is *not* coarser than a Go loop iteration anywhere; `Props/C14b.lean`
states the lines that do work as theorems):

| machine `tick` in phase …                    | generated code                                                              |
|----------------------------------------------|-----------------------------------------------------------------------------|
| `split … (c :: cs)`                          | one `Go.forN` round: `cnd` true, `split_for1` (`next` + `post`, or `brk`)   |
| `split … []`, reached by end of input        | the failing `cnd` test, then tail `dst[curr] = vector[start:]`, `return curr`, `pts[:ei+1]`, loop-variable init |
| `split … 13 … []`, reached by `break`        | (the `forN` has already returned `.done` at the `brk`) the same tail         |
| `loop … k …`, `k < ei+1`                     | one `Go.forRange` round: read `pts[k]`, `ParseVector_range1`                 |
| `loop … k …`, `k = ei+1`                     | `Go.forRange [] = .next`, tail `if i != 0 …; return`                        |
| `ret …`                                      | stutter (the deferred `Put` is the separate action `put`)                   |
-/
namespace PoolSim
open Model Model.Pool GenParse GenParse20

/-- `Rem a inp B ph buf`: a thread in phase `ph` whose buffer (address `a`) now holds `buf` is at a point of the
    generated `ParseVector B inp` — `B` being what `Get` handed out — in the sense that the generated code that
    remains to be executed from here (rest of the `forN`, then `splitK`, then `pvK`; or rest of the `forRange`,
    then `rangeK`) evaluates to the results of `GenP20.split B inp` / `GenP20.ParseVector B inp`.
    Side facts: 14 slots, indices in range. -/
def Rem (a : Addr) (inp : Bytes) (B : Buf) : Phase → Buf → Prop
  | .split a' inp' curr seg rest, buf =>
    a' = a ∧ inp' = inp ∧ buf.length = 14 ∧ (curr ≤ 12 ∨ (curr = 13 ∧ rest = [])) ∧
    ∃ pre, inp = pre ++ seg ++ rest ∧
      splitK inp (Go.forN (rest.length + 2) (gst buf pre seg curr) (cnd inp) post (GenP20.split_for1 inp))
        = GenP20.split B inp
  | .loop a' inp' ei k slci i c, buf =>
    a' = a ∧ inp' = inp ∧ buf.length = 14 ∧ ei ≤ 13 ∧ k ≤ ei + 1 ∧
    GenP20.split B inp = some (buf, ei) ∧
    rangeK (Go.forRange ((buf.take (ei + 1)).drop k) (enc slci i c) GenP20.ParseVector_range1)
      = GenP20.ParseVector B inp
  | .ret a' inp' r, buf =>
    a' = a ∧ inp' = inp ∧ buf.length = 14 ∧ (∃ ei, GenP20.split B inp = some (buf, ei)) ∧
    r = ofGo dec20 (GenP20.ParseVector B inp)
  | .idle, _ => False
  | .crashed, _ => False

theorem rem_owner {a : Addr} {inp : Bytes} {B : Buf} {ph : Phase} {buf : Buf} (h : Rem a inp B ph buf) :
    ph.owner = some a := by
  cases ph <;> simp only [Rem] at h <;> first | exact h.elim | (simp only [Phase.owner]; rw [h.1])

theorem rem_len {a : Addr} {inp : Bytes} {B : Buf} {ph : Phase} {buf : Buf} (h : Rem a inp B ph buf) :
    buf.length = 14 := by
  cases ph <;> simp only [Rem] at h <;> first | exact h.elim | exact h.2.2.1

/-- the state right after `Get` (both `getPool` and `getNew` put the thread there) is the start of the generated
    `ParseVector` on the buffer obtained -/
theorem rem_start (a : Addr) (inp : Bytes) (buf : Buf) (hl : buf.length = 14) :
    Rem a inp buf (.split a inp 0 [] inp) buf :=
  ⟨rfl, rfl, hl, .inl (by omega), [], by simp, (split_unfold buf inp).symm⟩

/-- remaining ticks (an upper bound): the scan needs one tick per remaining byte and one for the tail; the range
    loop one per remaining slot and one for the tail; `ei ≤ 13` -/
def fuelOf : Phase → Nat
  | .split _ _ _ _ rest => rest.length + 17
  | .loop _ _ ei k _ _ _ => ei + 2 - k
  | _ => 0

/-- **Simulation step.** A tick moves the thread to a later point of the *same* generated computation (and
    never to `crashed`), and strictly decreases the number of remaining ticks unless the body has returned. -/
theorem rem_tick {a : Addr} {inp : Bytes} {B : Buf} {ph : Phase} {buf : Buf} (h : Rem a inp B ph buf) :
    Rem a inp B (tick ph buf).1 (tick ph buf).2 ∧ fuelOf (tick ph buf).1 ≤ fuelOf ph - 1 := by
  cases ph with
  | idle => exact h.elim
  | crashed => exact h.elim
  | ret a' inp' r => exact ⟨h, Nat.zero_le _⟩
  | split a' inp' curr seg rest =>
    obtain ⟨rfl, rfl, hl, hc, pre, hv, hg⟩ := h
    -- the rest of the generated scan is the rest of the model's scan …
    rw [splitK_forN rest pre seg buf curr _ hv hl hc (by omega)] at hg
    have hcl : curr < buf.length := by rcases hc with h | ⟨h, _⟩ <;> omega
    cases rest with
    | nil =>
      simp only [splitGo] at hg
      simp only [tick, hcl, if_true]
      refine ⟨⟨rfl, rfl, by simp [hl], by omega, Nat.zero_le _, hg.symm, ?_⟩,
        by simp only [fuelOf, List.length_nil]; omega⟩
      rw [pv_unfold, ← hg]
      simp only [pvK]
      rw [sliceTo_ok _ (by simp [hl]; omega)]
      rfl
    | cons c cs =>
      -- … of which the tick is one unfolding: any state from which the model's scan finishes alike will do
      have back : ∀ (pre' seg' rest' : Bytes) (buf' : Buf) (curr' : Nat), inp' = pre' ++ seg' ++ rest' →
          buf'.length = 14 → (curr' ≤ 12 ∨ (curr' = 13 ∧ rest' = [])) →
          splitGo buf' curr' seg' rest' = splitGo buf curr seg (c :: cs) →
          Rem a' inp' B (.split a' inp' curr' seg' rest') buf' := by
        intro pre' seg' rest' buf' curr' hv' hl' hc' e
        refine ⟨rfl, rfl, hl', hc', pre', hv', ?_⟩
        rw [splitK_forN rest' pre' seg' buf' curr' _ hv' hl' hc' (by omega), e]
        exact hg
      have hc' : curr ≤ 12 := by
        rcases hc with h | ⟨_, h⟩
        · exact h
        · cases h
      have hfu : ∀ (x y d : Nat) (s1 s2 rest' : Bytes), rest'.length ≤ cs.length →
          fuelOf (.split a' inp' x s1 rest') ≤ fuelOf (.split a' inp' y s2 (d :: cs)) - 1 := by
        intro x y d s1 s2 rest' h; simp only [fuelOf, List.length_cons]; omega
      by_cases hs : c = SLASH
      · by_cases h13 : curr + 1 = 13
        · simp only [tick, hs, hcl, h13, if_true]
          exact ⟨back (pre ++ seg ++ [c]) cs [] _ 13 (by simp [hv]) (by simp [hl]) (.inr ⟨rfl, rfl⟩)
            (by simp [splitGo, hs, h13]), hfu _ _ _ _ _ _ (Nat.zero_le _)⟩
        · simp only [tick, hs, hcl, h13, if_true, if_false]
          exact ⟨back (pre ++ seg ++ [c]) [] cs _ (curr + 1) (by simp [hv]) (by simp [hl]) (.inl (by omega))
            (by simp [splitGo, hs, h13]), hfu _ _ _ _ _ _ (Nat.le_refl _)⟩
      · simp only [tick, hs, if_false]
        exact ⟨back pre (seg ++ [c]) cs buf curr (by simp [hv]) hl (.inl hc') (by simp [splitGo, hs]),
          hfu _ _ _ _ _ _ (Nat.le_refl _)⟩
  | loop a' inp' ei k slci i c =>
    obtain ⟨rfl, rfl, hl, he, hk, hsp, hg⟩ := h
    by_cases hlt : k < ei + 1
    · have hkl : k < buf.length := by omega
      have hkt : k < (buf.take (ei + 1)).length := by simp [List.length_take]; omega
      -- one round of the generated range loop is `step2`, which is what the tick evaluates
      rw [List.drop_eq_getElem_cons hkt, List.getElem_take] at hg
      simp only [Go.forRange, range_step] at hg
      simp only [tick, hlt, if_true, List.getElem?_eq_getElem hkl]
      cases hst : step2 GenV20.tbl_order slci i c buf[k] with
      | ok v =>
        obtain ⟨s', i', c'⟩ := v
        rw [hst] at hg
        exact ⟨⟨rfl, rfl, hl, he, by omega, hsp, hg⟩, by simp only [fuelOf]; omega⟩
      | err e =>
        rw [hst] at hg
        exact ⟨⟨rfl, rfl, hl, ⟨ei, hsp⟩, by rw [← hg]; rfl⟩, Nat.zero_le _⟩
      | panic =>
        rw [hst] at hg
        exact ⟨⟨rfl, rfl, hl, ⟨ei, hsp⟩, by rw [← hg]; rfl⟩, Nat.zero_le _⟩
    · obtain rfl : k = ei + 1 := by omega
      rw [List.drop_take_self] at hg
      simp only [tick, hlt, if_false]
      exact ⟨⟨rfl, rfl, hl, ⟨ei, hsp⟩, by rw [← hg, range_spec]; rfl⟩, Nat.zero_le _⟩

/-- a thread at a point of the generated `ParseVector B inp` keeps the promise `PhaseOK` about the model's
    `parse20 inp`: the remaining generated loops are the model's, and the generated result is `parse20 inp` -/
theorem phaseOK_of_rem {h : Addr → Buf} {a : Addr} {inp : Bytes} {B : Buf} {ph : Phase} (hB : B.length = 14)
    (hr : Rem a inp B ph (h a)) : PhaseOK h ph := by
  cases ph with
  | idle => trivial
  | crashed => exact hr
  | ret a' inp' r =>
    obtain ⟨rfl, rfl, hl, _, rfl⟩ := hr
    exact ⟨hl, genParse20 B hB inp'⟩
  | split a' inp' curr seg rest =>
    obtain ⟨rfl, rfl, hl, hc, pre, hv, hg⟩ := hr
    rw [splitK_forN rest pre seg _ curr _ hv hl hc (by omega), split_spec B inp' hB] at hg
    refine ⟨hl, by omega, fun h13 => hc.elim (fun h => absurd h13 (by omega)) (fun h => h.2), ?_⟩
    rw [Option.some.inj hg]
    exact (split14With_spec B inp' hB).2.2
  | loop a' inp' ei k slci i c =>
    obtain ⟨rfl, rfl, hl, he, hk, _, hg⟩ := hr
    exact ⟨hl, he, hk, by rw [← range_spec, hg]; exact genParse20 B hB inp'⟩

def tickN : Nat → Phase → Buf → Phase × Buf
  | 0, ph, buf => (ph, buf)
  | n + 1, ph, buf => tickN n (tick ph buf).1 (tick ph buf).2

theorem rem_tickN {a : Addr} {inp : Bytes} {B : Buf} : ∀ (n : Nat) {ph : Phase} {buf : Buf},
    Rem a inp B ph buf → Rem a inp B (tickN n ph buf).1 (tickN n ph buf).2 ∧
      fuelOf (tickN n ph buf).1 ≤ fuelOf ph - n
  | 0, _, _, h => ⟨h, by simp [tickN]⟩
  | n + 1, ph, buf, h => by
    obtain ⟨h1, h2⟩ := rem_tick h
    obtain ⟨h3, h4⟩ := rem_tickN n h1
    exact ⟨h3, by simp only [tickN]; omega⟩

/-- a thread whose remaining-tick bound is 0 has returned from the body, with the generated result -/
theorem rem_fuel_zero {a : Addr} {inp : Bytes} {B : Buf} {ph : Phase} {buf : Buf} (h : Rem a inp B ph buf)
    (hz : fuelOf ph = 0) :
    ph = .ret a inp (ofGo dec20 (GenP20.ParseVector B inp)) ∧ ∃ ei, GenP20.split B inp = some (buf, ei) := by
  cases ph with
  | idle => exact h.elim
  | crashed => exact h.elim
  | split a' inp' curr seg rest => simp [fuelOf] at hz
  | loop a' inp' ei k slci i c =>
    obtain ⟨_, _, _, _, hk, _⟩ := h
    simp only [fuelOf] at hz; omega
  | ret a' inp' r =>
    obtain ⟨rfl, rfl, _, he, rfl⟩ := h
    exact ⟨rfl, he⟩

/-- the thread that performs an action (`gc` is the pool's own) -/
def actor : Act → Option Nat
  | .getPool t _ _ => some t
  | .getNew t _ _ _ => some t
  | .tick t => some t
  | .put t => some t
  | .gc _ => none
  | .getAliased t _ _ => some t

theorem set_get_self {α : Type} {l : List α} {t : Nat} {x y : α} (h : l[t]? = some y) :
    (l.set t x)[t]? = some x := by
  simp [(List.getElem?_eq_some_iff.1 h).1]

/-- **Frame, locals**: an action changes the phase (the locals) of no thread but its actor -/
theorem frame_thr {σ σ' : St} {act : Act} (hs : apply σ act = some σ') {t : Nat} (hne : actor act ≠ some t) :
    σ'.thr[t]? = σ.thr[t]? := by
  have set_ne : ∀ (t' : Nat) (ph : Phase), actor act = some t' → (σ.thr.set t' ph)[t]? = σ.thr[t]? :=
    fun t' ph e => List.getElem?_set_ne (fun h => hne (e.trans (congrArg some h)))
  cases act with
  | gc x => obtain ⟨_, rfl⟩ := apply_gc hs; rfl
  | getPool t' inp a => obtain ⟨_, _, rfl⟩ := apply_getPool hs; exact set_ne t' _ rfl
  | getNew t' inp a content => obtain ⟨_, _, _, rfl⟩ := apply_getNew hs; exact set_ne t' _ rfl
  | getAliased t' inp a => obtain ⟨_, _, rfl⟩ := apply_getAliased hs; exact set_ne t' _ rfl
  | tick t' => obtain ⟨_, _, _, _, rfl⟩ := apply_tick hs; exact set_ne t' _ rfl
  | put t' => obtain ⟨_, _, _, _, rfl⟩ := apply_put hs; exact set_ne t' _ rfl

/-- **Frame, buffer**: a legal action of *another* thread (or the GC) does not change the buffer a thread holds.
    (`tick` writes only the actor's own buffer — a different one by `Inv.heldDistinct`; `getNew` initialises a
    fresh one; `getPool`, `put`, `gc` do not write at all.) -/
theorem frame_heap {σ σ' : St} {act : Act} (hI : Inv σ) (hl : act.legal = true) (hs : apply σ act = some σ')
    {t : Nat} {ph : Phase} {a : Addr} (ht : σ.thr[t]? = some ph) (ho : ph.owner = some a)
    (hne : actor act ≠ some t) : σ'.heap a = σ.heap a := by
  cases act with
  | getAliased t' inp a' => cases hl
  | gc x => obtain ⟨_, rfl⟩ := apply_gc hs; rfl
  | getPool t' inp a' => obtain ⟨_, _, rfl⟩ := apply_getPool hs; rfl
  | put t' => obtain ⟨_, _, _, _, rfl⟩ := apply_put hs; rfl
  | getNew t' inp a' content =>
    obtain ⟨_, hf, _, rfl⟩ := apply_getNew hs
    simp only [St.fresh, Bool.and_eq_true, Bool.not_eq_true', List.all_eq_true] at hf
    refine upd_other _ _ (fun e => ?_)
    have := hf.2 ph (List.mem_of_getElem? ht)
    subst e; simp [ho] at this
  | tick t' =>
    obtain ⟨ph', a', ht', ho', rfl⟩ := apply_tick hs
    exact upd_other _ _ fun e => hne (congrArg some (hI.heldDistinct t' t ph' ph a' ht' ht ho' (e ▸ ho)))

/-- **A legal action as one thread `t` sees it**: nothing happens to its phase and its buffer; or it makes a
    tick on its own buffer; or it starts a call on a buffer of 14 slots; or it ends one. -/
theorem thread_apply {σ σ' : St} {act : Act} (hI : Inv σ) (hl : act.legal = true) (hs : apply σ act = some σ')
    (t : Nat) :
    (σ'.thr[t]? = σ.thr[t]? ∧ ∀ ph a, σ.thr[t]? = some ph → ph.owner = some a → σ'.heap a = σ.heap a) ∨
    (∃ ph a, σ.thr[t]? = some ph ∧ ph.owner = some a ∧
      σ'.thr[t]? = some (tick ph (σ.heap a)).1 ∧ σ'.heap a = (tick ph (σ.heap a)).2) ∨
    (∃ a inp, σ.thr[t]? = some .idle ∧ σ'.thr[t]? = some (.split a inp 0 [] inp) ∧ (σ'.heap a).length = 14) ∨
    (act = .put t ∧ σ'.thr[t]? = some .idle) := by
  by_cases hact : actor act = some t
  · cases act with
    | gc x => cases hact
    | getAliased t' inp a => cases hl
    | getPool t' inp a =>
      cases hact
      obtain ⟨ht, hm, rfl⟩ := apply_getPool hs
      exact .inr (.inr (.inl ⟨a, inp, ht, set_get_self ht, hI.poolLen a hm⟩))
    | getNew t' inp a content =>
      cases hact
      obtain ⟨ht, _, hc, rfl⟩ := apply_getNew hs
      exact .inr (.inr (.inl ⟨a, inp, ht, set_get_self ht,
        (congrArg List.length (upd_same σ.heap a content)).trans hc⟩))
    | tick t' =>
      cases hact
      obtain ⟨ph, a, ht, ho, rfl⟩ := apply_tick hs
      exact .inr (.inl ⟨ph, a, ht, ho, set_get_self ht, upd_same ..⟩)
    | put t' =>
      cases hact
      obtain ⟨a, inp, r, ht, rfl⟩ := apply_put hs
      exact .inr (.inr (.inr ⟨rfl, set_get_self ht⟩))
  · exact .inl ⟨frame_thr hs hact, fun ph a ht ho => frame_heap hI hl hs ht ho hact⟩

/-- The invariant of the interleaved machine, in terms of the **generated** parser: every thread is idle or at a
    point of the generated `ParseVector B inp` for the buffer content `B` it received (14 slots); every logged
    result is such a generated result. The ownership discipline is in `inv`, whose `phaseOK` and `logOK` follow
    from `rem` and `log` (`phaseOK_of_rem`, `genParse20`). -/
structure GInv (σ : St) : Prop where
  inv : Inv σ
  rem : ∀ (t : Nat) (ph : Phase), σ.thr[t]? = some ph →
    ph = .idle ∨ ∃ (a : Addr) (inp : Bytes) (B : Buf), B.length = 14 ∧ Rem a inp B ph (σ.heap a)
  log : ∀ e ∈ σ.log, ∃ B : Buf, B.length = 14 ∧ e.2.2 = ofGo dec20 (GenP20.ParseVector B e.2.1)

theorem init_ginv {σ : St} (hi : Init σ) : GInv σ where
  inv := init_inv hi
  rem t ph ht := .inl (hi.idle ph (List.mem_of_getElem? ht))
  log e he := by rw [hi.log] at he; cases he

/-- **every legal action preserves the invariant**: the actor's own `tick` by `rem_tick`, a `Get` by
    `rem_start`, and nobody else's buffer is touched -/
theorem ginv_apply {σ σ' : St} {act : Act} (hG : GInv σ) (hl : act.legal = true)
    (hs : apply σ act = some σ') : GInv σ' := by
  have rem' : ∀ (t : Nat) (ph : Phase), σ'.thr[t]? = some ph →
      ph = .idle ∨ ∃ (a : Addr) (inp : Bytes) (B : Buf), B.length = 14 ∧ Rem a inp B ph (σ'.heap a) := by
    intro t ph' ht'
    rcases thread_apply hG.inv hl hs t with ⟨e, hh⟩ | ⟨ph, a, ht, ho, e, eh⟩ | ⟨a, inp, _, e, hlen⟩ | ⟨_, e⟩
    · rw [e] at ht'
      rcases hG.rem t ph' ht' with h | ⟨a, inp, B, hB, hr⟩
      · exact .inl h
      · exact .inr ⟨a, inp, B, hB, by rw [hh ph' a ht' (rem_owner hr)]; exact hr⟩
    · rw [e] at ht'; cases ht'
      rcases hG.rem t ph ht with rfl | ⟨a', inp, B, hB, hr⟩
      · cases ho
      · obtain rfl : a' = a := Option.some.inj ((rem_owner hr).symm.trans ho)
        exact .inr ⟨a', inp, B, hB, by rw [eh]; exact (rem_tick hr).1⟩
    · rw [e] at ht'; cases ht'
      exact .inr ⟨a, inp, σ'.heap a, hlen, rem_start a inp _ hlen⟩
    · rw [e] at ht'; cases ht'
      exact .inl rfl
  have log' : ∀ e ∈ σ'.log, ∃ B : Buf, B.length = 14 ∧ e.2.2 = ofGo dec20 (GenP20.ParseVector B e.2.1) := by
    intro e he
    by_cases hp : ∃ t, act = .put t
    · obtain ⟨t, rfl⟩ := hp
      obtain ⟨a, inp, r, ht, rfl⟩ := apply_put hs
      rcases List.mem_cons.1 he with rfl | he
      · rcases hG.rem t _ ht with h | ⟨a', inp', B, hB, hr⟩
        · cases h
        · obtain ⟨_, rfl, _, _, rfl⟩ := hr
          exact ⟨B, hB, rfl⟩
      · exact hG.log e he
    · rw [frame_log hs (fun t h => hp ⟨t, h⟩)] at he
      exact hG.log e he
  refine ⟨inv_apply hG.inv hl hs (fun t ph ht => ?_) (fun e he => ?_), rem', log'⟩
  · rcases rem' t ph ht with rfl | ⟨a, inp, B, hB, hr⟩
    · trivial
    · exact phaseOK_of_rem hB hr
  · obtain ⟨B, hB, h⟩ := log' e he
    rw [h]; exact genParse20 B hB _

theorem ginv_run (acts : List Act) {σ σ' : St} (hG : GInv σ) (hl : ∀ x ∈ acts, x.legal = true)
    (hr : run σ acts = some σ') : GInv σ' :=
  run_induction acts (fun x hx _ _ h hs => ginv_apply h (hl x hx) hs) hG hr

/-- thread `t` is inside a call `ParseVector(inp)` on the buffer at address `a`, which held `B` when `Get`
    returned it, and is at a point of the generated `GenP20.ParseVector B inp` -/
def Tracks (σ : St) (t : Nat) (a : Addr) (inp : Bytes) (B : Buf) : Prop :=
  ∃ ph, σ.thr[t]? = some ph ∧ Rem a inp B ph (σ.heap a)

/-- `getPool`: the call starts on the pooled buffer's current (stale) content -/
theorem tracks_getPool {σ σ' : St} {t : Nat} {inp : Bytes} {a : Addr} (hI : Inv σ)
    (hs : apply σ (.getPool t inp a) = some σ') :
    (σ.heap a).length = 14 ∧ σ'.heap a = σ.heap a ∧ Tracks σ' t a inp (σ.heap a) := by
  obtain ⟨ht, hm, rfl⟩ := apply_getPool hs
  exact ⟨hI.poolLen a hm, rfl, _, set_get_self ht, rem_start a inp _ (hI.poolLen a hm)⟩

/-- `getNew`: the call starts on the fresh buffer's content -/
theorem tracks_getNew {σ σ' : St} {t : Nat} {inp : Bytes} {a : Addr} {content : Buf}
    (hs : apply σ (.getNew t inp a content) = some σ') :
    content.length = 14 ∧ σ'.heap a = content ∧ Tracks σ' t a inp content := by
  obtain ⟨ht, _, hc, rfl⟩ := apply_getNew hs
  refine ⟨hc, upd_same .., _, set_get_self ht, ?_⟩
  show Rem a inp content _ (upd σ.heap a content a)
  rw [upd_same]; exact rem_start a inp content hc

/-- **every legal action except the thread's own `put` keeps it on track**; its own `getPool`/`getNew` are not
    enabled inside a call -/
theorem tracks_step {σ σ' : St} {act : Act} {t : Nat} {a : Addr} {inp : Bytes} {B : Buf} (hI : Inv σ)
    (hT : Tracks σ t a inp B) (hl : act.legal = true) (hnp : act ≠ .put t) (hs : apply σ act = some σ') :
    Tracks σ' t a inp B := by
  obtain ⟨ph, ht, hr⟩ := hT
  have ho := rem_owner hr
  rcases thread_apply hI hl hs t with ⟨e, hh⟩ | ⟨ph', a', ht', ho', e, eh⟩ | ⟨_, _, hi, _⟩ | ⟨hp, _⟩
  · exact ⟨ph, e.trans ht, by rw [hh ph a ht ho]; exact hr⟩
  · rw [ht] at ht'; cases ht'
    rw [ho] at ho'; cases ho'
    exact ⟨_, e, by rw [eh]; exact (rem_tick hr).1⟩
  · rw [ht] at hi; cases hi
    exact hr.elim
  · exact absurd hp hnp

/-- the thread's `put` logs the generated result on the buffer it got, and gives back the buffer the generated
    `split` leaves -/
theorem tracks_put {σ σ' : St} {t : Nat} {a : Addr} {inp : Bytes} {B : Buf}
    (hT : Tracks σ t a inp B) (hs : apply σ (.put t) = some σ') :
    σ'.log = (t, inp, ofGo dec20 (GenP20.ParseVector B inp)) :: σ.log ∧ a ∈ σ'.pool ∧
    ∃ ei, GenP20.split B inp = some (σ'.heap a, ei) := by
  obtain ⟨ph, ht, hr⟩ := hT
  obtain ⟨a', inp', r, ht', rfl⟩ := apply_put hs
  rw [ht] at ht'; cases ht'
  obtain ⟨rfl, rfl, _, he, rfl⟩ := hr
  exact ⟨rfl, List.mem_cons_self .., he⟩

theorem tracks_run {t : Nat} {a : Addr} {inp : Bytes} {B : Buf} (acts : List Act) {σ σ' : St} (hG : GInv σ)
    (hT : Tracks σ t a inp B) (hl : ∀ x ∈ acts, x.legal = true) (hnp : Act.put t ∉ acts)
    (hr : run σ acts = some σ') : GInv σ' ∧ Tracks σ' t a inp B :=
  run_induction acts (P := fun σ => GInv σ ∧ Tracks σ t a inp B)
    (fun x hx _ _ h hs =>
      ⟨ginv_apply h.1 (hl x hx) hs, tracks_step h.1.inv h.2 (hl x hx) (fun e => hnp (e ▸ hx)) hs⟩)
    ⟨hG, hT⟩ hr

end PoolSim
