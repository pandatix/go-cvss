import Cvss.Proofs.Parse2Core
/-!
# v2.0 parser proofs: the executable recogniser `Spec.V2.read?` returns exactly the witness
-/
namespace Proofs.Parse2
open Model (Bytes)
open Spec (joinSlash render Pair abvs legal allLegal)
open Spec.V2 (metrics shapes Witness G)

theorem read_iff (s : Bytes) (w : List Pair) : Spec.V2.read? s = some w ↔ Witness s w := by
  unfold Spec.V2.read?
  constructor
  · intro h
    cases hr : Spec.readPairs (Spec.splitSlash s) with
    | none => simp [hr] at h
    | some w' =>
      simp only [hr] at h
      split at h
      · rename_i hc
        cases h
        rw [Bool.and_eq_true, List.contains_iff_mem, Table.allLegalB_iff] at hc
        refine ⟨?_, hc.1, hc.2⟩
        rw [Lex.map_render_of_readPairs hr, Lex.joinSlash_splitSlash]
      · cases h
  · rintro ⟨hs, hsh, hl⟩
    obtain ⟨hne, _⟩ := witness_len hsh
    subst hs
    rw [Lex.splitSlash_join_render hne (fun p hp => (legal_clean (hl p hp)).render_noslash),
      Lex.readPairs_map_render (fun p hp => (legal_clean (hl p hp)).colon)]
    have h1 : shapes.contains (w.map (·.1)) = true := List.contains_iff_mem.mpr hsh
    have h2 : Spec.allLegalB metrics w = true := (Table.allLegalB_iff _ w).mpr hl
    simp only [h1, h2, Bool.and_self, if_true]

theorem read_isSome_iff (s : Bytes) : (Spec.V2.read? s).isSome = true ↔ G s := by
  constructor
  · intro h
    cases hr : Spec.V2.read? s with
    | none => simp [hr] at h
    | some w => exact ⟨w, (read_iff s w).mp hr⟩
  · rintro ⟨w, hw⟩
    rw [(read_iff s w).mpr hw]; rfl

/-- a grammatical v2.0 string starts with `AV:` -/
theorem witness_prefix {s : Bytes} {w : List Pair} (h : Witness s w) : [65, 86, 58] <+: s := by
  obtain ⟨hs, hsh, _⟩ := h
  have hh := shapes_head _ hsh
  cases w with
  | nil => simp at hh
  | cons p w' =>
    simp only [List.map_cons, List.head?_cons, Option.some.injEq] at hh
    subst hs
    have hr : render p = [65, 86, 58] ++ p.2 := by
      unfold render; rw [hh]; rfl
    cases w' with
    | nil => exact ⟨p.2, by simp [joinSlash, hr]⟩
    | cons q w'' =>
      refine ⟨p.2 ++ Spec.SLASH :: joinSlash ((q :: w'').map render), ?_⟩
      simp only [List.map_cons]
      rw [Lex.joinSlash_cons_cons, hr]
      simp

end Proofs.Parse2
