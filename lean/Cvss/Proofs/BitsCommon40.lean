import Cvss.Proofs.BitsCommon
/-!
# Rows of the v4.0 Spec table (C07 / C09 / C16)

`met k`, `abv k`, `vals k`, `nv k` name the `k`-th row of `Spec.V4.metrics` (0 ≤ k < 32) and its parts;
`met k` is `Bits.mAt Spec.V4.metrics k`, so everything `BitsCommon` proves about a table applies.
-/
namespace Proofs.B40
open Spec (Metric)

theorem flet_eq {α : Sort u} (x : Nat) (k : Nat → α) : F64.flet x k = k x := by cases x <;> rfl

def dM : Metric := ⟨[], [], false, none⟩
def met (k : Nat) : Metric := Spec.V4.metrics.getD k dM
def abv (k : Nat) : List Nat := (met k).abv
def vals (k : Nat) : List (List Nat) := (met k).values
def nv (k : Nat) : Nat := (vals k).length

theorem tableOK : Bits.TableOK Spec.V4.metrics where
  nodup := by decide +kernel
  vne := by decide +kernel

theorem vals_inj : ∀ k, k < 32 → ∀ i, i < nv k → ∀ j, j < nv k →
    (vals k).getD i [] = (vals k).getD j [] → i = j := by decide +kernel

def fidx (v : List Nat) : List (List Nat) → Nat
  | [] => 0
  | x :: xs => if v = x then 0 else fidx v xs + 1

theorem fidx_lt {v : List Nat} {L : List (List Nat)} (h : v ∈ L) : fidx v L < L.length := by
  induction L with
  | nil => cases h
  | cons x xs ih =>
    unfold fidx
    by_cases e : v = x
    · simp [e]
    · have := ih ((List.mem_cons.mp h).resolve_left e)
      simp [e]; omega

theorem getD_fidx {v : List Nat} {L : List (List Nat)} (h : v ∈ L) : L.getD (fidx v L) [] = v := by
  induction L with
  | nil => cases h
  | cons x xs ih =>
    unfold fidx
    by_cases e : v = x
    · simp [e]
    · simp only [if_neg e, List.getD_cons_succ]; exact ih ((List.mem_cons.mp h).resolve_left e)

end Proofs.B40
