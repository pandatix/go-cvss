import Cvss.Proofs.Parse3Loop
/-!
# v3 parser proofs: the executable recogniser `Spec.V3.read?` is exactly the grammar

`read? hdr s = some w ↔ Witness hdr s w` for every byte string; hence witnesses are unique and
`G hdr s ↔ (read? hdr s).isSome`. Also the "shape" consequences of the grammar used by the C01 corollaries.
-/
namespace Proofs.Parse3
open Spec (Bytes Pair Metric render joinSlash legal isMetric findMetric abvs valueOf allLegal SLASH COLON)

theorem nodupB_iff (l : List Bytes) : Spec.nodupB l = true ↔ l.Nodup := by
  induction l with
  | nil => simp [Spec.nodupB]
  | cons x xs ih => simp [Spec.nodupB, ih, List.nodup_cons]

theorem checks_iff (w : List Pair) :
    (Spec.allLegalB Spec.V3.metrics w && Spec.nodupB (w.map (·.1)) &&
      (abvs Spec.V3.base).all (fun a => (w.map (·.1)).contains a)) = true ↔ IsWit w := by
  rw [Bool.and_eq_true, Bool.and_eq_true, Table.allLegalB_iff, nodupB_iff, List.all_eq_true]
  unfold IsWit
  constructor
  · rintro ⟨⟨h1, h2⟩, h3⟩
    refine ⟨h1, h2, fun m hm => ?_⟩
    exact List.contains_iff_mem.mp (h3 m.abv (List.mem_map.mpr ⟨m, hm, rfl⟩))
  · rintro ⟨h1, h2, h3⟩
    refine ⟨⟨h1, h2⟩, fun a ha => ?_⟩
    obtain ⟨m, hm, rfl⟩ := List.mem_map.mp ha
    exact List.contains_iff_mem.mpr (h3 m hm)

theorem read?_eq_some_iff (hdr s : Bytes) (w : List Pair) :
    Spec.V3.read? hdr s = some w ↔ Spec.V3.Witness hdr s w := by
  rw [witness_iff]
  constructor
  · intro h
    unfold Spec.V3.read? at h
    cases hs : Spec.stripPrefix (hdr ++ [SLASH]) s with
    | none => simp [hs] at h
    | some rest =>
      simp only [hs] at h
      cases hr : Spec.readPairs (Spec.splitSlash rest) with
      | none => simp [hr] at h
      | some w' =>
        simp only [hr] at h
        by_cases hc : (Spec.allLegalB Spec.V3.metrics w' && Spec.nodupB (w'.map (·.1)) &&
            (abvs Spec.V3.base).all (fun a => (w'.map (·.1)).contains a)) = true
        · rw [if_pos hc] at h
          cases h
          have e1 := Lex.map_render_of_readPairs hr
          have e2 := (Lex.stripPrefix_eq_some_iff _ _ _).mp hs
          refine ⟨?_, (checks_iff _).mp hc⟩
          rw [e1, Lex.joinSlash_splitSlash, e2, List.append_assoc]; rfl
        · rw [if_neg hc] at h; cases h
  · rintro ⟨rfl, hw⟩
    unfold Spec.V3.read?
    have hs : Spec.stripPrefix (hdr ++ [SLASH]) (hdr ++ SLASH :: joinSlash (w.map render)) =
        some (joinSlash (w.map render)) := by
      rw [Lex.stripPrefix_eq_some_iff, List.append_assoc]; rfl
    have hcol : ∀ p ∈ w, COLON ∉ p.1 := fun p hp => (good.legal_clean (hw.1 p hp)).1
    simp only [hs, Lex.splitSlash_joinSlash (by simpa using hw.ne_nil) hw.no_slash,
      Lex.readPairs_map_render hcol]
    rw [if_pos ((checks_iff w).mpr hw)]

theorem witness_unique {hdr s : Bytes} {w₁ w₂ : List Pair}
    (h₁ : Spec.V3.Witness hdr s w₁) (h₂ : Spec.V3.Witness hdr s w₂) : w₁ = w₂ := by
  have e₁ := (read?_eq_some_iff hdr s w₁).mpr h₁
  have e₂ := (read?_eq_some_iff hdr s w₂).mpr h₂
  rw [e₁] at e₂
  exact Option.some.inj e₂

theorem G_iff_read? (hdr s : Bytes) : Spec.V3.G hdr s ↔ (Spec.V3.read? hdr s).isSome = true := by
  unfold Spec.V3.G
  constructor
  · rintro ⟨w, hw⟩; rw [(read?_eq_some_iff hdr s w).mpr hw]; rfl
  · intro h
    cases hr : Spec.V3.read? hdr s with
    | none => simp [hr] at h
    | some w => exact ⟨w, (read?_eq_some_iff hdr s w).mp hr⟩

instance (hdr s : Bytes) : Decidable (Spec.V3.G hdr s) := decidable_of_iff _ (G_iff_read? hdr s).symm

theorem mem_joinSlash {parts : List Bytes} {x : Nat} (h : x ∈ joinSlash parts) :
    x = SLASH ∨ ∃ part ∈ parts, x ∈ part := by
  induction parts with
  | nil => simp [joinSlash] at h
  | cons y ys ih =>
    cases ys with
    | nil => exact Or.inr ⟨y, by simp, h⟩
    | cons z zs =>
      rw [Lex.joinSlash_cons_of_ne_nil _ (by simp)] at h
      rcases List.mem_append.mp h with h | h
      · exact Or.inr ⟨y, by simp, h⟩
      · rcases List.mem_cons.mp h with h | h
        · exact Or.inl h
        · rcases ih h with h | ⟨part, hp, hx⟩
          · exact Or.inl h
          · exact Or.inr ⟨part, by simp [hp], hx⟩

theorem witness_elements {hdr s : Bytes} {w : List Pair} (h : Spec.V3.Witness hdr s w) :
    s.drop (hdr.length + 1) = joinSlash (w.map render) ∧
    Spec.splitSlash (s.drop (hdr.length + 1)) = w.map render := by
  obtain ⟨rfl, hw⟩ := (witness_iff _ _ _).mp h
  have : (hdr ++ SLASH :: joinSlash (w.map render)).drop (hdr.length + 1) = joinSlash (w.map render) := by
    have e : hdr ++ SLASH :: joinSlash (w.map render) = (hdr ++ [SLASH]) ++ joinSlash (w.map render) := by simp
    have l : hdr.length + 1 = (hdr ++ [SLASH]).length := by simp
    rw [e, l, List.drop_left]
  rw [this]
  exact ⟨rfl, Lex.splitSlash_joinSlash (by simpa using hw.ne_nil) hw.no_slash⟩

theorem G_elements {hdr s : Bytes} (h : Spec.V3.G hdr s) :
    ∀ el ∈ Spec.splitSlash (s.drop (hdr.length + 1)),
      ∃ p : Pair, el = render p ∧ legal Spec.V3.metrics p.1 p.2 = true := by
  obtain ⟨w, hw⟩ := h
  rw [(witness_elements hw).2]
  intro el hel
  obtain ⟨p, hp, rfl⟩ := List.mem_map.mp hel
  exact ⟨p, rfl, hw.2.1 p hp⟩

theorem G_no_empty {hdr s : Bytes} (h : Spec.V3.G hdr s) : [] ∉ Spec.splitSlash (s.drop (hdr.length + 1)) := by
  intro hin
  obtain ⟨p, hp, _⟩ := G_elements h [] hin
  exact Lex.render_ne_nil p hp.symm

theorem snoc_of_append_eq_snoc {a b t : Bytes} {x : Nat} (h : a ++ b = t ++ [x]) (hb : b ≠ []) :
    ∃ b', b = b' ++ [x] := by
  rcases List.append_eq_append_iff.mp h with ⟨a', _, h2⟩ | ⟨c', _, h2⟩
  · exact ⟨a', h2⟩
  · cases c' with
    | nil => exact ⟨[], by simpa using h2.symm⟩
    | cons y ys =>
      have := congrArg List.length h2
      simp only [List.length_cons, List.length_nil, List.length_append] at this
      cases b with
      | nil => exact absurd rfl hb
      | cons z zs => simp at this; omega

end Proofs.Parse3
