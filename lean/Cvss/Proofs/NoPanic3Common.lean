import Cvss.Proofs.Score3Util
/-!
# No-panic proofs, CVSS v3.0 / v3.1: what both versions share

The generated twins (`Gen/K30.lean`, `Gen/K31.lean`) live in two namespaces and are different constants, so the facts about
them are stated per version; what is shared is (a) the shape of every twin of a weight helper — "a `switch` over the codes
`0 … n-1` whose `default` is the only `panic`" — captured once as `RangeOk`, (b) the range arithmetic of the effective code
`mod base modified`, stated for an arbitrary function that computes what the generated `mod_` computes, (c) the two rewrite lemmas for
the verdict bookkeeping (`flet_eq`, `cond_same`), and (d) the
conjunctions of range tests that the twins of the scoring methods come to, each `true` on codes in range.
-/
namespace Proofs.NoPanic3

/-- the forcing combinator is the identity on the continuation's argument -/
theorem flet_eq {α : Sort u} (x : Nat) (k : Nat → α) : F64.flet x k = k x := Proofs.Score3.flet_eq x k

/-- both branches return the verdict unchanged -/
theorem cond_same {α : Sort u} (c : Bool) (x : α) : cond c x x = x := by cases c <;> rfl

/-- `f` is the twin of a helper that panics exactly outside the codes `0 … n-1` -/
def RangeOk (f : Nat → Bool) (n : Nat) : Prop := ∀ v, f v = Nat.blt v n

theorem RangeOk.ok {f : Nat → Bool} {n : Nat} (h : RangeOk f n) {v : Nat} (hv : v < n) : f v = true := by
  rw [h v]; exact (Nat.blt_eq).mpr hv

theorem RangeOk.bad {f : Nat → Bool} {n : Nat} (h : RangeOk f n) {v : Nat} (hv : n ≤ v) : f v = false := by
  rw [h v]
  cases hb : Nat.blt v n
  · rfl
  · exact absurd ((Nat.blt_eq).mp hb) (Nat.not_lt.mpr hv)

/-- a chain of `Nat.beq v k` tests, `k = 0 … n-1`, is the comparison `v < n` (the shapes the generated twins have) -/
theorem chain2 (v : Nat) : cond (Nat.beq v 0) true (cond (Nat.beq v 1) true false) = Nat.blt v 2 := by
  match v with
  | 0 | 1 => rfl
  | _ + 2 => rfl
theorem chain3 (v : Nat) : cond (Nat.beq v 0) true (cond (Nat.beq v 1) true (cond (Nat.beq v 2) true false)) = Nat.blt v 3 := by
  match v with
  | 0 | 1 | 2 => rfl
  | _ + 3 => rfl
theorem chain4 (v : Nat) : cond (Nat.beq v 0) true (cond (Nat.beq v 1) true (cond (Nat.beq v 2) true
    (cond (Nat.beq v 3) true false))) = Nat.blt v 4 := by
  match v with
  | 0 | 1 | 2 | 3 => rfl
  | _ + 4 => rfl
/-- … with the first case covering two codes (`case 0, 2:` of `ciar`) -/
theorem chain4' (v : Nat) : cond (Nat.beq v 0 || Nat.beq v 2) true (cond (Nat.beq v 1) true
    (cond (Nat.beq v 3) true false)) = Nat.blt v 4 := by
  match v with
  | 0 | 1 | 2 | 3 => rfl
  | _ + 4 => rfl
/-- … (`case 0, 1:` of `reportConfidence`) -/
theorem chain4'' (v : Nat) : cond (Nat.beq v 0 || Nat.beq v 1) true (cond (Nat.beq v 2) true
    (cond (Nat.beq v 3) true false)) = Nat.blt v 4 := by
  match v with
  | 0 | 1 | 2 | 3 => rfl
  | _ + 4 => rfl
/-- … (`case 0, 1:` of `exploitCodeMaturity`, `remediationLevel`) -/
theorem chain5 (v : Nat) : cond (Nat.beq v 0 || Nat.beq v 1) true (cond (Nat.beq v 2) true
    (cond (Nat.beq v 3) true (cond (Nat.beq v 4) true false))) = Nat.blt v 5 := by
  match v with
  | 0 | 1 | 2 | 3 | 4 => rfl
  | _ + 5 => rfl

/-- what the generated `mod_` computes: the Modified metric's code minus one when it is defined, else the Base code -/
def IsMod (m : Nat → Nat → Nat) : Prop :=
  ∀ base modified, m base modified = cond (!(Nat.beq modified 0)) (Nat.mod (Nat.sub (Nat.add modified 256) 1) 256) base

/-- the effective code stays in the Base metric's range when the Modified metric has one more value (`X`) than the Base one -/
theorem IsMod.lt {m : Nat → Nat → Nat} (h : IsMod m) {n b md : Nat} (hn : n < 256) (hb : b < n) (hm : md < n + 1) :
    m b md < n := by
  rw [h b md]
  match md with
  | 0 => exact hb
  | k + 1 =>
    show (k + 1 + 256 - 1) % 256 < n
    have : k + 1 + 256 - 1 = k + 256 := by omega
    rw [this, Nat.add_mod_right, Nat.mod_eq_of_lt (by omega)]
    omega

/-! ## the range tests of the scoring methods -/

theorem blt_true {a n : Nat} (h : a < n) : Nat.blt a n = true := (Nat.blt_eq).mpr h

/-- `Impact` reads C, I, A -/
def rngImpact (c i a : Nat) : Bool := Nat.blt c 3 && Nat.blt i 3 && Nat.blt a 3
/-- `Exploitability` reads AV, AC, PR, UI (and the scope, on which `privilegesRequired` never panics) -/
def rngExpl (av ac pr ui : Nat) : Bool := Nat.blt av 4 && Nat.blt ac 2 && Nat.blt pr 3 && Nat.blt ui 2
/-- `TemporalScore` reads E, RL, RC on top of `BaseScore` -/
def rngTemporal (e rl rc : Nat) : Bool := Nat.blt e 5 && Nat.blt rl 5 && Nat.blt rc 4
/-- `EnvironmentalScore` reads the requirements, E, RL, RC, and the *effective* codes of the eight Base/Modified pairs -/
def rngEnv (cr ir ar e rl rc c i a av ac pr ui : Nat) : Bool :=
  (Nat.blt cr 4 && Nat.blt ir 4 && Nat.blt ar 4 && Nat.blt e 5 && Nat.blt rl 5 && Nat.blt rc 4) &&
    rngImpact c i a && rngExpl av ac pr ui

theorem rngImpact_true {c i a : Nat} (hc : c < 3) (hi : i < 3) (ha : a < 3) : rngImpact c i a = true := by
  simp only [rngImpact, blt_true hc, blt_true hi, blt_true ha, Bool.and_self]

theorem rngExpl_true {av ac pr ui : Nat} (hav : av < 4) (hac : ac < 2) (hpr : pr < 3) (hui : ui < 2) :
    rngExpl av ac pr ui = true := by
  simp only [rngExpl, blt_true hav, blt_true hac, blt_true hpr, blt_true hui, Bool.and_self]

theorem rngTemporal_true {e rl rc : Nat} (he : e < 5) (hrl : rl < 5) (hrc : rc < 4) : rngTemporal e rl rc = true := by
  simp only [rngTemporal, blt_true he, blt_true hrl, blt_true hrc, Bool.and_self]

/-- with the effective codes `m base modified` of codes in range -/
theorem rngEnv_true {m : Nat → Nat → Nat} (hm : IsMod m) {cr ir ar e rl rc c mc i mi a ma av mav ac mac pr mpr ui mui : Nat}
    (hcr : cr < 4) (hir : ir < 4) (har : ar < 4) (he : e < 5) (hrl : rl < 5) (hrc : rc < 4)
    (hc : c < 3) (hmc : mc < 4) (hi : i < 3) (hmi : mi < 4) (ha : a < 3) (hma : ma < 4)
    (hav : av < 4) (hmav : mav < 5) (hac : ac < 2) (hmac : mac < 3) (hpr : pr < 3) (hmpr : mpr < 4)
    (hui : ui < 2) (hmui : mui < 3) :
    rngEnv cr ir ar e rl rc (m c mc) (m i mi) (m a ma) (m av mav) (m ac mac) (m pr mpr) (m ui mui) = true := by
  simp only [rngEnv, blt_true hcr, blt_true hir, blt_true har, blt_true he, blt_true hrl, blt_true hrc,
    rngImpact_true (hm.lt (by decide) hc hmc) (hm.lt (by decide) hi hmi) (hm.lt (by decide) ha hma),
    rngExpl_true (hm.lt (by decide) hav hmav) (hm.lt (by decide) hac hmac) (hm.lt (by decide) hpr hmpr)
      (hm.lt (by decide) hui hmui), Bool.and_self]

end Proofs.NoPanic3
