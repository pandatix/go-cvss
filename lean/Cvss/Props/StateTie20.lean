import Cvss.Gen.V20
/-!
# State tie, package 20 — what every property about this package silently assumes

The translator turns each Go function into a pure Lean function of its arguments and reads tables and constants from their
initialisers. That is only the program's behaviour if nothing else can change them: no `init` function, no assignment to (or
address taken of) a package-level variable anywhere in the package, no method call on a package-level variable except v2's
`splitPool.Get/Put`, and no source file that a differently tagged build would add or drop (the checks run a `-tags verif`
build; the hooks files `zz_verif*.go` only add exported accessors). These facts are regenerated from the source on every run
(`pkg_*` lists at the end of `Gen/V20.lean`) and compared here with the expected lists; every property of this package
builds this module as a tie.
-/
namespace StateTie
theorem v20 : GenV20.pkg_inits = [] ∧ GenV20.pkg_build_tags = [] ∧ GenV20.pkg_writes = [] ∧
    GenV20.pkg_calls = ["ParseVector:splitPool.Get", "ParseVector:splitPool.Put"] := ⟨rfl, rfl, rfl, rfl⟩
/-- … and the set of package-level variables is exactly the documented one (error sentinels, immutable tables, v2's pool) -/
theorem vars20 : GenV20.pkg_vars =
    ["ErrInvalidMetricOrder:error", "ErrInvalidMetricValue:error", "ErrTooShortVector:error", "order:[][]string", "splitPool:sync.Pool"] := rfl
/-- the object is exactly its packed bytes: 4 `uint8` fields and nothing else (so Go's `==` on objects is equality of the
    bytes the model works on — no cached or hidden state takes part in it), and only these methods have a pointer receiver
    (every other method works on a copy and cannot change the object) -/
theorem obj20 : GenV20.obj_fields = ["u0:uint8", "u1:uint8", "u2:uint8", "u3:uint8"] ∧ GenV20.obj_ptr_methods = ["Set"] := ⟨rfl, rfl⟩
/-- what the pointer-receiver methods do with their receiver: only `Set` assigns through it; none takes an address inside the
    object, hands the pointer on, or keeps an alias -/
theorem effects20 : GenV20.obj_ptr_effects = ["Set:writes"] := rfl
/-- `sync.Pool`s of the package: `splitPool.New` makes a 14-slot `[]string` (the buffer length every v2.0 parser theorem assumes: `buf.length = 14`), `ParseVector` is the only user, it takes one buffer and hands the SAME variable back, deferred (so on every path) -/
theorem pool20 : GenV20.pool_new = ["splitPool:New=make([]string, 14)"] ∧ GenV20.pool_uses = ["ParseVector:v0 := splitPool.Get()", "ParseVector:defer splitPool.Put(v0)"] := ⟨rfl, rfl⟩
/-- the package imports exactly these standard packages (no `os`, `time`, `runtime`, `reflect`, `C`, no module-internal package:
    nothing through which the environment, the clock, the scheduler or foreign code could reach the translated functions) -/
theorem imports20 : GenV20.pkg_imports = ["errors", "fmt", "math", "strings", "sync", "unsafe"] := rfl
/-- files and initialisers outside what the translator reads: the hooks file declares only the `Verif…` accessors (no `init`, no
    variable, no import), no file of the directory belongs to another platform's or another tag's build, and the only package-level
    initialisers that run code are the `errors.New` sentinels and the pool's `New` closure -/
theorem files20 : GenV20.hook_decls = ["zz_verif_hooks.go:func VerifBytes", "zz_verif_hooks.go:func VerifFromBytes", "zz_verif_hooks.go:func VerifLenVec", "zz_verif_hooks.go:func VerifPoolGet", "zz_verif_hooks.go:func VerifPoolPut", "zz_verif_hooks.go:func VerifRound", "zz_verif_hooks.go:func VerifSplit"] ∧
    GenV20.pkg_other_files = [] ∧
    GenV20.pkg_var_inits = ["ErrInvalidMetricOrder:call errors.New", "ErrInvalidMetricValue:call errors.New", "ErrTooShortVector:call errors.New", "splitPool:call make,funclit"] := ⟨rfl, rfl, rfl⟩
/-- which function mentions which package-level table or pool (the `error` sentinels aside): nothing else in the package —
    no `Error()` method, initialiser or untranslated helper — can read or write them, whatever aliasing it might use -/
theorem uses20 : GenV20.pkg_var_uses = ["ParseVector:order", "ParseVector:splitPool"] := rfl
/-- the only pre-sized buffer is `Vector`'s (its capacity is `lenVec()`, `C17.cap_eq_lenVec20`; a run-time capacity anywhere else
    would be an unmodelled panic source), the only mention of package `unsafe` is `Vector`'s string conversion, and the hooks file is
    byte for byte the committed one -/
theorem buffers20 : GenV20.pkg_presized = ["CVSS20.Vector"] ∧ GenV20.pkg_unsafe_all = ["CVSS20.Vector:unsafe.Pointer"] ∧
    GenV20.hook_sha = ["zz_verif_hooks.go:a7e96d94804e9cda"] := ⟨rfl, rfl, rfl⟩
end StateTie
