import Cvss.Proofs.IEEE.Spec
import Cvss.Proofs.IEEE.Rnd
/-!
# Decoding finite operands: what `F64.ebits/mant/exf` read is the value `Spec.F64Val.ofBits` denotes
-/
namespace IEEE
open Spec F64Order

/-- sign bit as computed by the soft-float -/
def sgn (x : Nat) : Nat := Nat.shiftRight x 63

/-- what the soft-float reads off a finite operand: sign `s`, exponent `E = max 1 field`, significand `m` -/
structure Dec (x : Nat) (vx : Int) (s E m : Nat) : Prop where
  s_le : s ≤ 1
  E_ge : 1 ≤ E
  E_le : E ≤ 2046
  m_lt : m < 2 * P52
  norm : E = 1 ∨ P52 ≤ m
  bits : x = s * P63 + ((E - 1) * P52 + m)
  val : vx = if s = 0 then ((m * 2^E : Nat) : Int) else -((m * 2^E : Nat) : Int)

theorem sgn_eq_signBit (x : Nat) (hx : x < 2^64) : sgn x = Spec.signBit x := by
  unfold sgn Spec.signBit; rw [nshr]; omega

theorem decode (x : Nat) (vx : Int) (hx : x < 2^64) (h : F64Val.ofBits x = .fin vx) :
    F64.ebits x < 2047 ∧ Dec x vx (sgn x) (F64.exf (F64.ebits x)) (F64.mant x (F64.ebits x)) := by
  obtain ⟨hlt, hv⟩ := (ofBits_fin_iff x vx).mp h
  have hfin := (ebits_lt_iff x).mpr hlt
  obtain ⟨hb, hnorm, hm, hE1, hE2⟩ := part_fields x
  rw [sgn_eq_signBit x hx]
  refine ⟨hfin, signBit_le x, hE1, by omega, hm, hnorm, ?_, ?_⟩
  · rw [← hb]; exact split x hx
  · rw [hv, hb, wp_pack _ _ hE1 (by omega) hnorm]; rfl

theorem Dec.wp_eq {x vx s E m} (h : Dec x vx s E m) : wp ((E - 1) * P52 + m) = m * 2^E :=
  wp_pack E m h.E_ge (by have := h.m_lt; omega) h.norm

theorem Dec.pat_lt {x vx s E m} (h : Dec x vx s E m) : (E - 1) * P52 + m < PINF := by
  have := h.m_lt; have := h.E_le; have := h.E_ge
  simp only [P52, PINF] at *; omega

theorem Dec.sv_eq {x vx s E m} (h : Dec x vx s E m) : vx = sv s (m * 2^E) := h.val

theorem Dec.zero_iff {x vx s E m} (h : Dec x vx s E m) : vx = 0 ↔ m = 0 := by
  rw [h.sv_eq, sv_eq_zero, Nat.mul_eq_zero]
  have := Nat.two_pow_pos E
  omega

theorem Dec.mod_eq {x vx s E m} (h : Dec x vx s E m) : x % P63 = (E - 1) * P52 + m := by
  rw [h.bits]; exact mod_pack _ _ (Nat.lt_trans h.pat_lt (by decide))

theorem Dec.mod_zero_iff {x vx s E m} (h : Dec x vx s E m) : x % P63 = 0 ↔ m = 0 := by
  rw [h.mod_eq]
  have := h.norm; have := h.E_ge
  simp only [P52] at *; omega

set_option exponentiation.threshold 5000 in
theorem h4096 : (2:Nat)^4096 = 2^3021 * den := by
  rw [den_pow, ← Nat.pow_add]

/-- exact representation, with the constant `2^4096` split as `2^3021 · 2^1075` -/
theorem rep_exact (a d m e : Nat) (h : a * (2^3021 * den) * den = m * (2^e * d)) : Rep a d m e := by
  unfold Rep; left; rw [h4096]; exact h

theorem rep_sticky (a d m e : Nat) (h1 : m % 2 = 1) (h2 : 2^55 ≤ m)
    (h3 : (m - 1) * (2^e * d) < a * (2^3021 * den) * den) (h4 : a * (2^3021 * den) * den < (m + 1) * (2^e * d)) :
    Rep a d m e := by
  unfold Rep; right; rw [h4096]; exact ⟨h1, h2, h3, h4⟩

set_option exponentiation.threshold 6000 in
theorem h5171 : (2:Nat)^(4096 + 1075) = 2^3021 * den * den := by
  rw [den_eq]; unfold Spec.F64Val.den
  rw [← Nat.pow_add, ← Nat.pow_add]

/-- an integer significand at exponent 0 represents itself -/
theorem rep_int (n : Nat) : Rep n 1 n (4096 + 1075) := by
  apply rep_exact
  rw [h5171]
  generalize den = D
  generalize (2:Nat)^3021 = Q
  rw [Nat.mul_one]; ac_rfl

/-- **`F64.rnd` on a signed value**: `(m, e)` representing `a/d` (or both zero), with the sign bit `s` in front,
    rounds to the correctly rounded `σ·a/d` and keeps the sign bit, also on a zero result -/
theorem rnd_isRNE (s m e a d : Nat) (hs : s ≤ 1) (hd : 0 < d)
    (h : (m = 0 ∧ a = 0) ∨ (0 < m ∧ Rep a d m e)) :
    IsRNE (sv s a) d (F64.rnd (s * P63) m e) ∧ signBit (F64.rnd (s * P63) m e) = s := by
  obtain ⟨p, hp, hr⟩ := rnd_mag (s * P63) m e a d hd h
  rw [hp]
  exact ⟨isRNE_of_mag s a d p hs hd hr, signBit_pack s p hs (Nat.lt_of_le_of_lt hr.1 (by decide))⟩

end IEEE
