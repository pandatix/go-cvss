import Cvss.Proofs.NoPanic40Shape
import Cvss.Proofs.Score4Basic
/-!
# v4.0 `Score_ok`: what each piece of the twin does with the verdict

`Go.forRange` with a verdict in the loop state (`nestK_keeps`: if the body of the innermost loop keeps the verdict
`true` for every combination of elements the four loops visit and the three inner table-index guards hold, the nest
ends normally with verdict `true`), and closed forms of the verdict for the other pieces of
`Proofs/NoPanic40Shape.lean`: the `lookupMV_ok` guards (`preG`), the fourteen `severityDistance_ok` guards (`okB`), the
`getDepth_ok` guards (`depthG`). Nothing here evaluates tables; the Bool facts asked for are supplied by
`Proofs/NoPanic40Guards.lean`.
-/
namespace Proofs.NoPanic40
open Go GenK40
open Proofs.Score4 (flet_eq condT condF)

/-- the outcome of a loop body keeps the verdict: it `continue`s or `break`s (never `return`s) with verdict `true` -/
def Keeps (r : Ctl SK Bool) : Prop := ∃ s' : SK, s'.1 = true ∧ (r = Ctl.next s' ∨ r = Ctl.brk s')

theorem keeps_cond (c : Bool) (a b : Ctl SK Bool) (ha : Keeps a) (hb : Keeps b) : Keeps (cond c a b) := by
  cases c
  · exact hb
  · exact ha

theorem forRange_keeps (xs : List Nat) (f : Nat → SK → Ctl SK Bool)
    (hf : ∀ x ∈ xs, ∀ s : SK, s.1 = true → Keeps (f x s)) :
    ∀ s : SK, s.1 = true → ∃ s' : SK, s'.1 = true ∧ forRange xs s f = Ctl.next s' := by
  induction xs with
  | nil => intro s hs; exact ⟨s, hs, rfl⟩
  | cons x xs ih =>
    intro s hs
    obtain ⟨s', hs', h⟩ := hf x List.mem_cons_self s hs
    have ih' := ih (fun y hy => hf y (List.mem_cons_of_mem _ hy))
    unfold forRange
    rcases h with h | h
    · rw [h]; exact ih' s' hs'
    · rw [h]; exact ⟨s', hs', rfl⟩

theorem wrapK_next (s : SK) : wrapK (Ctl.next s) = Ctl.next s := by
  obtain ⟨o, a, b, c, d, e⟩ := s; rfl

/-- one level of the nest: table-index guard `G`, inner loop, `wrapK` -/
theorem level_keeps (L : List Nat) (g : Nat → SK → Ctl SK Bool) (G : Bool) (hG : G = true)
    (hg : ∀ x ∈ L, ∀ s : SK, s.1 = true → Keeps (g x s))
    (ok : Bool) (a b c d e : Nat) (hok : ok = true) :
    Keeps (wrapK (forRange L (ok && G, a, b, c, d, e) g)) := by
  subst hG hok
  obtain ⟨s', hs', h⟩ := forRange_keeps L g hg (true && true, a, b, c, d, e) rfl
  rw [h, wrapK_next]
  exact ⟨s', hs', Or.inl rfl⟩

theorem nestK_keeps (f : Nat → Nat → Nat → Nat → SK → Ctl SK Bool) (G2 G3 G4 : Bool)
    (hG2 : G2 = true) (hG3 : G3 = true) (hG4 : G4 = true) (L1 L2 L3 L4 : List Nat)
    (hf : ∀ x1 ∈ L1, ∀ x2 ∈ L2, ∀ x3 ∈ L3, ∀ x4 ∈ L4, ∀ s : SK, s.1 = true → Keeps (f x1 x2 x3 x4 s))
    (st : SK) (hst : st.1 = true) :
    ∃ s' : SK, s'.1 = true ∧ nestK f G2 G3 G4 L1 L2 L3 L4 st = Ctl.next s' := by
  unfold nestK
  apply forRange_keeps L1 _ _ st hst
  intro x1 hx1 ⟨ok1, a1, b1, c1, d1, e1⟩ h1
  apply level_keeps L2 _ G2 hG2 _ ok1 a1 b1 c1 d1 e1 h1
  intro x2 hx2 ⟨ok2, a2, b2, c2, d2, e2⟩ h2
  apply level_keeps L3 _ G3 hG3 _ ok2 a2 b2 c2 d2 e2 h2
  intro x3 hx3 ⟨ok3, a3, b3, c3, d3, e3⟩ h3
  apply level_keeps L4 _ G4 hG4 _ ok3 a3 b3 c3 d3 e3 h3
  intro x4 hx4 ⟨ok4, a4, b4, c4, d4, e4⟩ h4
  exact hf x1 hx1 x2 hx2 x3 hx3 x4 hx4 _ h4

theorem stepK_eq (c g : Bool) (v : Nat) (ok : Bool) (nlm lower : Nat) :
    stepK c g v ok nlm lower = (ok && cond c g true, cond c v nlm, cond c (Nat.add lower 1) lower) := by
  cases c <;> simp [stepK, flet_eq]

/-- verdict contribution of the EQ3+EQ6 step -/
def g36 (eq1 eq2 eq3 eq4 eq5 eq6 : Nat) : Bool :=
  cond ((Nat.beq eq3 1) && (Nat.beq eq6 1)) (lookupMV_ok eq1 eq2 (Nat.add eq3 1) eq4 eq5 eq6)
  (cond ((Nat.beq eq3 0) && (Nat.beq eq6 1)) (lookupMV_ok eq1 eq2 (Nat.add eq3 1) eq4 eq5 eq6)
  (cond ((Nat.beq eq3 1) && (Nat.beq eq6 0)) (lookupMV_ok eq1 eq2 eq3 eq4 eq5 (Nat.add eq6 1))
  (cond ((Nat.beq eq3 0) && (Nat.beq eq6 0))
    (lookupMV_ok eq1 eq2 (Nat.add eq3 1) eq4 eq5 eq6 && lookupMV_ok eq1 eq2 eq3 eq4 eq5 (Nat.add eq6 1))
    true)))

/-- the other two components of the EQ3+EQ6 step (they do not depend on the incoming verdict) -/
def n36 (eq1 eq2 eq3 eq4 eq5 eq6 nlm lower : Nat) : Nat := (step36K eq1 eq2 eq3 eq4 eq5 eq6 true nlm lower).2.1
def l36 (eq1 eq2 eq3 eq4 eq5 eq6 nlm lower : Nat) : Nat := (step36K eq1 eq2 eq3 eq4 eq5 eq6 true nlm lower).2.2

theorem step36K_eq (eq1 eq2 eq3 eq4 eq5 eq6 : Nat) (ok : Bool) (nlm lower : Nat) :
    step36K eq1 eq2 eq3 eq4 eq5 eq6 ok nlm lower =
      (ok && g36 eq1 eq2 eq3 eq4 eq5 eq6, n36 eq1 eq2 eq3 eq4 eq5 eq6 nlm lower, l36 eq1 eq2 eq3 eq4 eq5 eq6 nlm lower) := by
  unfold n36 l36 step36K g36
  simp only [flet_eq]
  cases ((Nat.beq eq3 1) && (Nat.beq eq6 1))
  · simp only [condF]
    cases ((Nat.beq eq3 0) && (Nat.beq eq6 1))
    · simp only [condF]
      cases ((Nat.beq eq3 1) && (Nat.beq eq6 0))
      · simp only [condF]
        cases ((Nat.beq eq3 0) && (Nat.beq eq6 0))
        · simp only [condF, Bool.and_true]
        · simp only [condT, Bool.and_assoc]
      · simp only [condT]
    · simp only [condT]
  · simp only [condT]

/-- **the verdict after the lookups**: `lookupMV_ok` of the MacroVector and of every next-lower MacroVector the code
    looks up (each under the condition under which the code looks it up) -/
def preG (ok : Bool) (eq1 eq2 eq3 eq4 eq5 eq6 : Nat) : Bool :=
  (((((ok && lookupMV_ok eq1 eq2 eq3 eq4 eq5 eq6) &&
    cond (Nat.blt eq1 2) (lookupMV_ok (Nat.add eq1 1) eq2 eq3 eq4 eq5 eq6) true) &&
    cond (Nat.blt eq2 1) (lookupMV_ok eq1 (Nat.add eq2 1) eq3 eq4 eq5 eq6) true) &&
    cond (Nat.blt eq4 2) (lookupMV_ok eq1 eq2 eq3 (Nat.add eq4 1) eq5 eq6) true) &&
    cond (Nat.blt eq5 2) (lookupMV_ok eq1 eq2 eq3 eq4 (Nat.add eq5 1) eq6) true) &&
    g36 eq1 eq2 eq3 eq4 eq5 eq6

theorem preK_eq (ok : Bool) (eq1 eq2 eq3 eq4 eq5 eq6 : Nat) (k : Bool → Nat → Nat → Nat → Nat → Nat → Nat → Nat → Bool) :
    ∃ a b c d e f g, preK ok eq1 eq2 eq3 eq4 eq5 eq6 k = k (preG ok eq1 eq2 eq3 eq4 eq5 eq6) a b c d e f g := by
  unfold preK preG
  simp only [flet_eq, stepK_eq, step36K_eq]
  exact ⟨_, _, _, _, _, _, _, rfl⟩

/-- decimal digit extraction as the generated code does it: `uint8((x % m) / d)` -/
def dig (x m d : Nat) : Nat := Nat.mod (Nat.div (Nat.mod x m) d) 256

/-- **the verdict after the body**: the fourteen `severityDistance_ok` guards, in source order -/
def okB (ok : Bool) (av ac at_ pr ui vc vi va sc si sa cr ir ar : Nat) (x1 x2 x3 x4 : Nat) : Bool :=
  ((((((((((((((ok && severityDistance_ok 0 av (dig x1 1000 100)) && severityDistance_ok 1 ac (dig x2 100 10)) &&
    severityDistance_ok 2 at_ (dig x2 10 1)) && severityDistance_ok 3 pr (dig x1 100 10)) &&
    severityDistance_ok 4 ui (dig x1 10 1)) && severityDistance_ok 5 vc (dig x3 1000000 100000)) &&
    severityDistance_ok 6 vi (dig x3 100000 10000)) && severityDistance_ok 7 va (dig x3 10000 1000)) &&
    severityDistance_ok 8 sc (dig x4 1000 100)) && severityDistance_ok 9 si (dig x4 100 10)) &&
    severityDistance_ok 10 sa (dig x4 10 1)) && severityDistance_ok 12 cr (dig x3 1000 100)) &&
    severityDistance_ok 13 ir (dig x3 100 10)) && severityDistance_ok 14 ar (dig x3 10 1))

theorem bodyK_eq (av ac at_ pr ui vc vi va sc si sa cr ir ar : Nat) (x1 x2 x3 x4 : Nat) (ok : Bool) (a b c d e : Nat) :
    ∃ (bad : Bool) (p : Nat × Nat × Nat × Nat × Nat),
      bodyK av ac at_ pr ui vc vi va sc si sa cr ir ar x1 x2 x3 x4 (ok, a, b, c, d, e) =
        cond bad (Ctl.next (okB ok av ac at_ pr ui vc vi va sc si sa cr ir ar x1 x2 x3 x4, a, b, c, d, e))
          (Ctl.brk (okB ok av ac at_ pr ui vc vi va sc si sa cr ir ar x1 x2 x3 x4, p)) := by
  unfold bodyK okB dig
  simp only [flet_eq]
  exact ⟨_, _, rfl⟩

theorem bodyK_keeps (av ac at_ pr ui vc vi va sc si sa cr ir ar : Nat) (x1 x2 x3 x4 : Nat)
    (h : okB true av ac at_ pr ui vc vi va sc si sa cr ir ar x1 x2 x3 x4 = true) (s : SK) (hs : s.1 = true) :
    Keeps (bodyK av ac at_ pr ui vc vi va sc si sa cr ir ar x1 x2 x3 x4 s) := by
  obtain ⟨ok, a, b, c, d, e⟩ := s
  have hok : ok = true := hs
  subst hok
  obtain ⟨bad, p, hb⟩ := bodyK_eq av ac at_ pr ui vc vi va sc si sa cr ir ar x1 x2 x3 x4 true a b c d e
  rw [hb, h]
  exact keeps_cond _ _ _ ⟨_, rfl, Or.inl rfl⟩ ⟨_, rfl, Or.inr rfl⟩

/-- **the verdict after the depth lookups** -/
def depthG (ok : Bool) (eq1 eq2 eq3 eq4 eq5 eq6 : Nat) : Bool :=
  ((((ok && getDepth_ok 1 eq1) && getDepth_ok 2 eq2) && getDepthEQ3EQ6_ok eq3 eq6) && getDepth_ok 4 eq4) &&
    getDepth_ok 5 eq5

theorem postK_eq (ok : Bool) (eq1 eq2 eq3 eq4 eq5 eq6 lower m1 m2 m36 m4 m5 d1 d2 d36 d4 d5 : Nat) :
    postK ok eq1 eq2 eq3 eq4 eq5 eq6 lower m1 m2 m36 m4 m5 d1 d2 d36 d4 d5 = depthG ok eq1 eq2 eq3 eq4 eq5 eq6 := by
  unfold postK depthG
  simp only [flet_eq]

theorem finK_next (eq1 eq2 eq3 eq4 eq5 eq6 lower m1 m2 m36 m4 m5 : Nat) (ok : Bool) (d1 d2 d36 d4 d5 : Nat) :
    finK eq1 eq2 eq3 eq4 eq5 eq6 lower m1 m2 m36 m4 m5 (Ctl.next (ok, d1, d2, d36, d4, d5)) =
      depthG ok eq1 eq2 eq3 eq4 eq5 eq6 := by
  rw [← postK_eq ok eq1 eq2 eq3 eq4 eq5 eq6 lower m1 m2 m36 m4 m5 d1 d2 d36 d4 d5]
  rfl

/-! ## table-index guards of the four `range` expressions, as the generated text writes them -/

def idxG1 (eq1 : Nat) : Bool :=
  ((Nat.blt (1 : Nat) (List.length GenK40.tbl_highestSeverityVectors)) && (Nat.blt eq1 (List.length (Go.idx GenK40.tbl_highestSeverityVectors (1 : Nat)))))
def idxG2 (eq2 : Nat) : Bool :=
  ((Nat.blt (2 : Nat) (List.length GenK40.tbl_highestSeverityVectors)) && (Nat.blt eq2 (List.length (Go.idx GenK40.tbl_highestSeverityVectors (2 : Nat)))))
def idxG36 (eq3 eq6 : Nat) : Bool :=
  ((Nat.blt eq3 (List.length GenK40.tbl_highestSeverityVectorsEQ3EQ6)) && (Nat.blt eq6 (List.length (Go.idx GenK40.tbl_highestSeverityVectorsEQ3EQ6 eq3))))
def idxG4 (eq4 : Nat) : Bool :=
  ((Nat.blt (4 : Nat) (List.length GenK40.tbl_highestSeverityVectors)) && (Nat.blt eq4 (List.length (Go.idx GenK40.tbl_highestSeverityVectors (4 : Nat)))))

theorem loopsK_true (av ac at_ pr ui vc vi va sc si sa cr ir ar : Nat) (eq1 eq2 eq3 eq4 eq5 eq6 lower m1 m2 m36 m4 m5 : Nat)
    (h1 : idxG1 eq1 = true) (h2 : idxG2 eq2 = true) (h3 : idxG36 eq3 eq6 = true) (h4 : idxG4 eq4 = true)
    (hb : ∀ x1 ∈ Go.idx (Go.idx GenK40.tbl_highestSeverityVectors 1) eq1,
          ∀ x2 ∈ Go.idx (Go.idx GenK40.tbl_highestSeverityVectors 2) eq2,
          ∀ x3 ∈ Go.idx (Go.idx GenK40.tbl_highestSeverityVectorsEQ3EQ6 eq3) eq6,
          ∀ x4 ∈ Go.idx (Go.idx GenK40.tbl_highestSeverityVectors 4) eq4,
            okB true av ac at_ pr ui vc vi va sc si sa cr ir ar x1 x2 x3 x4 = true)
    (hd : depthG true eq1 eq2 eq3 eq4 eq5 eq6 = true) :
    loopsK true av ac at_ pr ui vc vi va sc si sa cr ir ar eq1 eq2 eq3 eq4 eq5 eq6 lower m1 m2 m36 m4 m5 = true := by
  unfold loopsK
  simp only [flet_eq]
  unfold idxG1 at h1
  unfold idxG2 at h2
  unfold idxG36 at h3
  unfold idxG4 at h4
  obtain ⟨s', hs', hn⟩ := nestK_keeps (bodyK av ac at_ pr ui vc vi va sc si sa cr ir ar) _ _ _ h2 h3 h4
    (Go.idx (Go.idx GenK40.tbl_highestSeverityVectors 1) eq1) (Go.idx (Go.idx GenK40.tbl_highestSeverityVectors 2) eq2)
    (Go.idx (Go.idx GenK40.tbl_highestSeverityVectorsEQ3EQ6 eq3) eq6) (Go.idx (Go.idx GenK40.tbl_highestSeverityVectors 4) eq4)
    (fun x1 hx1 x2 hx2 x3 hx3 x4 hx4 s hs =>
      bodyK_keeps av ac at_ pr ui vc vi va sc si sa cr ir ar x1 x2 x3 x4 (hb x1 hx1 x2 hx2 x3 hx3 x4 hx4) s hs)
    (true && ((Nat.blt (1 : Nat) (List.length GenK40.tbl_highestSeverityVectors)) && (Nat.blt eq1 (List.length (Go.idx GenK40.tbl_highestSeverityVectors (1 : Nat))))), 0, 0, 0, 0, 0)
    (by show (true && _) = true; rw [h1]; rfl)
  rw [hn]
  obtain ⟨ok, d1, d2, d36, d4, d5⟩ := s'
  have hok : ok = true := hs'
  subst hok
  rw [finK_next]
  exact hd

theorem tailK_true (av ac at_ pr ui vc vi va sc si sa cr ir ar : Nat) (eq1 eq2 eq3 eq4 eq5 eq6 : Nat)
    (hp : preG true eq1 eq2 eq3 eq4 eq5 eq6 = true)
    (h1 : idxG1 eq1 = true) (h2 : idxG2 eq2 = true) (h3 : idxG36 eq3 eq6 = true) (h4 : idxG4 eq4 = true)
    (hb : ∀ x1 ∈ Go.idx (Go.idx GenK40.tbl_highestSeverityVectors 1) eq1,
          ∀ x2 ∈ Go.idx (Go.idx GenK40.tbl_highestSeverityVectors 2) eq2,
          ∀ x3 ∈ Go.idx (Go.idx GenK40.tbl_highestSeverityVectorsEQ3EQ6 eq3) eq6,
          ∀ x4 ∈ Go.idx (Go.idx GenK40.tbl_highestSeverityVectors 4) eq4,
            okB true av ac at_ pr ui vc vi va sc si sa cr ir ar x1 x2 x3 x4 = true)
    (hd : depthG true eq1 eq2 eq3 eq4 eq5 eq6 = true) :
    tailK true av ac at_ pr ui vc vi va sc si sa cr ir ar eq1 eq2 eq3 eq4 eq5 eq6 = true := by
  unfold tailK
  obtain ⟨a, b, c, d, e, f, g, h⟩ := preK_eq true eq1 eq2 eq3 eq4 eq5 eq6
    (fun okResult eqsv lower eq1msd eq2msd eq3eq6msd eq4msd eq5msd =>
      loopsK okResult av ac at_ pr ui vc vi va sc si sa cr ir ar eq1 eq2 eq3 eq4 eq5 eq6 lower eq1msd eq2msd eq3eq6msd eq4msd eq5msd)
  rw [h, hp]
  exact loopsK_true av ac at_ pr ui vc vi va sc si sa cr ir ar eq1 eq2 eq3 eq4 eq5 eq6 _ _ _ _ _ _ h1 h2 h3 h4 hb hd

theorem preG_false_of_lookup (eq1 eq2 eq3 eq4 eq5 eq6 : Nat) (h : lookupMV_ok eq1 eq2 eq3 eq4 eq5 eq6 = false) :
    preG true eq1 eq2 eq3 eq4 eq5 eq6 = false := by
  unfold preG
  rw [h]
  rfl

end Proofs.NoPanic40
