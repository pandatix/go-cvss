import Cvss.Proofs.VecCommon
import Cvss.Proofs.Bits30
/-!
# v3.0: the generated `Vector()` writes the Spec canonical form, and `lenVec()` is its length

* `vector_eq` (A): for **every** object `c` (no well-formedness, not even byte-sized fields needed)
  `c.vector = Spec.V3.canonical header30 (metrics.map fun m => (m.abv, (c.get m.abv).1))`.
  Proof: unfold the generated `Vector_core`, bring the two Go helpers into closed form
  (`mandatory b pre v = b ++ (pre ++ v)`, `notMandatory b pre v = b ++ opt pre v`), and let `simp`
  compare the resulting append chain with the Spec's piece list — emission order, prefixes and header
  all come from the generated text.
* `length_formula` (B, strongest form, every object, byte-sized fields or not):
  `c.vector.length + #{metrics that do not read as a legal value} = c.lenVec`.
  `Get` decodes a metric from its field code alone (`Bits30.layout.get_known`), so one table over the codes, `slot_table`,
  says what each metric adds to the left: the increment `lenVec` has for it, or nothing for an optional metric
  with code 0. `lenVec` adds its increments under mask tests, and a masked field is zero exactly when its code is;
  the final comparison only succeeds if masks and increments are those of the generated `lenVec_core`.
* `length_ne_example`: a byte state on which the two lengths differ. (`Props/C17.lean` draws the consequences.)
-/
namespace Proofs.Vec30
open Spec Proofs.Vec
open Model (O30)
open Bits (mAt)

theorem mand_eq (b pre v : Spec.Bytes) : GenV30.mandatory b pre v = b ++ (pre ++ v) :=
  List.append_assoc b pre v

theorem nm_eq (b pre v : Spec.Bytes) : GenV30.notMandatory b pre v = b ++ opt pre v :=
  notMandatory_eq b pre v

theorem core_shape (r0 r1 r2 r3 r4 r5 r6 r7 r8 r9 r10 r11 r12 r13 r14 r15 r16 r17 r18 r19 r20 r21 r22 r23 r24
    r25 r26 r27 r28 r29 r30 r31 r32 r33 : Nat) :
    GenV30.Vector_core r0 r1 r2 r3 r4 r5 r6 r7 r8 r9 r10 r11 r12 r13 r14 r15 r16 r17 r18 r19 r20 r21 r22 r23 r24
      r25 r26 r27 r28 r29 r30 r31 r32 r33
    = V3.header30 ++ emit V3.metrics
        (GenV30.get_core r15 r16 r17 r18 r19 r20 r21 r22 r0 r23 r24 r25 r26 r27 r28 r12 r29 r30 r31 r8 r32 r33) := by
  simp only [GenV30.Vector_core, flet_eq, mand_eq, nm_eq]
  generalize GenV30.get_core r15 r16 r17 r18 r19 r20 r21 r22 r0 r23 r24 r25 r26 r27 r28 r12 r29 r30 r31 r8 r32 r33 = G
  simp [emit, piece, opt, render, V3.metrics, V3.base, V3.temporal, V3.environmental, V3.header30, mand, optX,
    Spec.b, SLASH, COLON]

/-- the private `get` of `Vector()` is the first component of the public `Get` -/
theorem get_fst (c : O30) : (fun a => (c.get a).1) = GenV30.get c.u0 c.u1 c.u2 c.u3 c.u4 c.u5 := rfl

theorem vector_shape (c : O30) : c.vector = V3.header30 ++ emit V3.metrics (fun a => (c.get a).1) := by
  rw [get_fst]
  unfold O30.vector GenV30.Vector GenV30.get
  rw [core_shape]

/-- **(A)** `Vector()` spells the canonical form of the object's own values — for every object. -/
theorem vector_eq (c : O30) :
    c.vector = V3.canonical V3.header30 (V3.metrics.map fun m => (m.abv, (c.get m.abv).1)) := by
  rw [vector_shape]; exact (V3_canonical_eq V3.header30 _).symm

/-- what `lenVec` reserves for each metric, in table order: the eight mandatory ones make up its constant
    (`44 = 8 + 36`, with the header), the others it adds when the field is not zero -/
def incs : List Nat := [5, 5, 5, 5, 4, 4, 4, 4, 4, 5, 5, 5, 5, 5, 6, 6, 6, 6, 5, 5, 5, 5]

theorem slot_table : ∀ j, j < 22 → (Bits30.vals j).length ≤ 8 ∧ ∀ x, x ≤ 8 →
    plen (mAt V3.metrics j) ((Bits30.vals j).getD x []) = slotLen (mAt V3.metrics j).mandatory (incs.getD j 0) x := by
  decide +kernel

/-- **(B)** for every object: `len(Vector())` + number of metrics reading as an illegal value = `lenVec()` -/
theorem length_formula (c : O30) :
    c.vector.length + (V3.metrics.map fun m => bad m (c.get m.abv).1).sum = c.lenVec := by
  rw [vector_shape, length_plen _ 8 rfl,
    sum_codes V3.metrics plen (fun a => (c.get a).1) Bits30.vals (Bits30.codes c) _
      (fun j hj => congrArg Prod.fst (Bits30.layout.get_known j hj c)) (fun j hj => slotLen_all (slot_table j hj)),
    show V3.metrics.length = 22 from rfl]
  obtain ⟨u0, u1, u2, u3, u4, u5⟩ := c
  -- the right side as `44 + cond (mask test) increment 0 + …`
  simp only [O30.lenVec, GenV30.lenVec, GenV30.lenVec_core, flet_eq, cond_add]
  -- the left side term by term, with the tests on the codes turned into tests on the masked bytes
  simp only [List.range, List.range.loop, List.map, List.sum_cons, List.sum_nil, List.getD_cons_zero,
    List.getD_cons_succ, Bits30.codes, incs, mAt, V3.metrics, V3.base, V3.temporal, V3.environmental, mand, optX,
    List.cons_append, List.nil_append, slotLen, Bool.true_or, Bool.false_or, cond_true,
    beq_shiftRight_land, beq_lor, beq_shiftLeft_land1, Nat.reduceLT, Bool.not_and]
  omega

/-- a sample: a well-formed object, and what `Vector()` writes for it -/
example : (⟨110, 194, 1, 16, 0, 48⟩ : O30).wf = true := by decide +kernel
example : (⟨110, 194, 1, 16, 0, 48⟩ : O30).vector
    = b "CVSS:3.0/AV:A/AC:H/PR:L/UI:R/S:C/C:L/I:N/A:H/E:F/IR:M/MAV:P/MA:N" := by decide +kernel

/-- On non-well-formed byte states the equality fails: code 5 in the `E` field reads as `""`; `lenVec` adds 4 for
    `/E:` + one letter, `Vector` writes only `/E:` (the buffer is over-allocated by one byte, never outgrown). -/
theorem length_ne_example :
    (⟨0, 5, 0, 0, 0, 0⟩ : O30).vector.length = 47 ∧ (⟨0, 5, 0, 0, 0, 0⟩ : O30).lenVec = 48 := by decide +kernel

end Proofs.Vec30
