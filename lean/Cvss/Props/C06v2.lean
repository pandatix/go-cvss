import Cvss.Proofs.Parse2Canon
import Cvss.Proofs.Parse2Read
/-!
# C06 (v2.0): a parsed vector means what it says

The right-hand side is read off the Spec's witness list of the string, not off the parser.
-/
namespace C06.V2
open Proofs Proofs.Parse2
open Model (Bytes Res)
open Spec.V2 (metrics Witness G)

section
variable (K : Contract Model.O20 metrics)

/-- every metric reads as the value written in the string, else as its not-defined value `ND` -/
theorem parsed_means {s : Bytes} {c : Model.O20} (h : parseK K s = .ok c) :
    ∀ w, Witness s w → ∀ m ∈ metrics, K.get c m.abv = (Spec.valueOf metrics w m.abv, Go.errNil) :=
  fun _ hw _ hm => parse_get K h hw hm

theorem parsed_wf {s : Bytes} {c : Model.O20} (h : parseK K s = .ok c) : K.WF c := parse_wf K h

/-- the parsed object is the fold of `Set` over the witness, from the zero object -/
theorem parsed_fold {s : Bytes} {c : Model.O20} (h : parseK K s = .ok c) :
    ∀ w, Witness s w → c = setAll K.set K.zero w := by
  intro w hw
  obtain ⟨w0, hw0, hc⟩ := parse_sound K h
  rw [witness_unique hw hw0]; exact hc

/-- about `Model.parse20` itself, for a contract whose zero/`Set` are the generated ones -/
theorem model_parsed_means (hz : K.zero = Model.O20.zero) (hs : K.set = Model.O20.set)
    {s : Bytes} {c : Model.O20} (h : Model.parse20 s = .ok c) :
    K.WF c ∧ ∀ w, Witness s w → ∀ m ∈ metrics, K.get c m.abv = (Spec.valueOf metrics w m.abv, Go.errNil) := by
  rw [parse20_eq_parseK K hz hs] at h
  exact ⟨parsed_wf K h, parsed_means K h⟩

end

/-- the hypotheses are satisfiable: an accepted string with its witness; the implicit `ND` of an omitted
    group and an explicit value are both read off the witness -/
example : Model.parse20 (Spec.b "AV:L/AC:H/Au:M/C:N/I:N/A:N/E:F/RL:OF/RC:C") = .ok ⟨32, 6, 112, 0⟩ := by decide +kernel
example : Witness (Spec.b "AV:L/AC:H/Au:M/C:N/I:N/A:N/E:F/RL:OF/RC:C")
    [(Spec.b "AV", Spec.b "L"), (Spec.b "AC", Spec.b "H"), (Spec.b "Au", Spec.b "M"), (Spec.b "C", Spec.b "N"),
     (Spec.b "I", Spec.b "N"), (Spec.b "A", Spec.b "N"), (Spec.b "E", Spec.b "F"), (Spec.b "RL", Spec.b "OF"),
     (Spec.b "RC", Spec.b "C")] := (Proofs.Parse2.read_iff _ _).mp (by decide +kernel)

end C06.V2
