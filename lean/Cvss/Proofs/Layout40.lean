import Cvss.Proofs.BitField
import Cvss.Proofs.BitsCommon40
/-!
# The v4.0 bit layout, tied to the generated `Get` / `Set`

`D0 … D8` list the pieces every byte is cut into (bit order), `codes c` the 32 metric codes in **Spec**
order, `upd k c i` the object after arm `k` of `Set` has stored code `i`. Each is checked against the
generated code: `get_idx` (arm `k` of `Get` decodes code `k` with `gvals k`, the value list in code order
read off `Get` itself), `set_known` (arm `k` of `Set` validates against the same list and then performs
`upd k`), `get_default`, `set_default` (the `default:` arms). A changed mask, shift, literal or value list
in the Go source makes the corresponding arm fail.
-/
namespace Proofs.B40
open Spec (Metric)
open Model (O40)
open Bits (validate reduceStrEq)
open BitField (mask wr)

abbrev ms : List Metric := Spec.V4.metrics

/-- `u0`: AV AC AT PR UI -/
def D0 (u : Nat) : List Nat := [Nat.shiftRight (Nat.land u 192) 6, Nat.shiftRight (Nat.land u 32) 5, Nat.shiftRight (Nat.land u 16) 4, Nat.shiftRight (Nat.land u 12) 2, Nat.land u 3]
/-- `u1`: VC SC VI SI -/
def D1 (u : Nat) : List Nat := [Nat.shiftRight (Nat.land u 192) 6, Nat.shiftRight (Nat.land u 48) 4, Nat.shiftRight (Nat.land u 12) 2, Nat.land u 3]
/-- `u2`: VA SA E CR -/
def D2 (u : Nat) : List Nat := [Nat.shiftRight (Nat.land u 192) 6, Nat.shiftRight (Nat.land u 48) 4, Nat.shiftRight (Nat.land u 12) 2, Nat.land u 3]
/-- `u3`: IR AR MAV MAC.hi -/
def D3 (u : Nat) : List Nat := [Nat.shiftRight (Nat.land u 192) 6, Nat.shiftRight (Nat.land u 48) 4, Nat.shiftRight (Nat.land u 14) 1, Nat.mod (Nat.shiftLeft (Nat.land u 1) 1) 256]
/-- `u4`: MAC.lo MAT MPR MUI MVC.hi -/
def D4 (u : Nat) : List Nat := [Nat.shiftRight (Nat.land u 128) 7, Nat.shiftRight (Nat.land u 96) 5, Nat.shiftRight (Nat.land u 24) 3, Nat.shiftRight (Nat.land u 6) 1, Nat.mod (Nat.shiftLeft (Nat.land u 1) 1) 256]
/-- `u5`: MVC.lo MVI MVA MSC MSI.hi -/
def D5 (u : Nat) : List Nat := [Nat.shiftRight (Nat.land u 128) 7, Nat.shiftRight (Nat.land u 96) 5, Nat.shiftRight (Nat.land u 24) 3, Nat.shiftRight (Nat.land u 6) 1, Nat.mod (Nat.shiftLeft (Nat.land u 1) 2) 256]
/-- `u6`: MSI.lo MSA S AU.hi -/
def D6 (u : Nat) : List Nat := [Nat.shiftRight (Nat.land u 192) 6, Nat.shiftRight (Nat.land u 56) 3, Nat.shiftRight (Nat.land u 6) 1, Nat.mod (Nat.shiftLeft (Nat.land u 1) 1) 256]
/-- `u7`: AU.lo R V RE U.hi -/
def D7 (u : Nat) : List Nat := [Nat.shiftRight (Nat.land u 128) 7, Nat.shiftRight (Nat.land u 96) 5, Nat.shiftRight (Nat.land u 24) 3, Nat.shiftRight (Nat.land u 6) 1, Nat.mod (Nat.shiftLeft (Nat.land u 1) 2) 256]
/-- `u8`: U.lo -/
def D8 (u : Nat) : List Nat := [Nat.shiftRight (Nat.land u 192) 6]

def codes (c : O40) : List Nat :=
  [(D0 c.u0).getD 0 0,
   (D0 c.u0).getD 1 0,
   (D0 c.u0).getD 2 0,
   (D0 c.u0).getD 3 0,
   (D0 c.u0).getD 4 0,
   (D1 c.u1).getD 0 0,
   (D1 c.u1).getD 2 0,
   (D2 c.u2).getD 0 0,
   (D1 c.u1).getD 1 0,
   (D1 c.u1).getD 3 0,
   (D2 c.u2).getD 1 0,
   (D2 c.u2).getD 2 0,
   (D2 c.u2).getD 3 0,
   (D3 c.u3).getD 0 0,
   (D3 c.u3).getD 1 0,
   (D3 c.u3).getD 2 0,
   Nat.lor ((D3 c.u3).getD 3 0) ((D4 c.u4).getD 0 0),
   (D4 c.u4).getD 1 0,
   (D4 c.u4).getD 2 0,
   (D4 c.u4).getD 3 0,
   Nat.lor ((D4 c.u4).getD 4 0) ((D5 c.u5).getD 0 0),
   (D5 c.u5).getD 1 0,
   (D5 c.u5).getD 2 0,
   (D5 c.u5).getD 3 0,
   Nat.lor ((D5 c.u5).getD 4 0) ((D6 c.u6).getD 0 0),
   (D6 c.u6).getD 1 0,
   (D6 c.u6).getD 2 0,
   Nat.lor ((D6 c.u6).getD 3 0) ((D7 c.u7).getD 0 0),
   (D7 c.u7).getD 1 0,
   (D7 c.u7).getD 2 0,
   (D7 c.u7).getD 3 0,
   Nat.lor ((D7 c.u7).getD 4 0) ((D8 c.u8).getD 0 0)]
def code (k : Nat) (c : O40) : Nat := (codes c).getD k 0
theorem codes_length (c : O40) : (codes c).length = 32 := rfl

/-- `Set` stores `x` in the `w`-bit field at bit `s` of byte `u`; the literal clear mask in the generated
    text is the complement of the field's mask -/
def put (u s w x : Nat) : Nat := wr u (255 - mask s w) s x
/-- … for a field at bit 0 the generated text has neither shift nor truncation -/
def put0 (u w x : Nat) : Nat := Nat.lor (Nat.land u (255 - mask 0 w)) x

/-- the object after arm `k` of `Set` stored code `i`. A field that straddles two bytes is written in two
    parts; MAC's upper part is selected with the decimal literal `10` of the Go source; `U` overwrites `u8` -/
def upd : Nat → O40 → Nat → O40
  | 0, c, i => { c with u0 := put c.u0 6 2 i }  -- AV
  | 1, c, i => { c with u0 := put c.u0 5 1 i }  -- AC
  | 2, c, i => { c with u0 := put c.u0 4 1 i }  -- AT
  | 3, c, i => { c with u0 := put c.u0 2 2 i }  -- PR
  | 4, c, i => { c with u0 := put0 c.u0 2 i }  -- UI
  | 5, c, i => { c with u1 := put c.u1 6 2 i }  -- VC
  | 6, c, i => { c with u1 := put c.u1 2 2 i }  -- VI
  | 7, c, i => { c with u2 := put c.u2 6 2 i }  -- VA
  | 8, c, i => { c with u1 := put c.u1 4 2 i }  -- SC
  | 9, c, i => { c with u1 := put0 c.u1 2 i }  -- SI
  | 10, c, i => { c with u2 := put c.u2 4 2 i }  -- SA
  | 11, c, i => { c with u2 := put c.u2 2 2 i }  -- E
  | 12, c, i => { c with u2 := put0 c.u2 2 i }  -- CR
  | 13, c, i => { c with u3 := put c.u3 6 2 i }  -- IR
  | 14, c, i => { c with u3 := put c.u3 4 2 i }  -- AR
  | 15, c, i => { c with u3 := put c.u3 1 3 i }  -- MAV
  | 16, c, i => { c with u3 := put0 c.u3 1 (Nat.shiftRight (Nat.land i 10) 1), u4 := put c.u4 7 1 (Nat.land i 1) }  -- MAC
  | 17, c, i => { c with u4 := put c.u4 5 2 i }  -- MAT
  | 18, c, i => { c with u4 := put c.u4 3 2 i }  -- MPR
  | 19, c, i => { c with u4 := put c.u4 1 2 i }  -- MUI
  | 20, c, i => { c with u4 := put0 c.u4 1 (Nat.shiftRight (Nat.land i 2) 1), u5 := put c.u5 7 1 (Nat.land i 1) }  -- MVC
  | 21, c, i => { c with u5 := put c.u5 5 2 i }  -- MVI
  | 22, c, i => { c with u5 := put c.u5 3 2 i }  -- MVA
  | 23, c, i => { c with u5 := put c.u5 1 2 i }  -- MSC
  | 24, c, i => { c with u5 := put0 c.u5 1 (Nat.shiftRight (Nat.land i 4) 2), u6 := put c.u6 6 2 (Nat.land i 3) }  -- MSI
  | 25, c, i => { c with u6 := put c.u6 3 3 i }  -- MSA
  | 26, c, i => { c with u6 := put c.u6 1 2 i }  -- S
  | 27, c, i => { c with u6 := put0 c.u6 1 (Nat.shiftRight (Nat.land i 2) 1), u7 := put c.u7 7 1 (Nat.land i 1) }  -- AU
  | 28, c, i => { c with u7 := put c.u7 5 2 i }  -- R
  | 29, c, i => { c with u7 := put c.u7 3 2 i }  -- V
  | 30, c, i => { c with u7 := put c.u7 1 2 i }  -- RE
  | 31, c, i => { c with u7 := put0 c.u7 1 (Nat.shiftRight (Nat.land i 4) 2),
                         u8 := Nat.mod (Nat.shiftLeft (Nat.land i 3) 6) 256 }  -- U
  | _, c, _ => c

/-- `GenV40.Get_core` as a function of the code list (its arguments are in the order of the Go source,
    where `SC`, `SI` come before `VI`, `VA`) -/
def core (rs : List Nat) (a : List Nat) : List Nat × Go.Err :=
  GenV40.Get_core
    (rs.getD 0 0) (rs.getD 1 0) (rs.getD 2 0) (rs.getD 3 0) (rs.getD 4 0) (rs.getD 5 0) (rs.getD 8 0) (rs.getD 6 0)
    (rs.getD 9 0) (rs.getD 7 0) (rs.getD 10 0) (rs.getD 11 0) (rs.getD 12 0) (rs.getD 13 0) (rs.getD 14 0) (rs.getD 15 0)
    (rs.getD 16 0) (rs.getD 17 0) (rs.getD 18 0) (rs.getD 19 0) (rs.getD 20 0) (rs.getD 21 0) (rs.getD 22 0) (rs.getD 23 0)
    (rs.getD 24 0) (rs.getD 25 0) (rs.getD 26 0) (rs.getD 27 0) (rs.getD 28 0) (rs.getD 29 0) (rs.getD 30 0) (rs.getD 31 0) a

theorem get_core (c : O40) (a : List Nat) : c.get a = core (codes c) a := rfl

/-- what the generated `Get` answers for metric `k` when every field reads `i` (a black-box decoder) -/
def dec (k i : Nat) : List Nat := (GenV40.Get_core i i i i i i i i i i i i i i i i i i i i i i i i i i i i i i i i (abv k)).1
/-- the value list of metric `k` **in code order**, read off the generated `Get` (the Spec lists the same values in
    another order; `gvals_spec`) -/
def gvals (k : Nat) : List (List Nat) := (List.range (nv k)).map (dec k)

theorem gvals_length (k : Nat) : (gvals k).length = nv k := by
  unfold gvals; rw [List.length_map, List.length_range]

theorem core_known : ∀ k, k < 32 → ∀ rs : List Nat, core rs (abv k) = ((gvals k).getD (rs.getD k 0) [], Go.errNil) := by
  split_lt <;> (
    intro rs
    generalize hx : rs.getD _ 0 = x
    simp only [core, hx]
    match x with
    | 0 | 1 | 2 | 3 | 4 => exact rfl
    | _ + 5 => exact rfl)

theorem get_idx (c : O40) : ∀ k, k < 32 → c.get (abv k) = ((gvals k).getD (code k c) [], Go.errNil) :=
  fun k hk => (get_core c _).trans (core_known k hk _)

/-- `a == lit` is false for every literal that is a Spec abbreviation when `a` is not one -/
theorem strEq_unk {a : List Nat} (h : a ∉ ms.map (·.abv)) (l : List Nat)
    (hl : (ms.any fun m => m.abv == l) = true) : Go.strEq a l = false := by
  obtain ⟨m, hm, e⟩ := List.any_eq_true.mp hl
  exact decide_eq_false fun e' => h (List.mem_map.mpr ⟨m, hm, (beq_iff_eq.mp e).trans e'.symm⟩)

theorem get_default (c : O40) (a : List Nat) (h : a ∉ ms.map (·.abv)) : c.get a = ([], Model.eInvalidMetric a) := by
  simp (config := {decide := true}) only [O40.get, GenV40.Get, GenV40.Get_core, strEq_unk h, cond_false]
  rfl

theorem set_default (c : O40) (a v : List Nat) (h : a ∉ ms.map (·.abv)) : c.set a v = (c, Model.eInvalidMetric a) := by
  simp (config := {decide := true}) only [O40.set, GenV40.Set, strEq_unk h, cond_false]
  rfl

theorem set_known : ∀ k, k < 32 → ∀ (c : O40) (v : List Nat), c.set (abv k) v =
    (match validate v (gvals k) with
     | (i, err) => cond (!(Go.Err.beq err Go.errNil)) (c, err) (upd k c i, Go.errNil)) := by
  split_lt <;> (
    rintro ⟨u0, u1, u2, u3, u4, u5, u6, u7, u8⟩ v
    generalize hp : validate v (gvals _) = p
    -- the comparisons with the literal abbreviations are evaluated, which selects the arm (nothing to prove)
    dsimp only [O40.set, GenV40.Set, reduceStrEq, cond_true, cond_false]
    generalize hq : GenV40.validate v _ = q
    -- the arm's literal list is `gvals k` and `GenV40.validate` is `Bits.validate`, both by evaluation
    obtain rfl : q = p := hq.symm.trans hp
    obtain ⟨i, err⟩ := q
    cases Go.Err.beq err Go.errNil <;> simp only [flet_eq] <;> exact rfl)

end Proofs.B40
