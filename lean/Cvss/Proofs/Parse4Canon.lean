import Cvss.Proofs.Parse4Main
/-!
# v4.0 parser proofs: the canonical spelling (C08, C02)
-/
namespace Proofs.P4
open Spec (Pair render SLASH COLON legal isMetric allLegal abvs valueOf findMetric Metric canonPairs)
open Model (Bytes O40 Res)
open Proofs.Table

theorem canonical_eq (w : List Pair) : Spec.V4.canonical w = Spec.V4.header ++ body (canonPairs Spec.V4.metrics w) := rfl

/-- the canonical pairs of any list whose values are legal form a valid witness list: all base metrics are
    written, and of the optional ones a sub-sequence in table order -/
theorem valid_canon {w : List Pair} (h : ∀ m ∈ Spec.V4.metrics, valueOf Spec.V4.metrics w m.abv ∈ m.values) :
    Valid (canonPairs Spec.V4.metrics w) := by
  refine ⟨(complete_canonPairs good h).1, abvs (Spec.V4.optional.filter (written Spec.V4.metrics w)),
    List.Sublist.map _ List.filter_sublist, ?_⟩
  have hb : ∀ m ∈ Spec.V4.base, written Spec.V4.metrics w m = true := fun m hm => by simp [written, base_mandatory m hm]
  rw [names_canonPairs]
  -- the table is split only after `written … w` is a variable, so that no step compares the two spellings of the table
  generalize written Spec.V4.metrics w = c at hb ⊢
  rw [metrics_eq, List.filter_append, List.filter_eq_self.mpr hb]
  simp [abvs]

theorem witness_canonical {w : List Pair} (h : Valid w) :
    Spec.V4.Witness (Spec.V4.canonical w) (canonPairs Spec.V4.metrics w) :=
  witness_iff.mpr ⟨canonical_eq w, valid_canon fun _ hm => h.complete.valueOf_mem good hm⟩

section K
variable (K : Contract O40 Spec.V4.metrics)

/-- C02 core: parsing the canonical spelling of a well-formed object's values gives the object back -/
theorem parseK_canonical_pairs {c : O40} (hc : K.WF c) :
    parseK K (Spec.V4.canonical (K.pairs c)) = .ok c := by
  have hv := valid_canon fun _ hm => K.valueOf_pairs_mem good.nodup hc hm
  rw [canonical_eq, parseK_valid K hv,
    K.setAll_eq good hc hv.complete fun m hm => by rw [valueOf_canonPairs good.nodup _ hm, K.valueOf_pairs good.nodup c hm]]

end K
end Proofs.P4
