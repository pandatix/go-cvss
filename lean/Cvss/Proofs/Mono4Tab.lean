import Cvss.Proofs.Mono4Lists
/-!
# v4.0 monotonicity: the table of all 52,650 scores, and the five transition lists checked on it

`scoreSum` is evaluated once at every point (`tabAll`, one byte per score). For a pair `(i, j)` of the transition list
of one EQ group, "score at summary `i` ≤ score at summary `j`" in all contexts of the other groups is one comparison of
the table shifted by `i` with the table shifted by `j` strides, restricted to the bytes where the group's index is 0
(`chkG`). By kernel evaluation; `mono1 … mono5` read the result back at given summaries.
-/
namespace Proofs.Mono4

def blk4 (s1 s2 : Nat × Nat) (s36 : Nat × Nat × Nat) (q5 : Nat) : Nat :=
  packB (8 * 1) (S4.map fun s4 => scoreSum s1 s2 s36 s4 q5)
def blk36 (s1 s2 : Nat × Nat) (q5 : Nat) : Nat := packB (8 * 15) (S36.map fun s36 => blk4 s1 s2 s36 q5)
def blk2 (s1 : Nat × Nat) (q5 : Nat) : Nat := packB (8 * 585) (S2.map fun s2 => blk36 s1 s2 q5)
def blk1 (q5 : Nat) : Nat := packB (8 * 1755) (S1.map fun s1 => blk2 s1 q5)
def tabAll : Nat := packB (8 * 17550) (S5.map blk1)

/-- the byte of `tabAll` that holds the score at the summaries with these indices -/
def pt (i5 i1 i2 i36 i4 : Nat) : Nat := 17550 * i5 + (1755 * i1 + (585 * i2 + (15 * i36 + i4)))

theorem score_lt (s1 s2 : Nat × Nat) (s36 : Nat × Nat × Nat) (s4 : Nat × Nat) (q5 : Nat) :
    scoreSum s1 s2 s36 s4 q5 < 256 ^ 1 := Nat.lt_trans (scoreSum_lt ..) (by decide)
theorem blk4_lt (s1 s2 : Nat × Nat) (s36 : Nat × Nat × Nat) (q5 : Nat) : blk4 s1 s2 s36 q5 < 256 ^ 15 :=
  packB_map_lt 1 (n := 15) S4 _ (fun _ => score_lt ..) rfl
theorem blk36_lt (s1 s2 : Nat × Nat) (q5 : Nat) : blk36 s1 s2 q5 < 256 ^ 585 :=
  packB_map_lt 15 (n := 585) S36 _ (fun _ => blk4_lt ..) rfl
theorem blk2_lt (s1 : Nat × Nat) (q5 : Nat) : blk2 s1 q5 < 256 ^ 1755 :=
  packB_map_lt 585 (n := 1755) S2 _ (fun _ => blk36_lt ..) rfl
theorem blk1_lt (q5 : Nat) : blk1 q5 < 256 ^ 17550 := packB_map_lt 1755 (n := 17550) S1 _ (fun _ => blk2_lt ..) rfl

theorem lane_tabAll {i5 i1 i2 i36 i4 : Nat} (h5 : i5 < S5.length) (h1 : i1 < S1.length) (h2 : i2 < S2.length)
    (h36 : i36 < S36.length) (h4 : i4 < S4.length) : lane tabAll (pt i5 i1 i2 i36 i4) =
      scoreSum (S1.getD i1 (0, 0)) (S2.getD i2 (0, 0)) (S36.getD i36 (0, 0, 0)) (S4.getD i4 (0, 0)) (S5.getD i5 0) := by
  have hl := S_lengths
  have e4 := lane_packB_map (m := 1) S4 (0, 0) (fun s4 => scoreSum (S1.getD i1 (0, 0)) (S2.getD i2 (0, 0))
    (S36.getD i36 (0, 0, 0)) s4 (S5.getD i5 0)) (fun _ => score_lt ..) (i := i4) h4 (r := 0) (by decide)
  rw [Nat.one_mul, Nat.add_zero, lane_of_lt (Nat.lt_trans (scoreSum_lt ..) (by decide))] at e4
  rw [pt, tabAll, lane_packB_map S5 0 blk1 blk1_lt h5 (by omega), blk1,
    lane_packB_map S1 (0, 0) _ (fun _ => blk2_lt ..) h1 (by omega), blk2,
    lane_packB_map S2 (0, 0) _ (fun _ => blk36_lt ..) h2 (by omega), blk36,
    lane_packB_map S36 (0, 0, 0) _ (fun _ => blk4_lt ..) h36 (by omega), blk4, e4]

theorem tabAll_le (L : Nat) : lane tabAll L ≤ 127 :=
  lane_packB_map_le (by decide) S5 _ blk1_lt (fun _ => lane_packB_map_le (by decide) S1 _ (fun _ => blk2_lt ..)
    fun _ => lane_packB_map_le (by decide) S2 _ (fun _ => blk36_lt ..) fun _ => lane_packB_map_le (by decide) S36 _
      (fun _ => blk4_lt ..) fun _ => lane_packB_map_le (by decide) S4 _ (fun _ => score_lt ..) fun s4 r =>
        Nat.le_trans (Nat.le_trans (Nat.mod_le _ _) (Nat.div_le_self _ _)) (Nat.le_of_lt_succ (scoreSum_lt ..))) L

/-- 127, and 1, in every byte of the table -/
def all127 : Nat := lanes 127 15 3510 15
def ones : Nat := lanes 1 15 3510 15

def monoAll : Bool :=
  F64.flet tabAll fun T => F64.flet all127 fun m7 => F64.flet ones fun e =>
    chkG T m7 e 17550 3 1 tr5 && chkG T m7 e 1755 10 3 tr1 && chkG T m7 e 585 3 30 tr2 &&
    chkG T m7 e 15 39 90 tr36 && chkG T m7 e 1 15 3510 tr4

theorem monoAll_ok : monoAll = true := by decide +kernel

theorem lane_all127 (L : Nat) (h : L < 52650) : lane all127 L = 127 := by
  have := lane_lanes (x := 127) (s := 15) (hi := 3510) (P := 15) (by decide) (Nat.le_refl _) (c := L / 15)
    (r := L % 15) (by omega) (Nat.mod_lt _ (by decide))
  rwa [Nat.div_add_mod] at this
theorem lane_ones (L : Nat) (h : L < 52650) : lane ones L = 1 := by
  have := lane_lanes (x := 1) (s := 15) (hi := 3510) (P := 15) (by decide) (Nat.le_refl _) (c := L / 15)
    (r := L % 15) (by omega) (Nat.mod_lt _ (by decide))
  rwa [Nat.div_add_mod] at this

theorem monoAll_parts : chkG tabAll all127 ones 17550 3 1 tr5 = true ∧ chkG tabAll all127 ones 1755 10 3 tr1 = true ∧
    chkG tabAll all127 ones 585 3 30 tr2 = true ∧ chkG tabAll all127 ones 15 39 90 tr36 = true ∧
    chkG tabAll all127 ones 1 15 3510 tr4 = true := by
  have h := monoAll_ok
  unfold monoAll at h
  rw [flet_eq, flet_eq, flet_eq] at h
  simp only [Bool.and_eq_true] at h
  exact ⟨h.1.1.1.1, h.1.1.1.2, h.1.1.2, h.1.2, h.2⟩

/-- one group read back: `c` numbers the block, `r` the byte inside the stride -/
theorem group_le {s n hi : Nat} {tr : List (Nat × Nat)} (hn : 0 < n) (h : chkG tabAll all127 ones s n hi tr = true)
    {t : Nat × Nat} (ht : t ∈ tr) {c r : Nat} (hc : c < hi) (hr : r < s) (hN : s * n * c + r < 52650) :
    lane tabAll (s * t.1 + (s * n * c + r)) ≤ lane tabAll (s * t.2 + (s * n * c + r)) :=
  chkG_elim tabAll_le (lane_lanes_le (by decide) (Nat.le_refl _) (by decide))
    (lane_lanes_le (by decide) (Nat.le_refl _) (by decide)) lane_all127 lane_ones hn h ht hc hr hN

theorem mono1 {s2 : Nat × Nat} {s36 : Nat × Nat × Nat} {s4 : Nat × Nat} {q5 : Nat}
    (m2 : s2 ∈ S2) (m36 : s36 ∈ S36) (m4 : s4 ∈ S4) (m5 : q5 ∈ S5) {s s' : Nat × Nat}
    (hs : Listed S1 (0, 0) tr1 s s') : scoreSum s s2 s36 s4 q5 ≤ scoreSum s' s2 s36 s4 q5 := by
  obtain ⟨t, ht, rfl, rfl⟩ := hs
  obtain ⟨i2, h2, rfl⟩ := mem_getD (0, 0) m2
  obtain ⟨i36, h36, rfl⟩ := mem_getD (0, 0, 0) m36
  obtain ⟨i4, h4, rfl⟩ := mem_getD (0, 0) m4
  obtain ⟨i5, h5, rfl⟩ := mem_getD 0 m5
  have hb := tr_bounds.1 t ht
  have hl := S_lengths
  have := group_le (by decide) monoAll_parts.2.1 ht (c := i5) (r := 585 * i2 + (15 * i36 + i4)) (by omega) (by omega)
    (by omega)
  rwa [show 1755 * t.1 + (1755 * 10 * i5 + (585 * i2 + (15 * i36 + i4))) = pt i5 t.1 i2 i36 i4 by unfold pt; omega,
    show 1755 * t.2 + (1755 * 10 * i5 + (585 * i2 + (15 * i36 + i4))) = pt i5 t.2 i2 i36 i4 by unfold pt; omega,
    lane_tabAll h5 hb.1 h2 h36 h4, lane_tabAll h5 hb.2 h2 h36 h4] at this

theorem mono2 {s1 : Nat × Nat} {s36 : Nat × Nat × Nat} {s4 : Nat × Nat} {q5 : Nat}
    (m1 : s1 ∈ S1) (m36 : s36 ∈ S36) (m4 : s4 ∈ S4) (m5 : q5 ∈ S5) {s s' : Nat × Nat}
    (hs : Listed S2 (0, 0) tr2 s s') : scoreSum s1 s s36 s4 q5 ≤ scoreSum s1 s' s36 s4 q5 := by
  obtain ⟨t, ht, rfl, rfl⟩ := hs
  obtain ⟨i1, h1, rfl⟩ := mem_getD (0, 0) m1
  obtain ⟨i36, h36, rfl⟩ := mem_getD (0, 0, 0) m36
  obtain ⟨i4, h4, rfl⟩ := mem_getD (0, 0) m4
  obtain ⟨i5, h5, rfl⟩ := mem_getD 0 m5
  have hb := tr_bounds.2.1 t ht
  have hl := S_lengths
  have := group_le (by decide) monoAll_parts.2.2.1 ht (c := 10 * i5 + i1) (r := 15 * i36 + i4) (by omega) (by omega)
    (by omega)
  rwa [show 585 * t.1 + (585 * 3 * (10 * i5 + i1) + (15 * i36 + i4)) = pt i5 i1 t.1 i36 i4 by unfold pt; omega,
    show 585 * t.2 + (585 * 3 * (10 * i5 + i1) + (15 * i36 + i4)) = pt i5 i1 t.2 i36 i4 by unfold pt; omega,
    lane_tabAll h5 h1 hb.1 h36 h4, lane_tabAll h5 h1 hb.2 h36 h4] at this

theorem mono36 {s1 : Nat × Nat} {s2 : Nat × Nat} {s4 : Nat × Nat} {q5 : Nat}
    (m1 : s1 ∈ S1) (m2 : s2 ∈ S2) (m4 : s4 ∈ S4) (m5 : q5 ∈ S5) {s s' : Nat × Nat × Nat}
    (hs : Listed S36 (0, 0, 0) tr36 s s') : scoreSum s1 s2 s s4 q5 ≤ scoreSum s1 s2 s' s4 q5 := by
  obtain ⟨t, ht, rfl, rfl⟩ := hs
  obtain ⟨i1, h1, rfl⟩ := mem_getD (0, 0) m1
  obtain ⟨i2, h2, rfl⟩ := mem_getD (0, 0) m2
  obtain ⟨i4, h4, rfl⟩ := mem_getD (0, 0) m4
  obtain ⟨i5, h5, rfl⟩ := mem_getD 0 m5
  have hb := tr_bounds.2.2.1 t ht
  have hl := S_lengths
  have := group_le (by decide) monoAll_parts.2.2.2.1 ht (c := 3 * (10 * i5 + i1) + i2) (r := i4) (by omega) (by omega)
    (by omega)
  rwa [show 15 * t.1 + (15 * 39 * (3 * (10 * i5 + i1) + i2) + (i4)) = pt i5 i1 i2 t.1 i4 by unfold pt; omega,
    show 15 * t.2 + (15 * 39 * (3 * (10 * i5 + i1) + i2) + (i4)) = pt i5 i1 i2 t.2 i4 by unfold pt; omega,
    lane_tabAll h5 h1 h2 hb.1 h4, lane_tabAll h5 h1 h2 hb.2 h4] at this

theorem mono4 {s1 : Nat × Nat} {s2 : Nat × Nat} {s36 : Nat × Nat × Nat} {q5 : Nat}
    (m1 : s1 ∈ S1) (m2 : s2 ∈ S2) (m36 : s36 ∈ S36) (m5 : q5 ∈ S5) {s s' : Nat × Nat}
    (hs : Listed S4 (0, 0) tr4 s s') : scoreSum s1 s2 s36 s q5 ≤ scoreSum s1 s2 s36 s' q5 := by
  obtain ⟨t, ht, rfl, rfl⟩ := hs
  obtain ⟨i1, h1, rfl⟩ := mem_getD (0, 0) m1
  obtain ⟨i2, h2, rfl⟩ := mem_getD (0, 0) m2
  obtain ⟨i36, h36, rfl⟩ := mem_getD (0, 0, 0) m36
  obtain ⟨i5, h5, rfl⟩ := mem_getD 0 m5
  have hb := tr_bounds.2.2.2.1 t ht
  have hl := S_lengths
  have := group_le (by decide) monoAll_parts.2.2.2.2 ht (c := 39 * (3 * (10 * i5 + i1) + i2) + i36) (r := 0)
    (by omega) (by omega) (by omega)
  rwa [show 1 * t.1 + (1 * 15 * (39 * (3 * (10 * i5 + i1) + i2) + i36) + (0)) = pt i5 i1 i2 i36 t.1 by unfold pt; omega,
    show 1 * t.2 + (1 * 15 * (39 * (3 * (10 * i5 + i1) + i2) + i36) + (0)) = pt i5 i1 i2 i36 t.2 by unfold pt; omega,
    lane_tabAll h5 h1 h2 h36 hb.1, lane_tabAll h5 h1 h2 h36 hb.2] at this

theorem mono5 {s1 : Nat × Nat} {s2 : Nat × Nat} {s36 : Nat × Nat × Nat} {s4 : Nat × Nat}
    (m1 : s1 ∈ S1) (m2 : s2 ∈ S2) (m36 : s36 ∈ S36) (m4 : s4 ∈ S4) {s s' : Nat}
    (hs : Listed S5 0 tr5 s s') : scoreSum s1 s2 s36 s4 s ≤ scoreSum s1 s2 s36 s4 s' := by
  obtain ⟨t, ht, rfl, rfl⟩ := hs
  obtain ⟨i1, h1, rfl⟩ := mem_getD (0, 0) m1
  obtain ⟨i2, h2, rfl⟩ := mem_getD (0, 0) m2
  obtain ⟨i36, h36, rfl⟩ := mem_getD (0, 0, 0) m36
  obtain ⟨i4, h4, rfl⟩ := mem_getD (0, 0) m4
  have hb := tr_bounds.2.2.2.2 t ht
  have hl := S_lengths
  have := group_le (by decide) monoAll_parts.1 ht (c := 0) (r := 1755 * i1 + (585 * i2 + (15 * i36 + i4)))
    (by omega) (by omega) (by omega)
  rwa [show 17550 * t.1 + (17550 * 3 * 0 + (1755 * i1 + (585 * i2 + (15 * i36 + i4)))) = pt t.1 i1 i2 i36 i4 by
      unfold pt; omega,
    show 17550 * t.2 + (17550 * 3 * 0 + (1755 * i1 + (585 * i2 + (15 * i36 + i4)))) = pt t.2 i1 i2 i36 i4 by
      unfold pt; omega,
    lane_tabAll hb.1 h1 h2 h36 h4, lane_tabAll hb.2 h1 h2 h36 h4] at this

end Proofs.Mono4
