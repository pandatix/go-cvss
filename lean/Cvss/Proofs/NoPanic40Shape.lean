import Cvss.Gen.K40
import Cvss.Base.F64
/-!
# v4.0 `Score_ok` (the no-panic twin of `Score`): the generated core, re-read in separable form

`ScoreOkH` below is the text of the generated `GenK40.Score_ok_core` cut into named pieces
(`preK`: the `lookupMV_ok` guards and lookups of the MacroVector and of its next-lower MacroVectors, with the
four simple steps written through the combinator `stepK` and the EQ3+EQ6 step as `step36K`; `bodyK`: the body
of the innermost loop with the fourteen `severityDistance_ok` guards; `nestK`: the four nested loops with the
table-index guards and the verdict `okResult` in the loop state; `postK`: the `getDepth_ok` guards). The pieces
are copies of the generated text; `Score_ok_core_eq_ScoreOkH` ties them to the generated definition **by
definitional unfolding** (`rfl`), so any change of the Go source (or of `tools/okgen`) that changes the generated
twin makes that theorem fail unless the pieces are changed in the same way. The tables and the helper twins
(`lookupMV_ok`, `severityDistance_ok`, `index_ok`, `getDepth_ok`, `getDepthEQ3EQ6_ok`, `macroVector_core`, `mod_`)
are the generated definitions, referenced by name.
-/
set_option linter.unusedVariables false
namespace Proofs.NoPanic40
open GenK40

/-- state of the loop nest: the verdict and the five severity distances -/
abbrev SK := Bool × Nat × Nat × Nat × Nat × Nat

/-- one "next lower MacroVector" step: if `c`, guard `g` joins the verdict, the looked-up value `v` replaces
    the NaN placeholder and `lower` is incremented -/
def stepK (c g : Bool) (v : Nat) (okResult : Bool) (nlm lower : Nat) : Bool × Nat × Nat :=
  cond c
    (let okResult := (okResult && g)
    F64.flet v fun nlm =>
    F64.flet (Nat.add lower (1 : Nat)) fun lower =>
    (okResult, nlm, lower))
    ((okResult, nlm, lower))

/-- the EQ3+EQ6 step (four cases; the last one looks up two MacroVectors) -/
def step36K (eq1 eq2 eq3 eq4 eq5 eq6 : Nat) (okResult : Bool) (eq3eq6nlm lower : Nat) : Bool × Nat × Nat :=
  cond ((Nat.beq eq3 (1 : Nat)) && (Nat.beq eq6 (1 : Nat)))
    (let okResult := (okResult && (GenK40.lookupMV_ok eq1 eq2 (Nat.add eq3 (1 : Nat)) eq4 eq5 eq6))
    F64.flet (GenK40.lookupMV eq1 eq2 (Nat.add eq3 (1 : Nat)) eq4 eq5 eq6) fun eq3eq6nlm =>
    F64.flet (Nat.add lower (1 : Nat)) fun lower =>
    (okResult, eq3eq6nlm, lower))
    (match (cond ((Nat.beq eq3 (0 : Nat)) && (Nat.beq eq6 (1 : Nat)))
      (let okResult := (okResult && (GenK40.lookupMV_ok eq1 eq2 (Nat.add eq3 (1 : Nat)) eq4 eq5 eq6))
      F64.flet (GenK40.lookupMV eq1 eq2 (Nat.add eq3 (1 : Nat)) eq4 eq5 eq6) fun eq3eq6nlm =>
      F64.flet (Nat.add lower (1 : Nat)) fun lower =>
      (okResult, eq3eq6nlm, lower))
      (match (cond ((Nat.beq eq3 (1 : Nat)) && (Nat.beq eq6 (0 : Nat)))
        (let okResult := (okResult && (GenK40.lookupMV_ok eq1 eq2 eq3 eq4 eq5 (Nat.add eq6 (1 : Nat))))
        F64.flet (GenK40.lookupMV eq1 eq2 eq3 eq4 eq5 (Nat.add eq6 (1 : Nat))) fun eq3eq6nlm =>
        F64.flet (Nat.add lower (1 : Nat)) fun lower =>
        (okResult, eq3eq6nlm, lower))
        (match (cond ((Nat.beq eq3 (0 : Nat)) && (Nat.beq eq6 (0 : Nat)))
          (let okResult := (okResult && (GenK40.lookupMV_ok eq1 eq2 (Nat.add eq3 (1 : Nat)) eq4 eq5 eq6))
          F64.flet (GenK40.lookupMV eq1 eq2 (Nat.add eq3 (1 : Nat)) eq4 eq5 eq6) fun eq3eq6nlm =>
          let okResult := (okResult && (GenK40.lookupMV_ok eq1 eq2 eq3 eq4 eq5 (Nat.add eq6 (1 : Nat))))
          F64.flet (GenK40.lookupMV eq1 eq2 eq3 eq4 eq5 (Nat.add eq6 (1 : Nat))) fun eq6nlm =>
          match (cond (F64.lt eq3eq6nlm eq6nlm)
            (F64.flet eq6nlm fun eq3eq6nlm =>
            eq3eq6nlm)
            (eq3eq6nlm)) with
          | eq3eq6nlm =>
          F64.flet (Nat.add lower (1 : Nat)) fun lower =>
          (okResult, eq3eq6nlm, lower))
          ((okResult, eq3eq6nlm, lower))) with
        | (okResult, eq3eq6nlm, lower) =>
        (okResult, eq3eq6nlm, lower))) with
      | (okResult, eq3eq6nlm, lower) =>
      (okResult, eq3eq6nlm, lower))) with
    | (okResult, eq3eq6nlm, lower) =>
    (okResult, eq3eq6nlm, lower))

/-- lookups: verdict after the `lookupMV_ok` guards, value of the MacroVector, number of existing lower MacroVectors, the five available distances -/
def preK (okResult : Bool) (eq1 eq2 eq3 eq4 eq5 eq6 : Nat) (k : Bool → Nat → Nat → Nat → Nat → Nat → Nat → Nat → Bool) : Bool :=
  let okResult := (okResult && (GenK40.lookupMV_ok eq1 eq2 eq3 eq4 eq5 eq6))
  F64.flet (GenK40.lookupMV eq1 eq2 eq3 eq4 eq5 eq6) fun eqsv =>
  F64.flet (0 : Nat) fun lower =>
  F64.flet F64.NAN fun eq1nlm =>
  match stepK (Nat.blt eq1 (2 : Nat)) (GenK40.lookupMV_ok (Nat.add eq1 (1 : Nat)) eq2 eq3 eq4 eq5 eq6) (GenK40.lookupMV (Nat.add eq1 (1 : Nat)) eq2 eq3 eq4 eq5 eq6) okResult eq1nlm lower with
  | (okResult, eq1nlm, lower) =>
  F64.flet F64.NAN fun eq2nlm =>
  match stepK (Nat.blt eq2 (1 : Nat)) (GenK40.lookupMV_ok eq1 (Nat.add eq2 (1 : Nat)) eq3 eq4 eq5 eq6) (GenK40.lookupMV eq1 (Nat.add eq2 (1 : Nat)) eq3 eq4 eq5 eq6) okResult eq2nlm lower with
  | (okResult, eq2nlm, lower) =>
  F64.flet F64.NAN fun eq4nlm =>
  match stepK (Nat.blt eq4 (2 : Nat)) (GenK40.lookupMV_ok eq1 eq2 eq3 (Nat.add eq4 (1 : Nat)) eq5 eq6) (GenK40.lookupMV eq1 eq2 eq3 (Nat.add eq4 (1 : Nat)) eq5 eq6) okResult eq4nlm lower with
  | (okResult, eq4nlm, lower) =>
  F64.flet F64.NAN fun eq5nlm =>
  match stepK (Nat.blt eq5 (2 : Nat)) (GenK40.lookupMV_ok eq1 eq2 eq3 eq4 (Nat.add eq5 (1 : Nat)) eq6) (GenK40.lookupMV eq1 eq2 eq3 eq4 (Nat.add eq5 (1 : Nat)) eq6) okResult eq5nlm lower with
  | (okResult, eq5nlm, lower) =>
  F64.flet F64.NAN fun eq3eq6nlm =>
  match step36K eq1 eq2 eq3 eq4 eq5 eq6 okResult eq3eq6nlm lower with
  | (okResult, eq3eq6nlm, lower) =>
  F64.flet (GenK40.abs_ (F64.sub eq1nlm eqsv)) fun eq1msd =>
  match (cond (F64.isNaN eq1msd)
    (F64.flet (0x0000000000000000 : Nat) fun eq1msd =>
    eq1msd)
    (eq1msd)) with
  | eq1msd =>
  F64.flet (GenK40.abs_ (F64.sub eq2nlm eqsv)) fun eq2msd =>
  match (cond (F64.isNaN eq2msd)
    (F64.flet (0x0000000000000000 : Nat) fun eq2msd =>
    eq2msd)
    (eq2msd)) with
  | eq2msd =>
  F64.flet (GenK40.abs_ (F64.sub eq3eq6nlm eqsv)) fun eq3eq6msd =>
  match (cond (F64.isNaN eq3eq6msd)
    (F64.flet (0x0000000000000000 : Nat) fun eq3eq6msd =>
    eq3eq6msd)
    (eq3eq6msd)) with
  | eq3eq6msd =>
  F64.flet (GenK40.abs_ (F64.sub eq4nlm eqsv)) fun eq4msd =>
  match (cond (F64.isNaN eq4msd)
    (F64.flet (0x0000000000000000 : Nat) fun eq4msd =>
    eq4msd)
    (eq4msd)) with
  | eq4msd =>
  F64.flet (GenK40.abs_ (F64.sub eq5nlm eqsv)) fun eq5msd =>
  match (cond (F64.isNaN eq5msd)
    (F64.flet (0x0000000000000000 : Nat) fun eq5msd =>
    eq5msd)
    (eq5msd)) with
  | eq5msd =>
  k okResult eqsv lower eq1msd eq2msd eq3eq6msd eq4msd eq5msd

def bodyK (avVal acVal atVal prVal uiVal vcVal viVal vaVal scVal siVal saVal crVal irVal arVal : Nat) (eq1mx eq2mx eq3eq6mx eq4mx : Nat) : SK → Go.Ctl SK Bool :=
  fun (okResult, eq1svdst, eq2svdst, eq3eq6svdst, eq4svdst, eq5svdst) =>
    F64.flet (Nat.mod (Nat.div (Nat.mod eq1mx (1000 : Nat)) (100 : Nat)) 256) fun avmx =>
    F64.flet (Nat.mod (Nat.div (Nat.mod eq1mx (100 : Nat)) (10 : Nat)) 256) fun prmx =>
    F64.flet (Nat.mod (Nat.div (Nat.mod eq1mx (10 : Nat)) (1 : Nat)) 256) fun uimx =>
    F64.flet (Nat.mod (Nat.div (Nat.mod eq2mx (100 : Nat)) (10 : Nat)) 256) fun acmx =>
    F64.flet (Nat.mod (Nat.div (Nat.mod eq2mx (10 : Nat)) (1 : Nat)) 256) fun atmx =>
    F64.flet (Nat.mod (Nat.div (Nat.mod eq3eq6mx (1000000 : Nat)) (100000 : Nat)) 256) fun vcmx =>
    F64.flet (Nat.mod (Nat.div (Nat.mod eq3eq6mx (100000 : Nat)) (10000 : Nat)) 256) fun vimx =>
    F64.flet (Nat.mod (Nat.div (Nat.mod eq3eq6mx (10000 : Nat)) (1000 : Nat)) 256) fun vamx =>
    F64.flet (Nat.mod (Nat.div (Nat.mod eq3eq6mx (1000 : Nat)) (100 : Nat)) 256) fun crmx =>
    F64.flet (Nat.mod (Nat.div (Nat.mod eq3eq6mx (100 : Nat)) (10 : Nat)) 256) fun irmx =>
    F64.flet (Nat.mod (Nat.div (Nat.mod eq3eq6mx (10 : Nat)) (1 : Nat)) 256) fun armx =>
    F64.flet (Nat.mod (Nat.div (Nat.mod eq4mx (1000 : Nat)) (100 : Nat)) 256) fun scmx =>
    F64.flet (Nat.mod (Nat.div (Nat.mod eq4mx (100 : Nat)) (10 : Nat)) 256) fun simx =>
    F64.flet (Nat.mod (Nat.div (Nat.mod eq4mx (10 : Nat)) (1 : Nat)) 256) fun samx =>
    let okResult := (okResult && (GenK40.severityDistance_ok (0 : Nat) avVal avmx))
    F64.flet (GenK40.severityDistance (0 : Nat) avVal avmx) fun avsvdst =>
    let okResult := (okResult && (GenK40.severityDistance_ok (1 : Nat) acVal acmx))
    F64.flet (GenK40.severityDistance (1 : Nat) acVal acmx) fun acsvdst =>
    let okResult := (okResult && (GenK40.severityDistance_ok (2 : Nat) atVal atmx))
    F64.flet (GenK40.severityDistance (2 : Nat) atVal atmx) fun atsvdst =>
    let okResult := (okResult && (GenK40.severityDistance_ok (3 : Nat) prVal prmx))
    F64.flet (GenK40.severityDistance (3 : Nat) prVal prmx) fun prsvdst =>
    let okResult := (okResult && (GenK40.severityDistance_ok (4 : Nat) uiVal uimx))
    F64.flet (GenK40.severityDistance (4 : Nat) uiVal uimx) fun uisvdst =>
    let okResult := (okResult && (GenK40.severityDistance_ok (5 : Nat) vcVal vcmx))
    F64.flet (GenK40.severityDistance (5 : Nat) vcVal vcmx) fun vcsvdst =>
    let okResult := (okResult && (GenK40.severityDistance_ok (6 : Nat) viVal vimx))
    F64.flet (GenK40.severityDistance (6 : Nat) viVal vimx) fun visvdst =>
    let okResult := (okResult && (GenK40.severityDistance_ok (7 : Nat) vaVal vamx))
    F64.flet (GenK40.severityDistance (7 : Nat) vaVal vamx) fun vasvdst =>
    let okResult := (okResult && (GenK40.severityDistance_ok (8 : Nat) scVal scmx))
    F64.flet (GenK40.severityDistance (8 : Nat) scVal scmx) fun scsvdst =>
    let okResult := (okResult && (GenK40.severityDistance_ok (9 : Nat) siVal simx))
    F64.flet (GenK40.severityDistance (9 : Nat) siVal simx) fun sisvdst =>
    let okResult := (okResult && (GenK40.severityDistance_ok (10 : Nat) saVal samx))
    F64.flet (GenK40.severityDistance (10 : Nat) saVal samx) fun sasvdst =>
    let okResult := (okResult && (GenK40.severityDistance_ok (12 : Nat) crVal crmx))
    F64.flet (GenK40.severityDistance (12 : Nat) crVal crmx) fun crsvdst =>
    let okResult := (okResult && (GenK40.severityDistance_ok (13 : Nat) irVal irmx))
    F64.flet (GenK40.severityDistance (13 : Nat) irVal irmx) fun irsvdst =>
    let okResult := (okResult && (GenK40.severityDistance_ok (14 : Nat) arVal armx))
    F64.flet (GenK40.severityDistance (14 : Nat) arVal armx) fun arsvdst =>
    cond ((((((((((((((F64.lt avsvdst (0x0000000000000000 : Nat)) || (F64.lt prsvdst (0x0000000000000000 : Nat))) || (F64.lt uisvdst (0x0000000000000000 : Nat))) || (F64.lt acsvdst (0x0000000000000000 : Nat))) || (F64.lt atsvdst (0x0000000000000000 : Nat))) || (F64.lt vcsvdst (0x0000000000000000 : Nat))) || (F64.lt visvdst (0x0000000000000000 : Nat))) || (F64.lt vasvdst (0x0000000000000000 : Nat))) || (F64.lt scsvdst (0x0000000000000000 : Nat))) || (F64.lt sisvdst (0x0000000000000000 : Nat))) || (F64.lt sasvdst (0x0000000000000000 : Nat))) || (F64.lt crsvdst (0x0000000000000000 : Nat))) || (F64.lt irsvdst (0x0000000000000000 : Nat))) || (F64.lt arsvdst (0x0000000000000000 : Nat)))
      (Go.Ctl.next (okResult, eq1svdst, eq2svdst, eq3eq6svdst, eq4svdst, eq5svdst))
      (F64.flet (F64.add (F64.add avsvdst prsvdst) uisvdst) fun eq1svdst =>
      F64.flet (F64.add acsvdst atsvdst) fun eq2svdst =>
      F64.flet (F64.add (F64.add (F64.add (F64.add (F64.add vcsvdst visvdst) vasvdst) crsvdst) irsvdst) arsvdst) fun eq3eq6svdst =>
      F64.flet (F64.add (F64.add scsvdst sisvdst) sasvdst) fun eq4svdst =>
      F64.flet (0x0000000000000000 : Nat) fun eq5svdst =>
      Go.Ctl.brk (okResult, eq1svdst, eq2svdst, eq3eq6svdst, eq4svdst, eq5svdst))

/-- what the generated code does with the result of an inner loop -/
def wrapK : Go.Ctl SK Bool → Go.Ctl SK Bool
  | Go.Ctl.ret r => Go.Ctl.ret r
  | Go.Ctl.brk (okResult, eq1svdst, eq2svdst, eq3eq6svdst, eq4svdst, eq5svdst) => Go.Ctl.ret false
  | Go.Ctl.next (okResult, eq1svdst, eq2svdst, eq3eq6svdst, eq4svdst, eq5svdst) =>
    Go.Ctl.next (okResult, eq1svdst, eq2svdst, eq3eq6svdst, eq4svdst, eq5svdst)

/-- the loop nest over the highest severity vectors `L1 … L4` of the four EQ groups; `G2 G3 G4` are the table-index guards of the three inner `range` expressions -/
def nestK (f : Nat → Nat → Nat → Nat → SK → Go.Ctl SK Bool) (G2 G3 G4 : Bool) (L1 L2 L3 L4 : List Nat) (st : SK) : Go.Ctl SK Bool :=
  Go.forRange L1 st (fun eq1mx (okResult, eq1svdst, eq2svdst, eq3eq6svdst, eq4svdst, eq5svdst) =>
    let okResult := (okResult && G2)
    wrapK (Go.forRange L2 (okResult, eq1svdst, eq2svdst, eq3eq6svdst, eq4svdst, eq5svdst) (fun eq2mx (okResult, eq1svdst, eq2svdst, eq3eq6svdst, eq4svdst, eq5svdst) =>
      let okResult := (okResult && G3)
      wrapK (Go.forRange L3 (okResult, eq1svdst, eq2svdst, eq3eq6svdst, eq4svdst, eq5svdst) (fun eq3eq6mx (okResult, eq1svdst, eq2svdst, eq3eq6svdst, eq4svdst, eq5svdst) =>
        let okResult := (okResult && G4)
        wrapK (Go.forRange L4 (okResult, eq1svdst, eq2svdst, eq3eq6svdst, eq4svdst, eq5svdst) (fun eq4mx (okResult, eq1svdst, eq2svdst, eq3eq6svdst, eq4svdst, eq5svdst) =>
          f eq1mx eq2mx eq3eq6mx eq4mx (okResult, eq1svdst, eq2svdst, eq3eq6svdst, eq4svdst, eq5svdst))))))))

/-- the `getDepth_ok` guards (the float computations beside them do not touch the verdict) -/
def postK (okResult : Bool) (eq1 eq2 eq3 eq4 eq5 eq6 lower eq1msd eq2msd eq3eq6msd eq4msd eq5msd : Nat) (eq1svdst eq2svdst eq3eq6svdst eq4svdst eq5svdst : Nat) : Bool :=
  let okResult := (okResult && (GenK40.getDepth_ok (1 : Nat) eq1))
  F64.flet (F64.div eq1svdst (F64.add (GenK40.getDepth (1 : Nat) eq1) (0x3ff0000000000000 : Nat))) fun eq1prop =>
  let okResult := (okResult && (GenK40.getDepth_ok (2 : Nat) eq2))
  F64.flet (F64.div eq2svdst (F64.add (GenK40.getDepth (2 : Nat) eq2) (0x3ff0000000000000 : Nat))) fun eq2prop =>
  let okResult := (okResult && (GenK40.getDepthEQ3EQ6_ok eq3 eq6))
  F64.flet (F64.div eq3eq6svdst (F64.add (GenK40.getDepthEQ3EQ6 eq3 eq6) (0x3ff0000000000000 : Nat))) fun eq3eq6prop =>
  let okResult := (okResult && (GenK40.getDepth_ok (4 : Nat) eq4))
  F64.flet (F64.div eq4svdst (F64.add (GenK40.getDepth (4 : Nat) eq4) (0x3ff0000000000000 : Nat))) fun eq4prop =>
  let okResult := (okResult && (GenK40.getDepth_ok (5 : Nat) eq5))
  F64.flet (F64.div eq5svdst (F64.add (GenK40.getDepth (5 : Nat) eq5) (0x3ff0000000000000 : Nat))) fun eq5prop =>
  F64.flet (F64.mul eq1msd eq1prop) fun eq1msd =>
  F64.flet (F64.mul eq2msd eq2prop) fun eq2msd =>
  F64.flet (F64.mul eq3eq6msd eq3eq6prop) fun eq3eq6msd =>
  F64.flet (F64.mul eq4msd eq4prop) fun eq4msd =>
  F64.flet (F64.mul eq5msd eq5prop) fun eq5msd =>
  F64.flet (0x0000000000000000 : Nat) fun mean =>
  match (cond (!(Nat.beq lower (0 : Nat)))
    (F64.flet (F64.div (F64.add (F64.add (F64.add (F64.add eq1msd eq2msd) eq3eq6msd) eq4msd) eq5msd) (F64.ofNat lower)) fun mean =>
    mean)
    (mean)) with
  | mean =>
  okResult

/-- end of `Score_ok`: the loops never `return`, so the result is `postK` on the final state -/
def finK (eq1 eq2 eq3 eq4 eq5 eq6 lower eq1msd eq2msd eq3eq6msd eq4msd eq5msd : Nat) : Go.Ctl SK Bool → Bool
  | Go.Ctl.ret r => r
  | Go.Ctl.brk (okResult, eq1svdst, eq2svdst, eq3eq6svdst, eq4svdst, eq5svdst) => false
  | Go.Ctl.next (okResult, eq1svdst, eq2svdst, eq3eq6svdst, eq4svdst, eq5svdst) =>
    postK okResult eq1 eq2 eq3 eq4 eq5 eq6 lower eq1msd eq2msd eq3eq6msd eq4msd eq5msd eq1svdst eq2svdst eq3eq6svdst eq4svdst eq5svdst

/-- the loops of `Score_ok` with the first table-index guard, then the end -/
def loopsK (okResult : Bool) (avVal acVal atVal prVal uiVal vcVal viVal vaVal scVal siVal saVal crVal irVal arVal : Nat) (eq1 eq2 eq3 eq4 eq5 eq6 lower eq1msd eq2msd eq3eq6msd eq4msd eq5msd : Nat) : Bool :=
  F64.flet (0 : Nat) fun eq1svdst =>
  F64.flet (0 : Nat) fun eq2svdst =>
  F64.flet (0 : Nat) fun eq3eq6svdst =>
  F64.flet (0 : Nat) fun eq4svdst =>
  F64.flet (0 : Nat) fun eq5svdst =>
  let okResult := (okResult && ((Nat.blt (1 : Nat) (List.length GenK40.tbl_highestSeverityVectors)) && (Nat.blt eq1 (List.length (Go.idx GenK40.tbl_highestSeverityVectors (1 : Nat))))))
  finK eq1 eq2 eq3 eq4 eq5 eq6 lower eq1msd eq2msd eq3eq6msd eq4msd eq5msd
    (nestK (bodyK avVal acVal atVal prVal uiVal vcVal viVal vaVal scVal siVal saVal crVal irVal arVal)
      ((Nat.blt (2 : Nat) (List.length GenK40.tbl_highestSeverityVectors)) && (Nat.blt eq2 (List.length (Go.idx GenK40.tbl_highestSeverityVectors (2 : Nat)))))
      ((Nat.blt eq3 (List.length GenK40.tbl_highestSeverityVectorsEQ3EQ6)) && (Nat.blt eq6 (List.length (Go.idx GenK40.tbl_highestSeverityVectorsEQ3EQ6 eq3))))
      ((Nat.blt (4 : Nat) (List.length GenK40.tbl_highestSeverityVectors)) && (Nat.blt eq4 (List.length (Go.idx GenK40.tbl_highestSeverityVectors (4 : Nat)))))
      (Go.idx (Go.idx GenK40.tbl_highestSeverityVectors (1 : Nat)) eq1)
      (Go.idx (Go.idx GenK40.tbl_highestSeverityVectors (2 : Nat)) eq2)
      (Go.idx (Go.idx GenK40.tbl_highestSeverityVectorsEQ3EQ6 eq3) eq6)
      (Go.idx (Go.idx GenK40.tbl_highestSeverityVectors (4 : Nat)) eq4)
      (okResult, eq1svdst, eq2svdst, eq3eq6svdst, eq4svdst, eq5svdst))

/-- everything after the no-impact shortcut and the MacroVector computation -/
def tailK (okResult : Bool) (avVal acVal atVal prVal uiVal vcVal viVal vaVal scVal siVal saVal crVal irVal arVal : Nat) (eq1 eq2 eq3 eq4 eq5 eq6 : Nat) : Bool :=
  preK okResult eq1 eq2 eq3 eq4 eq5 eq6 fun okResult eqsv lower eq1msd eq2msd eq3eq6msd eq4msd eq5msd =>
    loopsK okResult avVal acVal atVal prVal uiVal vcVal viVal vaVal scVal siVal saVal crVal irVal arVal eq1 eq2 eq3 eq4 eq5 eq6 lower eq1msd eq2msd eq3eq6msd eq4msd eq5msd

/-- `Score_ok_core`, re-read: effective codes, no-impact shortcut, requirement defaults, MacroVector, then `tailK` -/
def ScoreOkH (r0 r1 r2 r3 r4 r5 r6 r7 r8 r9 r10 r11 r12 r13 r14 r15 r16 r17 r18 r19 r20 r21 r22 r23 r24 r25 : Nat) : Bool :=
  let okResult := true
  F64.flet (GenK40.mod_ r0 r1) fun avVal =>
  F64.flet (GenK40.mod_ r2 r3) fun acVal =>
  F64.flet (GenK40.mod_ r4 r5) fun atVal =>
  F64.flet (GenK40.mod_ r6 r7) fun prVal =>
  F64.flet (GenK40.mod_ r8 r9) fun uiVal =>
  F64.flet (GenK40.mod_ r10 r11) fun vcVal =>
  F64.flet (GenK40.mod_ r12 r13) fun scVal =>
  F64.flet (GenK40.mod_ r14 r15) fun viVal =>
  F64.flet (GenK40.mod_ r16 r17) fun siVal =>
  F64.flet (GenK40.mod_ r18 r19) fun vaVal =>
  F64.flet (GenK40.mod_ r20 r21) fun saVal =>
  cond ((((((Nat.beq vcVal (2 : Nat)) && (Nat.beq viVal (2 : Nat))) && (Nat.beq vaVal (2 : Nat))) && (Nat.beq scVal (2 : Nat))) && (Nat.beq siVal (2 : Nat))) && (Nat.beq saVal (2 : Nat)))
    (okResult)
    (F64.flet r22 fun crVal =>
    match (cond (Nat.beq crVal (0 : Nat))
      (F64.flet (1 : Nat) fun crVal =>
      crVal)
      (crVal)) with
    | crVal =>
    F64.flet r23 fun irVal =>
    match (cond (Nat.beq irVal (0 : Nat))
      (F64.flet (1 : Nat) fun irVal =>
      irVal)
      (irVal)) with
    | irVal =>
    F64.flet r24 fun arVal =>
    match (cond (Nat.beq arVal (0 : Nat))
      (F64.flet (1 : Nat) fun arVal =>
      arVal)
      (arVal)) with
    | arVal =>
    match (GenK40.macroVector_core r0 r1 r2 r3 r4 r5 r6 r7 r8 r9 r10 r11 r12 r13 r14 r15 r17 r16 r18 r19 r21 r20 r25 r22 r23 r24) with
    | (eq1, eq2, eq3, eq4, eq5, eq6) =>
    tailK okResult avVal acVal atVal prVal uiVal vcVal viVal vaVal scVal siVal saVal crVal irVal arVal eq1 eq2 eq3 eq4 eq5 eq6)

theorem Score_ok_core_eq_ScoreOkH (r0 r1 r2 r3 r4 r5 r6 r7 r8 r9 r10 r11 r12 r13 r14 r15 r16 r17 r18 r19 r20 r21 r22 r23 r24 r25 : Nat) :
    GenK40.Score_ok_core r0 r1 r2 r3 r4 r5 r6 r7 r8 r9 r10 r11 r12 r13 r14 r15 r16 r17 r18 r19 r20 r21 r22 r23 r24 r25 =
      ScoreOkH r0 r1 r2 r3 r4 r5 r6 r7 r8 r9 r10 r11 r12 r13 r14 r15 r16 r17 r18 r19 r20 r21 r22 r23 r24 r25 := by
  rfl

end Proofs.NoPanic40
