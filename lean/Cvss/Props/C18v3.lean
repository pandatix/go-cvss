import Cvss.Proofs.Parse3Defect
import Cvss.Proofs.Parse3Read
import Cvss.Proofs.Parse3Inst
/-!
# C18 (v3.0 / v3.1): the documented error values

For every witness list of a grammatical vector and every applicable single defect of `Spec.Defect`, the parser
model returns exactly the promised error value: header defect ⇒ `ErrInvalidCVSSHeader` (1); illegal value ⇒
`ErrInvalidMetricValue` (4); removed mandatory metric ⇒ `*ErrMissing{abv}` (103) naming it; repeated metric ⇒
`*ErrDefinedN{abv}` (102) naming it; unknown abbreviation ⇒ `*ErrInvalidMetric{abv}` (101) naming it.
All five cases hold for the model at full strength. The order defects `swap`/`move` and `truncate` are
not applicable to v3 (`Defect.apply` is `none`: the metric order is free in v3, see `move_is_no_defect` below for
an example of a moved element being accepted).
-/
namespace C18.V3
open Proofs Proofs.Parse3
open Spec (Bytes Pair Defect Version)

variable {O : Type} (K : Contract O Spec.V3.metrics)

theorem render_v30 (w : List Pair) : Version.render .v30 w = rend Spec.V3.header30 w := rfl
theorem render_v31 (w : List Pair) : Version.render .v31 w = rend Spec.V3.header31 w := rfl

/-- the five defect kinds, for an arbitrary header `hdr` with `ver.header = hdr`, `ver.render = rend hdr` -/
theorem defect_generic (ver : Version) (hver : ver = .v30 ∨ ver = .v31)
    (w : List Pair) (d : Defect) (s : Bytes) (e : Spec.ErrVal)
    (hw : ∃ s0, Spec.V3.Witness ver.header s0 w) (hd : d.apply ver w = some (s, e)) :
    Model.parse3 (ver.header ++ [47]) K.zero K.set s = .err ⟨e.1, e.2⟩ := by
  obtain ⟨s0, hw0⟩ := hw
  have hw : IsWit w := ((witness_iff _ _ _).mp hw0).2
  have hr : ∀ L, ver.render L = rend ver.header L := by
    intro L; rcases hver with rfl | rfl <;> rfl
  have hm : ver.metrics = Spec.V3.metrics := by rcases hver with rfl | rfl <;> rfl
  have hn : ∀ c a, Proofs.Defect.named ver c a = (c, a) := by
    intro c a; rcases hver with rfl | rfl <;> rfl
  have h24 : ¬ (ver = .v20 ∨ ver = .v40) := by rcases hver with rfl | rfl <;> simp
  cases d with
  | header p =>
    obtain ⟨_, hp, rfl⟩ := Proofs.Defect.header_eq_some hd
    have hh : 47 ∉ ver.header := by rcases hver with rfl | rfl <;> decide
    exact defect_header_headOf _ hh _ _ _ hp
  | illegalValue i v =>
    obtain ⟨a, x, hi, hl, hs, rfl, rfl⟩ := Proofs.Defect.illegalValue_eq_some hd
    obtain ⟨l1, l2, rfl, rfl⟩ := split_at_getElem? hi
    rw [hr, show (l1 ++ (a, x) :: l2).set l1.length (a, v) = l1 ++ (a, v) :: l2 by simp]
    exact defect_illegal K _ l1 l2 a x v hw (hm ▸ hl) hs
  | removeMandatory i =>
    obtain ⟨_, a, x, hi, ha, rfl, rfl⟩ := Proofs.Defect.removeMandatory_eq_some hd
    obtain ⟨l1, l2, rfl, rfl⟩ := split_at_getElem? hi
    rw [hr, show (l1 ++ (a, x) :: l2).eraseIdx l1.length = l1 ++ l2 by
      rw [List.eraseIdx_append_of_length_le (Nat.le_refl _), Nat.sub_self]; rfl]
    exact defect_remove K _ l1 l2 a x hw ha
  | repeated i j v =>
    obtain ⟨a, x, hi, hl, _, rfl, rfl⟩ := Proofs.Defect.repeated_eq_some hd
    rw [hr, hn]
    exact defect_repeated K _ w a v j hw (List.mem_map.mpr ⟨(a, x), List.mem_of_getElem? hi, rfl⟩) (hm ▸ hl)
  | unknown j a v =>
    obtain ⟨h1, h2, h3, _, rfl, rfl⟩ := Proofs.Defect.unknown_eq_some hd
    rw [hr, hn]
    exact defect_unknown K _ w a v j hw (hm ▸ h1) h2 h3
  | swap i => exact absurd (Proofs.Defect.swap_eq_some hd).1 h24
  | truncate n =>
    rcases (Proofs.Defect.truncate_eq_some hd).2.2 with ⟨h, _⟩ | ⟨h, _⟩
    · exact absurd (Or.inl h) h24
    · exact absurd (Or.inr h) h24
  | move i j => exact absurd (Proofs.Defect.move_eq_some hd).1 h24

/-- **C18, v3.0** -/
theorem errors_v30 (w : List Pair) (d : Defect) (s : Bytes) (e : Spec.ErrVal)
    (hw : ∃ s0, Spec.V3.Witness Spec.V3.header30 s0 w) (hd : d.apply .v30 w = some (s, e)) :
    Model.parse3 (Spec.V3.header30 ++ [47]) K.zero K.set s = .err ⟨e.1, e.2⟩ :=
  defect_generic K .v30 (Or.inl rfl) w d s e hw hd

/-- **C18, v3.1** -/
theorem errors_v31 (w : List Pair) (d : Defect) (s : Bytes) (e : Spec.ErrVal)
    (hw : ∃ s0, Spec.V3.Witness Spec.V3.header31 s0 w) (hd : d.apply .v31 w = some (s, e)) :
    Model.parse3 (Spec.V3.header31 ++ [47]) K.zero K.set s = .err ⟨e.1, e.2⟩ :=
  defect_generic K .v31 (Or.inr rfl) w d s e hw hd

/-! ## The five kinds, one by one (any header `hdr`; `rend hdr L` is `hdr/p₁/…/pₙ`) -/

variable (hdr : Bytes)

/-- anything not starting with the header ⇒ `ErrInvalidCVSSHeader` -/
theorem header_defect (s : Bytes) (h : hdr.isPrefixOf s = false) :
    Model.parse3 (hdr ++ [47]) K.zero K.set s = .err ⟨1, []⟩ :=
  parse3_of_not_prefix fun hp => by
    have := (List.prefix_append hdr [47]).trans hp
    rw [← List.isPrefixOf_iff_prefix, h] at this
    cases this

/-- an illegal (slash-free) value in one element ⇒ `ErrInvalidMetricValue` -/
theorem illegal_value (l1 l2 : List Pair) (a x v : Bytes) (hw : IsWit (l1 ++ (a, x) :: l2))
    (hv : Spec.legal Spec.V3.metrics a v = false) (hs : 47 ∉ v) :
    Model.parse3 (hdr ++ [47]) K.zero K.set (rend hdr (l1 ++ (a, v) :: l2)) = .err ⟨4, []⟩ :=
  defect_illegal K hdr l1 l2 a x v hw hv hs

/-- one base metric removed ⇒ `*ErrMissing` naming it -/
theorem removed_mandatory (l1 l2 : List Pair) (a x : Bytes) (hw : IsWit (l1 ++ (a, x) :: l2))
    (ha : a ∈ Spec.abvs Spec.V3.base) :
    Model.parse3 (hdr ++ [47]) K.zero K.set (rend hdr (l1 ++ l2)) = .err ⟨103, a⟩ :=
  defect_remove K hdr l1 l2 a x hw ha

/-- several base metrics absent from an otherwise fine vector ⇒ `*ErrMissing` naming the **first** one in
    specification order -/
theorem missing_reports_first (L : List Pair) (hl : Spec.allLegal Spec.V3.metrics L)
    (hn : (L.map (·.1)).Nodup) (hne : L ≠ []) (a : Bytes)
    (h : (Spec.abvs Spec.V3.base).find? (fun a => !(L.map (·.1)).contains a) = some a) :
    Model.parse3 (hdr ++ [47]) K.zero K.set (rend hdr L) = .err ⟨103, a⟩ := by
  have e := parse3_rend hdr K.zero K.set L hne (fun p hp => render_no_slash (hl p hp))
  have := loop3_prefix K L hl hn [] K.zero [] (by simp)
  rw [List.append_nil] at this
  rw [show hdr ++ [47] = hdr ++ [Spec.SLASH] from rfl, e, this, loop3_nil]
  have hf : Model.firstMissing ((L.map (·.1)).reverse ++ []) = some a := by
    unfold Model.firstMissing
    rw [kvmMandatory_eq, ← h]
    congr 1
    funext b
    simp
  rw [hf]; rfl

/-- a second element for a metric already present, anywhere ⇒ `*ErrDefinedN` naming it -/
theorem repeated_metric (w : List Pair) (a v : Bytes) (j : Nat) (hw : IsWit w) (ha : a ∈ w.map (·.1))
    (hv : Spec.legal Spec.V3.metrics a v = true) :
    Model.parse3 (hdr ++ [47]) K.zero K.set (rend hdr (Spec.insertAt w j (a, v))) = .err ⟨102, a⟩ :=
  defect_repeated K hdr w a v j hw ha hv

/-- an element with an unknown (clean) abbreviation, anywhere ⇒ `*ErrInvalidMetric` naming it -/
theorem unknown_metric (w : List Pair) (a v : Bytes) (j : Nat) (hw : IsWit w)
    (ha : Spec.isMetric Spec.V3.metrics a = false) (hc : Spec.clean a = true) (hv : 47 ∉ v) :
    Model.parse3 (hdr ++ [47]) K.zero K.set (rend hdr (Spec.insertAt w j (a, v))) = .err ⟨101, a⟩ :=
  defect_unknown K hdr w a v j hw ha hc hv

/-! ## The hypotheses are satisfiable: each defect kind applies to a concrete vector -/

/-- `AV:N/AC:L/PR:N/UI:N/S:U/C:H/I:H/A:H/E:F` -/
def w₀ : List Pair :=
  [(Spec.b "AV", Spec.b "N"), (Spec.b "AC", Spec.b "L"), (Spec.b "PR", Spec.b "N"), (Spec.b "UI", Spec.b "N"),
   (Spec.b "S", Spec.b "U"), (Spec.b "C", Spec.b "H"), (Spec.b "I", Spec.b "H"), (Spec.b "A", Spec.b "H"),
   (Spec.b "E", Spec.b "F")]

example : ∃ s0, Spec.V3.Witness Spec.V3.header31 s0 w₀ :=
  ⟨Spec.b "CVSS:3.1/AV:N/AC:L/PR:N/UI:N/S:U/C:H/I:H/A:H/E:F", (read?_eq_some_iff _ _ _).mp (by decide +kernel)⟩
example : (Defect.header (Spec.b "CVSS:3.0")).apply .v31 w₀ =
    some (Spec.b "CVSS:3.0/AV:N/AC:L/PR:N/UI:N/S:U/C:H/I:H/A:H/E:F", (1, [])) := by decide +kernel
example : (Defect.header []).apply .v31 w₀ =
    some (Spec.b "/AV:N/AC:L/PR:N/UI:N/S:U/C:H/I:H/A:H/E:F", (1, [])) := by decide +kernel
example : (Defect.illegalValue 2 (Spec.b "n")).apply .v31 w₀ =
    some (Spec.b "CVSS:3.1/AV:N/AC:L/PR:n/UI:N/S:U/C:H/I:H/A:H/E:F", (4, [])) := by decide +kernel
example : (Defect.illegalValue 8 []).apply .v31 w₀ =
    some (Spec.b "CVSS:3.1/AV:N/AC:L/PR:N/UI:N/S:U/C:H/I:H/A:H/E:", (4, [])) := by decide +kernel
example : (Defect.removeMandatory 4).apply .v31 w₀ =
    some (Spec.b "CVSS:3.1/AV:N/AC:L/PR:N/UI:N/C:H/I:H/A:H/E:F", (103, Spec.b "S")) := by decide +kernel
example : (Defect.repeated 8 0 (Spec.b "X")).apply .v31 w₀ =
    some (Spec.b "CVSS:3.1/E:X/AV:N/AC:L/PR:N/UI:N/S:U/C:H/I:H/A:H/E:F", (102, Spec.b "E")) := by decide +kernel
example : (Defect.unknown 9 (Spec.b "av") (Spec.b "N")).apply .v31 w₀ =
    some (Spec.b "CVSS:3.1/AV:N/AC:L/PR:N/UI:N/S:U/C:H/I:H/A:H/E:F/av:N", (101, Spec.b "av")) := by decide +kernel
example : (Defect.unknown 0 [] []).apply .v30 w₀ =
    some (Spec.b "CVSS:3.0/:/AV:N/AC:L/PR:N/UI:N/S:U/C:H/I:H/A:H/E:F", (101, [])) := by decide +kernel

/-- `move`/`swap` promise nothing in v3: the order is free, the moved vector is accepted -/
example : (Defect.move 8 0).apply .v31 w₀ = none ∧ (Defect.swap 0).apply .v30 w₀ = none := by decide +kernel
theorem move_is_no_defect :
    (Model.parse31 (Spec.b "CVSS:3.1/E:F/AV:N/AC:L/PR:N/UI:N/S:U/C:H/I:H/A:H")).isOk = true := by decide +kernel

/-! ## Instances. **Final instantiation**: supply `contract30` / `contract31`; `hz`, `hs` are then `rfl`. -/
section Instances
open Model (O30 O31)
variable (K30 : Contract O30 Spec.V3.metrics) (hz30 : K30.zero = O30.zero) (hs30 : K30.set = O30.set)
variable (K31 : Contract O31 Spec.V3.metrics) (hz31 : K31.zero = O31.zero) (hs31 : K31.set = O31.set)

include hz30 hs30 in
theorem errors_parse30 (w : List Pair) (d : Defect) (s : Bytes) (e : Spec.ErrVal)
    (hw : ∃ s0, Spec.V3.Witness Spec.V3.header30 s0 w) (hd : d.apply .v30 w = some (s, e)) :
    Model.parse30 s = .err ⟨e.1, e.2⟩ := by
  rw [parse30_eq_K K30 hz30 hs30]; exact errors_v30 K30 w d s e hw hd
include hz31 hs31 in
theorem errors_parse31 (w : List Pair) (d : Defect) (s : Bytes) (e : Spec.ErrVal)
    (hw : ∃ s0, Spec.V3.Witness Spec.V3.header31 s0 w) (hd : d.apply .v31 w = some (s, e)) :
    Model.parse31 s = .err ⟨e.1, e.2⟩ := by
  rw [parse31_eq_K K31 hz31 hs31]; exact errors_v31 K31 w d s e hw hd
end Instances

end C18.V3
