import Cvss.Proofs.Score2Ok
/-!
# C05 (v2.0): "Not Defined" weighs like another value

Code 0 of an optional metric is "ND". The Go weight functions give it the weight of another code of the same
metric (`case 2, 0:` in `ciar`, …), and so do the guide's tables: CR/IR/AR as M (code 2), E as H, RL as U and
TD as H (code 4), RC as C (code 3), CDP as N (code 1). `nd d r` puts that code `d` in place of 0. The three
predicates of the later phases do not change under it (`okRB_ndR`, `okT2_nd`, `okF_nd`), so their tables are
evaluated on the codes `1 … n` only (`List.range' 1 n`). The recomputed base moreover does not see the requirement
of an impact metric at "None" (`ndR`) and is symmetric in (C, CR) and (I, IR) (`okRB_swap`).
-/
namespace Proofs.Score2
open Spec.V2

def nd (d r : Nat) : Nat := cond (Nat.beq r 0) d r

theorem nd_congr {α : Sort u} (f : Nat → α) (d : Nat) (h : f d = f 0) (r : Nat) : f (nd d r) = f r := by
  cases r
  · exact h
  · rfl

theorem nd_mem {d n : Nat} (hd : 0 < d) (hdn : d ≤ n) {r : Nat} (hr : r ≤ n) : nd d r ∈ List.range' 1 n := by
  rw [List.mem_range'_1]
  cases r
  · show 1 ≤ d ∧ d < 1 + n; omega
  · show 1 ≤ _ + 1 ∧ _ + 1 < 1 + n; omega

theorem all_mem {l : List Nat} {p : Nat → Bool} (h : l.all p = true) {x : Nat} (hx : x ∈ l) : p x = true :=
  List.all_eq_true.1 h x hx

theorem okT2_nd (fl : Nat) (kb : Int) (e rl rc : Nat) :
    okT2 fl kb (nd 4 e) (nd 4 rl) (nd 3 rc) = okT2 fl kb e rl rc := by
  simp only [okT2, T2f, XT, nd_congr GenV20.exploitability 4 rfl, nd_congr GenV20.remediationLevel 4 rfl,
    nd_congr GenV20.reportConfidence 3 rfl, nd_congr wE 4 (by decide), nd_congr wRL 4 (by decide),
    nd_congr wRC 3 (by decide)]

theorem okF_nd (fl : Nat) (kt : Int) (cdp td : Nat) :
    okF fl kt (nd 1 cdp) (nd 4 td) = okF fl kt cdp td := by
  simp only [okF, Ff, XF, nd_congr GenV20.collateralDamagePotential 1 rfl, nd_congr GenV20.targetDistribution 4 rfl,
    nd_congr wCDP 1 (by decide), nd_congr wTD 4 (by decide)]

/-- code of a security requirement as far as the recomputed base can see it: where the impact metric is "None"
    (code 0, weight 0) the product `c·cr` is 0 whatever the requirement, say "L"; elsewhere "ND" counts as "M" -/
def ndR (c r : Nat) : Nat := cond (Nat.beq c 0) 1 (nd 2 r)
/-- the values `ndR c` takes -/
def reqs (c : Nat) : List Nat := cond (Nat.beq c 0) [1] [1, 2, 3]

theorem ndR_mem (c : Nat) {r : Nat} (hr : r < 4) : ndR c r ∈ reqs c := by
  cases c
  · exact List.mem_singleton.2 rfl
  · exact nd_mem (d := 2) (n := 3) (by decide) (by decide) (Nat.le_of_lt_succ hr)

theorem reqs_lt (c : Nat) {r : Nat} (h : r ∈ reqs c) : r < 4 := by
  cases c
  · rw [List.mem_singleton.1 h]; decide
  · have := List.mem_range'_1.1 (show r ∈ List.range' 1 3 from h); omega

theorem mul_ndR (c : Nat) {r : Nat} (hr : r < 4) :
    F64.mul (GenV20.cia c) (GenV20.ciar (ndR c r)) = F64.mul (GenV20.cia c) (GenV20.ciar r) := by
  cases c
  · revert r; decide +kernel
  · exact congrArg _ (nd_congr GenV20.ciar 2 rfl r)

theorem mul_w_ndR (w wr : Nat → Rat) (h0 : w 0 = 0) (hr : wr 2 = wr 0) (c r : Nat) :
    w c * wr (ndR c r) = w c * wr r := by
  cases c
  · rw [h0, Rat.zero_mul, Rat.zero_mul]
  · exact congrArg _ (nd_congr wr 2 hr r)

theorem okRB_ndR (c i a : Nat) {cr ir ar : Nat} (hcr : cr < 4) (hir : ir < 4) (har : ar < 4) (av ac au : Nat) :
    okRB c i a (ndR c cr) (ndR i ir) (ndR a ar) av ac au = okRB c i a cr ir ar av ac au := by
  simp only [okRB, RBf, flet_eq, XAI, adjustedImpactEq, mul_ndR _ hcr, mul_ndR _ hir, mul_ndR _ har,
    mul_w_ndR wC wCR (by decide) (by decide), mul_w_ndR wI wIR (by decide) (by decide),
    mul_w_ndR wA wAR (by decide) (by decide)]

/-- the two leading factors `1 − c·cr` and `1 − i·ir` of AdjustedImpact commute, in the float code (the products are
    evaluated for all codes) as in the guide's equation, where moreover C and I, CR and IR have the same weights -/
theorem sub_mul_comm : ∀ c, c < 3 → ∀ cr, cr < 4 → ∀ i, i < 3 → ∀ ir, ir < 4 →
    F64.mul (F64.sub 0x3ff0000000000000 (F64.mul (GenV20.cia c) (GenV20.ciar cr)))
        (F64.sub 0x3ff0000000000000 (F64.mul (GenV20.cia i) (GenV20.ciar ir))) =
      F64.mul (F64.sub 0x3ff0000000000000 (F64.mul (GenV20.cia i) (GenV20.ciar ir)))
        (F64.sub 0x3ff0000000000000 (F64.mul (GenV20.cia c) (GenV20.ciar cr))) := by decide +kernel

theorem wI_eq : (∀ r, r < 3 → wI r = wC r) ∧ (∀ r, r < 4 → wIR r = wCR r) := by decide +kernel

theorem okRB_swap {c i cr ir : Nat} (hc : c < 3) (hi : i < 3) (hcr : cr < 4) (hir : ir < 4) (a ar av ac au : Nat) :
    okRB c i a cr ir ar av ac au = okRB i c a ir cr ar av ac au := by
  have h1 : RBf c i a cr ir ar av ac au = RBf i c a ir cr ar av ac au := by
    simp only [RBf, flet_eq, sub_mul_comm c hc cr hcr i hi ir hir]
  have h2 : XAI c i a cr ir ar = XAI i c a ir cr ar := by
    rw [XAI, XAI, adjustedImpactEq, adjustedImpactEq, wI_eq.1 i hi, wI_eq.1 c hc, wI_eq.2 ir hir, wI_eq.2 cr hcr,
      Rat.mul_comm (1 - wC c * wCR cr)]
  rw [okRB, okRB, h1, h2]

/-! ## the tables
Their theorems first put the divisions in the form `F64.divK`, which the kernel evaluates faster (`F64Eval`). -/

/-- recomputed base for C code `c`; by `okRB_swap` only for `(i, ir)` not above `(c, cr)` in the lexicographic order -/
def rbTable (c : Nat) : Bool :=
  (List.range (Nat.succ c)).all fun i => (List.range 3).all fun a => (reqs c).all fun cr =>
  ((reqs i).filter fun ir => Nat.blt i c || Nat.ble ir cr).all fun ir => (reqs a).all fun ar =>
  (List.range 3).all fun av => (List.range 3).all fun ac => (List.range 3).all fun au => okRB c i a cr ir ar av ac au

/-- temporal step on one input: 4 × 4 × 3 weight codes -/
def t2Codes (fl : Nat) (kb : Int) : Bool :=
  (List.range' 1 4).all fun e => (List.range' 1 4).all fun rl => (List.range' 1 3).all fun rc => okT2 fl kb e rl rc
/-- … on the 103 inputs `-0.2 … 10.0` -/
def t2Table : Bool :=
  (List.range 103).all fun j => iflet (inK j) fun kb => F64.flet (tenthI kb) fun fl => t2Codes fl kb

/-- final step on one input: 5 × 4 weight codes -/
def fCodes (fl : Nat) (kt : Int) : Bool :=
  (List.range' 1 5).all fun cdp => (List.range' 1 4).all fun td => okF fl kt cdp td
def fTable : Bool :=
  (List.range 103).all fun j => iflet (inK j) fun kt => F64.flet (tenthI kt) fun fl => fCodes fl kt

end Proofs.Score2
