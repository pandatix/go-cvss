import Cvss.Proofs.IEEE.Div
/-!
# `F64.add` is the correctly rounded sum, for all finite operands (shortcuts and signed zeros included)
-/
namespace IEEE
open Spec F64Order
/-- **an exactly representable value rounds to itself** (bit pattern included, so `−0` stays `−0`) -/
theorem isRNE_self {x : Nat} {vx : Int} {s E m : Nat} (h : Dec x vx s E m) : IsRNE vx den x := by
  have := isRNE_of_mag s _ den _ h.s_le den_pos (IsRNEMag.exact _ (Nat.le_of_lt h.pat_lt))
  rw [h.wp_eq, ← h.sv_eq, ← h.bits] at this
  exact this

theorem rep_add (m e : Nat) : Rep (m * 2^e) den m (e + 4096) := by
  apply rep_exact
  rw [Nat.pow_add, h4096]
  generalize den = D; generalize (2:Nat)^3021 = Q
  ac_rfl

theorem p63_inj (a b : Nat) : (a * P63 = b * P63) ↔ a = b := by
  simp only [P63]; omega

theorem addC_eq (sx sy e a b : Nat) :
    F64.addC (sx * P63) (sy * P63) e a b =
      if sx = sy then (if a + b = 0 then sx * P63 else F64.rnd (sx * P63) (a + b) (e + 4096))
      else if a = b then 0
      else if b < a then F64.rnd (sx * P63) (a - b) (e + 4096) else F64.rnd (sy * P63) (b - a) (e + 4096) := by
  unfold F64.addC
  simp only [cond_beq, cond_blt, Nat.add_eq, Nat.sub_eq, p63_inj]

/-- the aligned addition: exact sum of `σx·a·2^e` and `σy·b·2^e`, rounded; zero sums get the IEEE sign -/
theorem addC_rne (sx sy e a b : Nat) (hsx : sx ≤ 1) (hsy : sy ≤ 1) :
    IsRNE (sv sx (a * 2^e) + sv sy (b * 2^e)) den (F64.addC (sx * P63) (sy * P63) e a b) ∧
    (sv sx (a * 2^e) + sv sy (b * 2^e) = 0 →
      F64.addC (sx * P63) (sy * P63) e a b = if sx = 1 ∧ sy = 1 then P63 else 0) := by
  have hp : 0 < 2^e := Nat.two_pow_pos e
  rw [addC_eq]
  -- a non-zero `σ·m·2^e` is rounded by `rnd`, and is not a zero sum
  have rndcase : ∀ s m r, s ≤ 1 → 0 < m → IsRNE (sv s (m * 2^e)) den (F64.rnd (s * P63) m (e + 4096)) ∧
      (sv s (m * 2^e) = 0 → F64.rnd (s * P63) m (e + 4096) = r) := fun s m r hs hm =>
    ⟨(rnd_isRNE s m _ _ den hs den_pos (Or.inr ⟨hm, rep_add m e⟩)).1,
     fun hz => absurd ((sv_eq_zero _ _).mp hz) (Nat.pos_iff_ne_zero.mp (Nat.mul_pos hm hp))⟩
  have zerocase : ∀ s, s ≤ 1 → IsRNE 0 den (s * P63) := by
    intro s hs
    have := (rnd_isRNE s 0 0 0 den hs den_pos (Or.inl ⟨rfl, rfl⟩)).1
    rwa [rnd_zero, sv_zero] at this
  by_cases hs : sx = sy
  · subst hs
    rw [if_pos rfl, sv_add, ← Nat.add_mul]
    by_cases h0 : a + b = 0
    · rw [if_pos h0, h0, Nat.zero_mul, sv_zero]
      refine ⟨zerocase sx hsx, fun _ => ?_⟩
      simp only [P63]; split <;> omega
    · rw [if_neg h0]; exact rndcase sx (a + b) _ hsx (by omega)
  · rw [if_neg hs]
    by_cases hlt : b < a
    · rw [if_neg (by omega), if_pos hlt, sv_sub sx sy _ _ hsx hsy hs (Nat.mul_le_mul_right _ (by omega)),
        ← Nat.sub_mul]
      exact rndcase sx (a - b) _ hsx (by omega)
    · rw [Int.add_comm, sv_sub sy sx _ _ hsy hsx (fun h => hs h.symm) (Nat.mul_le_mul_right _ (by omega)),
        ← Nat.sub_mul]
      by_cases hab : a = b
      · rw [if_pos hab, hab, Nat.sub_self, Nat.zero_mul, sv_zero]
        have := zerocase 0 (by decide)
        rw [Nat.zero_mul] at this
        exact ⟨this, fun _ => by rw [if_neg (by omega)]⟩
      · rw [if_neg hab, if_neg hlt]; exact rndcase sy (b - a) _ hsy (by omega)


/-- the double just below a normal `px` is at least half an ulp of `px` away -/
theorem pred_gap (Ex mx : Nat) (hEx : 2 ≤ Ex) (h1 : P52 ≤ mx) (h2 : mx < 2 * P52) :
    wp ((Ex - 1) * P52 + mx - 1) + 2^(Ex - 1) ≤ mx * 2^Ex := by
  have hG : 2^Ex = 2 * 2^(Ex - 1) := by
    have : Ex = (Ex - 1) + 1 := by omega
    rw [this, Nat.pow_succ]; simp only [Nat.add_sub_cancel]; omega
  by_cases hm : mx = P52
  · subst hm
    have e : (Ex - 1) * P52 + P52 - 1 = (Ex - 1 - 1) * P52 + (2 * P52 - 1) := by
      simp only [P52]; omega
    rw [e, wp_pack (Ex - 1) (2 * P52 - 1) (by omega) (by omega) (by right; simp only [P52]; omega), hG]
    have : (2 * P52 - 1) * 2^(Ex - 1) + 2^(Ex - 1) = 2 * P52 * 2^(Ex - 1) := by
      have : 2 * P52 = (2 * P52 - 1) + 1 := by simp only [P52]
      rw [this, Nat.add_mul, Nat.one_mul]; simp only [Nat.add_sub_cancel]
    rw [this]
    have : P52 * (2 * 2^(Ex - 1)) = 2 * P52 * 2^(Ex - 1) := by ac_rfl
    omega
  · have e : (Ex - 1) * P52 + mx - 1 = (Ex - 1) * P52 + (mx - 1) := by omega
    rw [e, wp_pack Ex (mx - 1) (by omega) (by omega) (by right; omega)]
    have : mx * 2^Ex = (mx - 1) * 2^Ex + 2^Ex := by
      have : mx = (mx - 1) + 1 := by omega
      rw [this, Nat.add_mul, Nat.one_mul]; simp only [Nat.add_sub_cancel]
    omega

/-- exponent gap ≥ 56: the sum rounds to the larger operand -/
theorem far_rne (sx sy Ex mx Ey my : Nat) (hsx : sx ≤ 1) (hsy : sy ≤ 1) (hE : Ey + 56 ≤ Ex)
    (hEx : Ex ≤ 2046) (h1 : P52 ≤ mx) (h2 : mx < 2 * P52) (hmy0 : 0 < my) (hmy : my < 2 * P52) :
    IsRNE (sv sx (mx * 2^Ex) + sv sy (my * 2^Ey)) den (sx * P63 + ((Ex - 1) * P52 + mx)) ∧
    sv sx (mx * 2^Ex) + sv sy (my * 2^Ey) ≠ 0 := by
  have hD := den_pos
  have hG : 2^Ex = 2 * 2^(Ex - 1) := by
    have : Ex = (Ex - 1) + 1 := by omega
    rw [this, Nat.pow_succ]; simp only [Nat.add_sub_cancel]; omega
  have hδ : 8 * (my * 2^Ey) < 2^Ex := by
    have h3 : my * 2^Ey < 2^53 * 2^Ey := Nat.mul_lt_mul_of_pos_right (by rw [p53]; exact hmy) (Nat.two_pow_pos _)
    have h4 : 8 * (2^53 * 2^Ey) = 2^(Ey + 56) := by
      rw [Nat.pow_add]; generalize (2:Nat)^Ey = Y; omega
    have h5 : 2^(Ey + 56) ≤ 2^Ex := Nat.pow_le_pow_right (by decide) hE
    omega
  have hδ0 : 0 < my * 2^Ey := Nat.mul_pos hmy0 (Nat.two_pow_pos _)
  have hW := wp_pack Ex mx (by omega) (by omega) (Or.inr h1)
  have hW1 := wp_pack Ex (mx + 1) (by omega) (by omega) (Or.inr (by omega))
  have hpg := pred_gap Ex mx (by omega) h1 h2
  have hWG : 2^Ex ≤ mx * 2^Ex := Nat.le_mul_of_pos_left _ (by simp only [P52] at h1; omega)
  have hpx : (Ex - 1) * P52 + mx < PINF := by simp only [P52, PINF] at *; omega
  have hW1' : wp ((Ex - 1) * P52 + mx + 1) = mx * 2^Ex + 2^Ex := by
    rw [Nat.add_assoc, hW1, Nat.add_mul, Nat.one_mul]
  generalize hpxd : (Ex - 1) * P52 + mx = px at *
  generalize mx * 2^Ex = W at *
  generalize my * 2^Ey = δ at *
  generalize (2:Nat)^Ex = G at *
  generalize (2:Nat)^(Ex - 1) = H at *
  by_cases hs : sx = sy
  · -- same sign: W + δ, bracket [px, px+1]
    rw [← hs, sv_add, ne_eq, sv_eq_zero]
    refine ⟨isRNE_of_mag sx (W + δ) den px hsx hD ?_, by omega⟩
    refine bracket (W + δ) den px px hD ?_ ?_ (Or.inr ⟨?_, by omega⟩)
    · rw [hW]; exact Nat.mul_le_mul_right _ (by omega)
    · rw [hW1']; exact Nat.mul_lt_mul_of_pos_right (by omega) hD
    · unfold roundUp
      rw [hW, hW1', ← Nat.mul_assoc]
      intro h
      rcases h with h | ⟨h, _⟩
      · exact absurd (Nat.lt_of_mul_lt_mul_right h) (by omega)
      · exact absurd (Nat.eq_of_mul_eq_mul_right hD h) (by omega)
  · -- opposite signs: W − δ, bracket [px−1, px]
    rw [sv_sub sx sy W δ hsx hsy hs (by omega), ne_eq, sv_eq_zero]
    refine ⟨isRNE_of_mag sx (W - δ) den px hsx hD ?_, by omega⟩
    have hpx1 : px - 1 + 1 = px := by
      have : 0 < px := by rw [← hpxd]; simp only [P52] at *; omega
      omega
    refine bracket (W - δ) den (px - 1) px hD ?_ ?_ (Or.inl ⟨?_, by rw [hpx1]; omega⟩)
    · exact Nat.mul_le_mul_right _ (by omega)
    · rw [hpx1, hW]; exact Nat.mul_lt_mul_of_pos_right (by omega) hD
    · unfold roundUp
      left
      rw [hpx1, hW, ← Nat.mul_assoc]
      exact Nat.mul_lt_mul_of_pos_right (by omega) hD


theorem addB_eq (x y ex ey e : Nat) :
    F64.addB x y ex ey e =
      F64.addC (sgn x * P63) (sgn y * P63) e (F64.mant x ex * 2^(F64.exf ex - e)) (F64.mant y ey * 2^(F64.exf ey - e)) := by
  unfold F64.addB
  simp only [flet_eq, nshl, Nat.sub_eq, Nat.mul_eq]
  rfl

theorem addA_eq (x y ex ey : Nat) :
    F64.addA x y ex ey =
      if y % P63 = 0 then (if x % P63 = 0 then F64.addB x y ex ey 1 else x)
      else if x % P63 = 0 then y
      else if F64.exf ey + 56 ≤ F64.exf ex then x
      else if F64.exf ex + 56 ≤ F64.exf ey then y
      else F64.addB x y ex ey (if F64.exf ex ≤ F64.exf ey then F64.exf ex else F64.exf ey) := by
  unfold F64.addA
  simp only [flet_eq, cond_beq, cond_ble, Nat.add_eq, nmod]
  rfl

theorem add_unfold (x y : Nat) (hx : F64.ebits x < 2047) (hy : F64.ebits y < 2047) :
    F64.add x y = F64.addA x y (F64.ebits x) (F64.ebits y) := by
  unfold F64.add
  simp only [flet_eq]
  rw [fin2_true x y hx hy, cond_true]

theorem shift_back (m E e : Nat) (h : e ≤ E) : m * 2^(E - e) * 2^e = m * 2^E := by
  rw [Nat.mul_assoc, ← Nat.pow_add]; congr 2; omega

/-- **addition**: for finite `x`, `y`, `F64.add x y` is the round-to-nearest-even image of the exact sum
    `(vx + vy)/den`; an exact zero sum is `+0`, except `(−0) + (−0) = −0`. -/
theorem add_rne (x y : Nat) (vx vy : Int) (hx : x < 2^64) (hy : y < 2^64)
    (hvx : F64Val.ofBits x = .fin vx) (hvy : F64Val.ofBits y = .fin vy) :
    IsRNE (vx + vy) den (F64.add x y) ∧
    (vx + vy = 0 → F64.add x y = if signBit x = 1 ∧ signBit y = 1 then 2^63 else 0) := by
  obtain ⟨hex, dx⟩ := decode x vx hx hvx
  obtain ⟨hey, dy⟩ := decode y vy hy hvy
  rw [← sgn_eq_signBit x hx, ← sgn_eq_signBit y hy, add_unfold x y hex hey, addA_eq, ← p63_pow]
  have hzx := dx.mod_zero_iff
  have hzy := dy.mod_zero_iff
  have hvzx := dx.zero_iff
  have hvzy := dy.zero_iff
  have general : ∀ e, 1 ≤ e → e ≤ F64.exf (F64.ebits x) → e ≤ F64.exf (F64.ebits y) →
      (IsRNE (vx + vy) den (F64.addB x y (F64.ebits x) (F64.ebits y) e) ∧
       (vx + vy = 0 → F64.addB x y (F64.ebits x) (F64.ebits y) e = if sgn x = 1 ∧ sgn y = 1 then P63 else 0)) := by
    intro e _ h1 h2
    rw [addB_eq]
    have := addC_rne (sgn x) (sgn y) e (F64.mant x (F64.ebits x) * 2^(F64.exf (F64.ebits x) - e))
      (F64.mant y (F64.ebits y) * 2^(F64.exf (F64.ebits y) - e)) dx.s_le dy.s_le
    rw [shift_back _ _ _ h1, shift_back _ _ _ h2, ← dx.sv_eq, ← dy.sv_eq] at this
    exact this
  by_cases hy0 : y % P63 = 0
  · rw [if_pos hy0]
    by_cases hx0 : x % P63 = 0
    · rw [if_pos hx0]
      have h1 : F64.exf (F64.ebits x) = 1 := by
        have := dx.norm; have := hzx.mp hx0; simp only [P52] at *; omega
      have h2 : F64.exf (F64.ebits y) = 1 := by
        have := dy.norm; have := hzy.mp hy0; simp only [P52] at *; omega
      exact general 1 (by omega) (by omega) (by omega)
    · rw [if_neg hx0]
      have hvy0 : vy = 0 := hvzy.mpr (hzy.mp hy0)
      rw [hvy0, Int.add_zero]
      refine ⟨isRNE_self dx, fun h => ?_⟩
      exact absurd (hzx.mpr (hvzx.mp h)) hx0
  · rw [if_neg hy0]
    by_cases hx0 : x % P63 = 0
    · rw [if_pos hx0]
      have hvx0 : vx = 0 := hvzx.mpr (hzx.mp hx0)
      rw [hvx0, Int.zero_add]
      refine ⟨isRNE_self dy, fun h => ?_⟩
      exact absurd (hzy.mpr (hvzy.mp h)) hy0
    · rw [if_neg hx0]
      have hmx0 : F64.mant x (F64.ebits x) ≠ 0 := fun h => hx0 (hzx.mpr h)
      have hmy0 : F64.mant y (F64.ebits y) ≠ 0 := fun h => hy0 (hzy.mpr h)
      by_cases hf1 : F64.exf (F64.ebits y) + 56 ≤ F64.exf (F64.ebits x)
      · rw [if_pos hf1]
        have hn1 : P52 ≤ F64.mant x (F64.ebits x) := by have := dx.norm; have := dy.E_ge; omega
        have ⟨this, hne⟩ := far_rne (sgn x) (sgn y) _ _ _ _ dx.s_le dy.s_le hf1 dx.E_le hn1 dx.m_lt (by omega) dy.m_lt
        rw [← dx.sv_eq, ← dy.sv_eq] at this hne
        rw [← dx.bits] at this
        exact ⟨this, fun h => absurd h hne⟩
      · rw [if_neg hf1]
        by_cases hf2 : F64.exf (F64.ebits x) + 56 ≤ F64.exf (F64.ebits y)
        · rw [if_pos hf2]
          have hn1 : P52 ≤ F64.mant y (F64.ebits y) := by have := dy.norm; have := dx.E_ge; omega
          have ⟨this, hne⟩ := far_rne (sgn y) (sgn x) _ _ _ _ dy.s_le dx.s_le hf2 dy.E_le hn1 dy.m_lt (by omega) dx.m_lt
          rw [← dx.sv_eq, ← dy.sv_eq, Int.add_comm] at this hne
          rw [← dy.bits] at this
          exact ⟨this, fun h => absurd h hne⟩
        · rw [if_neg hf2]
          have := dx.E_ge; have := dy.E_ge
          apply general <;> split <;> omega

end IEEE
