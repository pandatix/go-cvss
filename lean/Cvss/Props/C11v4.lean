import Cvss.Proofs.Score4Main
import Cvss.Spec.V4Range
/-!
# C11 (v4.0 part) — every score is a finite one-decimal number within the scale, and `Rating` accepts it

For every well-formed `CVSS40` object, `Score` returns **exactly the bit pattern** of the double nearest `k/10`
for a natural `k ≤ 100` (never `-0.0`, never NaN/Inf), namely `k = Spec.V4.scoreK` of the object's value strings;
so it is finite, IEEE-equal to `F64.tenth k`, and the generated `Rating` applied to these very bits returns a nil
error.

`score_bits` is the bit-level form of `Props.C04` (`Proofs/Score4Main.core`: the no-impact shortcut returns the
literal `+0.0`; otherwise the float tail is compared bit for bit on all 52,650 (MacroVector, distances) points); the
Spec's score is at most 10.0 for every assignment of strings (`Spec/V4Range.lean`); `tenth_table` evaluates the 101
cases `k ≤ 100`: `F64.tenth k` is finite and `GenV40.Rating (F64.tenth k)` has a nil error. `score_spec` is the three
together with `k` named; `Props.C04` and `C11v4` are its parts.
-/
namespace Props.C11v4
open Proofs.Score4 Model
open Proofs.B40 (code abv)
open Spec.V4 (orElse)

/-- bit-level C04: `Score` returns the double nearest the Spec's score, bit for bit -/
theorem score_bits (c : O40) (h : c.wf = true) :
    c.score = F64.tenth (Spec.V4.scoreK (fun a => (c.get a).1)) := by
  rw [core c h]
  -- each `nmX (code j c)` is what `Get` returns for metric `j` …
  simp (disch := decide) only [← val_code c]
  -- … and `abv j` evaluates to the abbreviation the Spec's `effective` asks for
  rfl

theorem tenth_table : ((List.range 101).all fun k =>
    F64.isFin (F64.tenth k) && decide ((GenV40.Rating (F64.tenth k)).2 = Go.errNil)) = true := by decide +kernel

/-- IEEE `==` of a finite number with itself -/
theorem eq_self {x : Nat} (h : F64.isFin x = true) : F64.eq x x = true := by
  have h2 : F64.isFin2 x x = true := by unfold F64.isFin2; unfold F64.isFin at h; rw [h]; rfl
  unfold F64.eq
  rw [flet_eq, flet_eq, h2, condT, Nat.beq_refl]
  rfl

theorem score_spec (c : O40) (h : c.wf = true) :
    Spec.V4.scoreK (fun a => (c.get a).1) ≤ 100 ∧ F64.isFin c.score = true ∧
      F64.eq c.score (F64.tenth (Spec.V4.scoreK (fun a => (c.get a).1))) = true ∧
      c.score = F64.tenth (Spec.V4.scoreK (fun a => (c.get a).1)) ∧ (GenV40.Rating c.score).2 = Go.errNil := by
  have hk := Spec.V4.scoreK_le_100 (fun a => (c.get a).1)
  have ht := List.all_eq_true.mp tenth_table (Spec.V4.scoreK (fun a => (c.get a).1))
    (List.mem_range.mpr (Nat.lt_succ_of_le hk))
  simp only [Bool.and_eq_true, decide_eq_true_eq] at ht
  rw [score_bits c h]
  exact ⟨hk, ht.1, eq_self ht.1, rfl, ht.2⟩

theorem C11v4 (c : O40) (h : c.wf = true) :
    ∃ k : Nat, k ≤ 100 ∧ F64.isFin c.score = true ∧ F64.eq c.score (F64.tenth k) = true ∧
      c.score = F64.tenth k ∧ (GenV40.Rating c.score).2 = Go.errNil :=
  ⟨_, score_spec c h⟩

/-- the `k` is the Spec's score: the object of `Props.C04`'s example scores 9.3, rated CRITICAL -/
example : (⟨0x28, 0x22, 0x20, 0, 0, 0, 0, 0, 0⟩ : O40).wf = true ∧
    (⟨0x28, 0x22, 0x20, 0, 0, 0, 0, 0, 0⟩ : O40).score = F64.tenth 93 ∧
    GenV40.Rating (⟨0x28, 0x22, 0x20, 0, 0, 0, 0, 0, 0⟩ : O40).score = (Spec.b "CRITICAL", Go.errNil) := by
  decide +kernel

end Props.C11v4

