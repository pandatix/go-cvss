import Cvss.Proofs.Score3Main31
import Cvss.Proofs.Score3Env30_0
import Cvss.Proofs.Score3Env30_1
import Cvss.Proofs.Score3Env30_2
import Cvss.Proofs.Score3Env30_3
import Cvss.Proofs.Score3T30
import Cvss.Proofs.Score3Base30
import Cvss.Proofs.Score3Codes30
/-!
# C03, v3.0: composition — the three scores of every well-formed object are the Spec's tenths

The composition of `Score3Main31` for the generated functions of the v3.0 package, with the enumerations (a) and, for
a changed Modified Scope, (c) of this version.
-/
namespace Proofs.Score3.V30
open Spec Spec.V3 GenV30

theorem env_changed {mav mac : Nat} (hmav : mav < 4) (hmac : mac < 2) : chunkEnv 1 mav mac = true := by
  have : mav = 0 ∨ mav = 1 ∨ mav = 2 ∨ mav = 3 := by omega
  have : mac = 0 ∨ mac = 1 := by omega
  rcases ‹mav = 0 ∨ _› with rfl | rfl | rfl | rfl <;> rcases ‹mac = 0 ∨ _› with rfl | rfl
  · exact env_1_0_0
  · exact env_1_0_1
  · exact env_1_1_0
  · exact env_1_1_1
  · exact env_1_2_0
  · exact env_1_2_1
  · exact env_1_3_0
  · exact env_1_3_1

/-- (c) every inner tuple with requirement codes other than `X`: own table for a changed Modified Scope,
    v3.1's for an unchanged one -/
theorem okInner_all {ms mav mac mpr mui mc mi ma cr ir ar : Nat} (hms : ms < 2) (hmav : mav < 4) (hmac : mac < 2)
    (hmpr : mpr < 3) (hmui : mui < 2) (hmc : mc < 3) (hmi : mi < 3) (hma : ma < 3)
    (hcr : 1 ≤ cr ∧ cr ≤ 3) (hir : 1 ≤ ir ∧ ir ≤ 3) (har : 1 ≤ ar ∧ ar ≤ 3) :
    okInner mav mac mpr mui ms mc mi ma cr ir ar = true := by
  have : ms = 0 ∨ ms = 1 := by omega
  rcases this with rfl | rfl
  · rw [okInner_unchanged]
    exact V31.okInner_all (by decide) hmav hmac hmpr hmui hmc hmi hma hcr hir har
  · exact chunkEnvOn_elim (env_changed hmav hmac) hmpr hmui hmc hmi hma hcr hir har

/-- the shape lemmas of `Score3M30` speak of v3.0's `T`, weight functions and `mod_`; these unfold to the same terms as
    v3.1's (`T_eq`, `okT_eq`, `leaf_eq` state it for some of them), which is what lets them fill the v3.1-typed fields -/
theorem version : Version ver BaseScore_core TemporalScore_core EnvironmentalScore_core Inner :=
  ⟨base_scope, temporal_shape, env_shape, Inner_nR, base_all, @okInner_all⟩

/-! On well-formed objects -/
theorem base_obj (c : Model.O30) (h : c.wf = true) :
    c.baseScore = F64.tenth (baseK ver (val c)) ∧ baseK ver (val c) ≤ 100 := by
  rw [baseScore_eq, val_eq]
  exact version.base_codes (inRange_of_wf c h) (V31.scope_beq c.u0)

theorem temporal_obj (c : Model.O30) (h : c.wf = true) :
    c.temporalScore = F64.tenth (temporalK ver (val c)) ∧ temporalK ver (val c) ≤ 100 := by
  rw [temporalScore_eq, val_eq]
  exact version.temporal_codes (inRange_of_wf c h) (V31.scope_beq c.u0)

theorem env_obj (c : Model.O30) (h : c.wf = true) :
    c.environmentalScore = F64.tenth (environmentalK ver (val c)) ∧ environmentalK ver (val c) ≤ 100 := by
  rw [environmentalScore_eq, val_eq]
  exact version.env_codes (inRange_of_wf c h)

/-! ## Appendix A, as in `Score3Main31`; the first two statements do not depend on the version -/
theorem appendixA_base {av ac pr ui s c i a : Nat} (hav : av < 4) (hac : ac < 2) (hpr : pr < 3) (hui : ui < 2) (hs : s < 2)
    (hc : c < 3) (hi : i < 3) (ha : a < 3) :
    specImpact s c i a ≤ 0 ∨
    (Roundup (baseArg (Nat.beq s 1) (specImpact s c i a) (specExpl av ac pr ui s)) =
      RoundupA (baseArg (Nat.beq s 1) (specImpact s c i a) (specExpl av ac pr ui s)) ∧
     noTie (baseArg (Nat.beq s 1) (specImpact s c i a) (specExpl av ac pr ui s)) = true) :=
  V31.appendixA_base hav hac hpr hui hs hc hi ha

theorem appendixA_temporal {k e rl rc : Nat} (hk : k ≤ 100) (he : e < 5) (hrl : rl < 5) (hrc : rc < 4) :
    Roundup (tenths (Int.ofNat k) * cE e * cRL rl * cRC rc) = RoundupA (tenths (Int.ofNat k) * cE e * cRL rl * cRC rc) ∧
    noTie (tenths (Int.ofNat k) * cE e * cRL rl * cRC rc) = true :=
  V31.appendixA_temporal hk he hrl hrc

theorem appendixA_inner {mav mac mpr mui ms mc mi ma cr ir ar : Nat} (hmav : mav < 4) (hmac : mac < 2) (hmpr : mpr < 3)
    (hmui : mui < 2) (hms : ms < 2) (hmc : mc < 3) (hmi : mi < 3) (hma : ma < 3) (hcr : cr < 4) (hir : ir < 4) (har : ar < 4) :
    specMImpact ver ms mc mi ma cr ir ar ≤ 0 ∨
    (Roundup (baseArg (Nat.beq ms 1) (specMImpact ver ms mc mi ma cr ir ar) (specExpl mav mac mpr mui ms)) =
      RoundupA (baseArg (Nat.beq ms 1) (specMImpact ver ms mc mi ma cr ir ar) (specExpl mav mac mpr mui ms)) ∧
     noTie (baseArg (Nat.beq ms 1) (specMImpact ver ms mc mi ma cr ir ar) (specExpl mav mac mpr mui ms)) = true) :=
  version.appendixA_inner hmav hmac hmpr hmui hms hmc hmi hma hcr hir har

end Proofs.Score3.V30
