import Cvss.Proofs.Score2Tables
import Cvss.Proofs.Score2Wf
import Cvss.Proofs.Score2Near
/-!
# C05/C11 (v2.0): from the tables to every well-formed object

`valOf c` is the metric assignment of the object (the strings its `Get` returns). The Spec quantities of
`valOf c` are, by unfolding, the code-level exact values `XB`, `XRB`, `XT`, `XF` of the object's codes; the
generated scores are, by unfolding and the shape lemmas, `BaseScore_core`, `T2f (BaseScore_core …) …` and
`Ff (T2f (RBf …) …) …` of the same codes; `wf` puts the codes in range; the tables do the rest.
-/
namespace Proofs.Score2
open Model Spec.V2

def valOf (c : O20) : Spec.Bytes → Spec.Bytes := fun a => (c.get a).1

theorem impact_valOf (c : O20) : impact (valOf c) = XI (cC c) (cI c) (cA c) := rfl
theorem exploitability_valOf (c : O20) : exploitability (valOf c) = XE (cAV c) (cAC c) (cAu c) := rfl
theorem baseExact_valOf (c : O20) : baseExact (valOf c) = XB (cC c) (cI c) (cA c) (cAV c) (cAC c) (cAu c) := rfl
theorem recBase_valOf (c : O20) : recomputedBaseExact (valOf c) =
    XRB (cC c) (cI c) (cA c) (cCR c) (cIR c) (cAR c) (cAV c) (cAC c) (cAu c) := rfl
theorem temporalStep_valOf (c : O20) (x : Rat) :
    temporalStep (valOf c) x = temporalEq x (wE (cE c)) (wRL (cRL c)) (wRC (cRC c)) := rfl
theorem finalStep_valOf (c : O20) (x : Rat) :
    finalStep (valOf c) x = environmentalEq x (wCDP (cCDP c)) (wTD (cTD c)) := rfl
theorem wCDP_valOf (c : O20) : w (valOf c) "CDP" = wCDP (cCDP c) := rfl

theorem base_ok (c : O20) (h : c.wf = true) :
    okBase (cC c) (cI c) (cA c) (cAV c) (cAC c) (cAu c) = true :=
  let r := wf_inRange c h
  base_tbl r.hC r.hI r.hA r.hAV r.hAC r.hAu

theorem base_main (c : O20) (h : c.wf = true) :
    ∃ k : Int, Near (baseExact (valOf c)) k ∧ bitsOK c.baseScore k = true ∧ 0 ≤ k ∧ k ≤ 100 := by
  have hb := base_ok c h
  simp only [okBase, flet_eq, forceRat_eq, Bool.and_eq_true] at hb
  rw [baseExact_valOf, baseScore_codes]
  exact okStep_elim hb.1

theorem eq_NEG0_iff {x : Nat} {p : Bool} (h : Nat.beq x NEG0 = p) : x = NEG0 ↔ p = true := by
  rw [← h]
  exact ⟨fun e => e ▸ Nat.beq_refl _, Nat.eq_of_beq_eq_true⟩

/-- O1: `BaseScore` is `-0.0` exactly when Impact = 0 and 0.4·Exploitability < 1.5 -/
theorem base_neg0 (c : O20) (h : c.wf = true) :
    c.baseScore = NEG0 ↔ (impact (valOf c) = 0 ∧ 0.4 * exploitability (valOf c) < 1.5) := by
  have hb := base_ok c h
  simp only [okBase, flet_eq, forceRat_eq, Bool.and_eq_true, beq_iff_eq] at hb
  rw [baseScore_codes, impact_valOf, exploitability_valOf, eq_NEG0_iff hb.2, Bool.and_eq_true, decide_eq_true_eq,
    decide_eq_true_eq]

/-- what the bounds of the temporal step say: the result is in `[-0.2, 10]` and has the sign of the input -/
theorem t2_bounds {kb kt : Int} (l : loT kb ≤ kt) (u : kt ≤ hiT kb) :
    -2 ≤ kt ∧ kt ≤ 100 ∧ (0 ≤ kb → 0 ≤ kt) ∧ (kb < 0 → kt < 0) := by
  unfold loT at l; unfold hiT at u
  by_cases h : kb < 0
  · rw [decide_eq_true h, cond_true] at l u; exact ⟨l, by omega, by omega, fun _ => by omega⟩
  · rw [decide_eq_false h, cond_false] at l u; exact ⟨by omega, u, fun _ => l, fun h' => absurd h' h⟩

theorem hiT_neg {kb : Int} (h : kb < 0) : hiT kb = -1 := by
  unfold hiT; rw [decide_eq_true h]; rfl

theorem temporalScore_shape (c : O20) :
    c.temporalScore = T2f c.baseScore (cE c) (cRL c) (cRC c) := by
  rw [temporalScore_codes, temporal_shape, baseScore_codes]

/-- the temporal step on a score value of `kb ≥ 0` tenths returns a score value in `[0, 10]` -/
theorem t2_out {fl : Nat} {kb : Int} (b : bitsOK fl kb = true) (l : 0 ≤ kb) (u : kb ≤ 100) {e rl rc : Nat}
    (he : e < 5) (hrl : rl < 5) (hrc : rc < 4) :
    ∃ kt : Int, Near (XT kb e rl rc) kt ∧ bitsOK (T2f fl e rl rc) kt = true ∧ 0 ≤ kt ∧ kt ≤ 100 := by
  have ht := t2_tbl (by omega) u b he hrl hrc
  simp only [okT2, flet_eq, Bool.and_eq_true] at ht
  obtain ⟨kt, n, b2, l2, u2⟩ := okStep_elim ht.1
  have r := t2_bounds l2 u2
  exact ⟨kt, n, b2, r.2.2.1 l, r.2.1⟩

theorem temporal_main (c : O20) (h : c.wf = true) :
    ∃ kb kt : Int, Near (baseExact (valOf c)) kb ∧ bitsOK c.baseScore kb = true ∧ 0 ≤ kb ∧ kb ≤ 100 ∧
      Near (temporalStep (valOf c) (score kb)) kt ∧ bitsOK c.temporalScore kt = true ∧ 0 ≤ kt ∧ kt ≤ 100 := by
  obtain ⟨kb, n1, b1, l1, u1⟩ := base_main c h
  have r := wf_inRange c h
  obtain ⟨kt, n2, b2, l2, u2⟩ := t2_out b1 l1 u1 r.hE r.hRL r.hRC
  exact ⟨kb, kt, n1, b1, l1, u1, n2, temporalScore_shape c ▸ b2, l2, u2⟩

/-- O1: `TemporalScore` is `-0.0` exactly when `BaseScore` is -/
theorem temporal_neg0 (c : O20) (h : c.wf = true) : c.temporalScore = NEG0 ↔ c.baseScore = NEG0 := by
  obtain ⟨kb, _, b1, l1, u1⟩ := base_main c h
  have r := wf_inRange c h
  have ht := t2_tbl (by omega) u1 b1 r.hE r.hRL r.hRC
  simp only [okT2, flet_eq, Bool.and_eq_true, beq_iff_eq] at ht
  rw [temporalScore_shape, eq_NEG0_iff ht.2, eq_NEG0_iff rfl]

theorem environmentalScore_shape (c : O20) :
    c.environmentalScore =
      Ff (T2f (RBf (cC c) (cI c) (cA c) (cCR c) (cIR c) (cAR c) (cAV c) (cAC c) (cAu c)) (cE c) (cRL c) (cRC c))
        (cCDP c) (cTD c) := by
  rw [environmentalScore_codes, env_shape]

/-- the whole chain, with everything the corollaries need: `kb`, `kt`, `k` are the tenths of the model's
    recomputed base, adjusted temporal and environmental score -/
theorem env_main (c : O20) (h : c.wf = true) :
    ∃ kb kt k : Int, Near (recomputedBaseExact (valOf c)) kb ∧ Near (temporalStep (valOf c) (score kb)) kt ∧
      Near (finalStep (valOf c) (score kt)) k ∧ bitsOK c.environmentalScore k = true ∧ -2 ≤ k ∧ k ≤ 100 ∧
      (c.environmentalScore = NEG0 → kb < 0 ∧ wCDP (cCDP c) = 0) := by
  have r := wf_inRange c h
  have h1 := rb_tbl r.hC r.hI r.hA r.hCR r.hIR r.hAR r.hAV r.hAC r.hAu
  simp only [okRB, flet_eq, forceRat_eq] at h1
  obtain ⟨kb, n1, b1, l1, u1⟩ := okStep_elim h1
  have h2 := t2_tbl l1 u1 b1 r.hE r.hRL r.hRC
  simp only [okT2, flet_eq, Bool.and_eq_true] at h2
  obtain ⟨kt, n2, b2, l2, u2⟩ := okStep_elim h2.1
  have r2 := t2_bounds l2 u2
  have h3 := f_tbl r2.1 r2.2.1 b2 r.hCDP r.hTD
  simp only [okF, flet_eq, Bool.and_eq_true, beq_iff_eq] at h3
  obtain ⟨k, n3, b3, l3, u3⟩ := okStep_elim h3.1
  refine ⟨kb, kt, k, ?_, n2, n3, ?_, l3, u3, ?_⟩
  · rw [recBase_valOf]; exact n1
  · rw [environmentalScore_shape]; exact b3
  · intro e
    rw [environmentalScore_shape, eq_NEG0_iff h3.2, Bool.and_eq_true, Bool.and_eq_true, decide_eq_true_eq,
      decide_eq_true_eq] at e
    -- kt < 0 forces kb < 0 (the temporal step keeps the sign)
    exact ⟨Int.not_le.1 fun hk => absurd (r2.2.2.1 hk) (Int.not_le.2 e.1.1), e.1.2⟩

end Proofs.Score2
