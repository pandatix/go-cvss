import Cvss.Proofs.BitsCommon
import Cvss.Spec.Effective
/-!
# Effective values in field codes (C10)

A metric that may be Not Defined has `X` as code 0, followed by the values it can resolve to.  When these follow in the
code order of the metric (or default) that `X` resolves to, resolving `X` (`Spec.eff`, `Spec.dflt`) is on codes what
the Go function `mod(base, modified)` computes: the Modified code minus one if it is not 0, else the base code.
Since the value strings of a metric are distinct, two objects with the same effective value string then have the same
`mod_ base modified`.  Stated for any `Bits.Layout`.
-/
namespace Bits
open Spec (b eff Metric)
open Model (Bytes)

/-- `md` computes what the generated `mod_` computes -/
def IsMod (md : Nat → Nat → Nat) : Prop :=
  ∀ k m, md k m = cond (!(Nat.beq m 0)) ((m + 256 - 1) % 256) k

section Resolve
variable {md : Nat → Nat → Nat} (hmd : IsMod md) {V : List Bytes} (hn : (b "X" :: V).Nodup) (hl : V.length ≤ 256)
include hmd hn hl

/-- `V`: the values in code order; the value `(X :: V)[m]`, with `X` resolved to `V[k]`, is `V[md k m]` -/
theorem resolve_getD {k m : Nat} (hk : k < V.length) (hm : m < V.length + 1) :
    (if (b "X" :: V).getD m [] = b "X" then V.getD k [] else (b "X" :: V).getD m []) = V.getD (md k m) [] ∧
    md k m < V.length := by
  rw [hmd k m]
  cases m with
  | zero => exact ⟨if_pos rfl, hk⟩
  | succ m =>
    have hm' : m < V.length := Nat.lt_of_succ_lt_succ hm
    have hX : V.getD m [] ≠ b "X" := fun e => (List.nodup_cons.mp hn).1 (e ▸ getD_mem [] V m hm')
    have e : cond (!(Nat.beq (m + 1) 0)) ((m + 1 + 256 - 1) % 256) k = m := show (m + 1 + 256 - 1) % 256 = m by omega
    rw [e, List.getD_cons_succ, if_neg hX]
    exact ⟨rfl, hm'⟩

theorem resolve_inj {k m k' m' : Nat} (hk : k < V.length) (hm : m < V.length + 1) (hk' : k' < V.length)
    (hm' : m' < V.length + 1)
    (e : (if (b "X" :: V).getD m [] = b "X" then V.getD k [] else (b "X" :: V).getD m []) =
         (if (b "X" :: V).getD m' [] = b "X" then V.getD k' [] else (b "X" :: V).getD m' [])) :
    md k m = md k' m' := by
  have r := resolve_getD hmd hn hl hk hm
  have r' := resolve_getD hmd hn hl hk' hm'
  rw [r.1, r'.1] at e
  exact nodup_getD_inj [] V _ _ (List.nodup_cons.mp hn).2 r.2 r'.2 e
end Resolve

theorem IsMod.factor {md : Nat → Nat → Nat} (hmd : IsMod md) {α} {w : Nat → α} {i : Nat} (hw : w 0 = w (i + 1))
    {m : Nat} (hm : m < 256) : w m = w (md i m + 1) := by
  rw [hmd i m]
  cases m with
  | zero => exact hw
  | succ m =>
    have e : cond (!(Nat.beq (m + 1) 0)) ((m + 1 + 256 - 1) % 256) i = m := show (m + 1 + 256 - 1) % 256 = m by omega
    rw [e]

namespace Layout
variable {O : Type} {ms : List Metric} (L : Layout O ms)

def val (c : O) : Bytes → Bytes := fun a => (L.get c a).1

abbrev cd (c : O) (j : Nat) : Nat := (L.codes c).getD j 0

theorem val_code (c : O) {j : Nat} (hj : j < ms.length) : L.val c (mAt ms j).abv = (L.vals j).getD (L.cd c j) [] := by
  simp only [val, L.get_known j hj]

variable (T : TableOK ms) {c c' : O} (h : L.wfB c = true) (h' : L.wfB c' = true)
include T h

theorem wf_codes : ∀ j, j < ms.length → L.cd c j < (L.vals j).length := ((L.wf_iff T c).mp h).2.2

include h'

theorem code_eq {j : Nat} (hj : j < ms.length) (e : L.val c (mAt ms j).abv = L.val c' (mAt ms j).abv) :
    L.cd c j = L.cd c' j := by
  rw [L.val_code c hj, L.val_code c' hj] at e
  exact nodup_getD_inj [] _ _ _ (L.vals_nodup j hj) (L.wf_codes T h j hj) (L.wf_codes T h' j hj) e

variable {md : Nat → Nat → Nat} (hmd : IsMod md)
include hmd

/-- the Modified metric `jm` lists `X` and then `V`, which begins with the values of the base metric `j`: the
    effective value string determines `mod_ base modified` -/
theorem pair_eq {j jm : Nat} (hj : j < ms.length) (hjm : jm < ms.length) {V : List Bytes} (hv : L.vals jm = b "X" :: V)
    (hb : ∀ k, k < (L.vals j).length → k < V.length ∧ (L.vals j).getD k [] = V.getD k [])
    (e : eff (L.val c) (mAt ms j).abv (mAt ms jm).abv = eff (L.val c') (mAt ms j).abv (mAt ms jm).abv) :
    md (L.cd c j) (L.cd c jm) = md (L.cd c' j) (L.cd c' jm) := by
  have hk := hb _ (L.wf_codes T h j hj)
  have hk' := hb _ (L.wf_codes T h' j hj)
  have hm := L.wf_codes T h jm hjm
  have hm' := L.wf_codes T h' jm hjm
  have hl := L.vals_len jm hjm
  simp only [eff, L.val_code _ hj, L.val_code _ hjm, hk.2, hk'.2] at e
  rw [hv] at e hm hm' hl
  exact resolve_inj hmd (hv ▸ L.vals_nodup jm hjm) (Nat.le_of_succ_le hl) hk.1 hm hk'.1 hm' e

/-- metric `j` lists `X` and then some `V` with the default `d` at `V[i]`, and `w` does not distinguish code 0 (`X`)
    from the code of `d` -/
def Default (j : Nat) (d : Bytes) {α} (w : Nat → α) : Prop :=
  ∃ V i, L.vals j = b "X" :: V ∧ i < V.length ∧ V.getD i [] = d ∧ w 0 = w (i + 1)

/-- … then the value string with `X` read as `d` determines `w` of the code -/
theorem weight_eq {j : Nat} (hj : j < ms.length) {d : Bytes} {α} {w : Nat → α} (H : L.Default j d w)
    (e : Spec.dflt (L.val c) (mAt ms j).abv d = Spec.dflt (L.val c') (mAt ms j).abv d) :
    w (L.cd c j) = w (L.cd c' j) := by
  obtain ⟨V, i, hv, hi, rfl, hw⟩ := H
  have hm := L.wf_codes T h j hj
  have hm' := L.wf_codes T h' j hj
  have hl := L.vals_len j hj
  simp only [Spec.dflt, L.val_code _ hj] at e
  rw [hv] at e hm hm' hl
  rw [hmd.factor hw (Nat.lt_of_lt_of_le hm hl), hmd.factor hw (Nat.lt_of_lt_of_le hm' hl),
    resolve_inj hmd (hv ▸ L.vals_nodup j hj) (Nat.le_of_succ_le hl) hi hm hi hm' e]

end Layout
end Bits
