import Cvss.Proofs.Parse4Tables
/-!
# v4.0 parser proofs: the parser model as "lex, then run"

`parse40With hdr order zero set` is `Model.parse40` with the header, the order table, the zero object and the `Set`
function as parameters (`parse40_eq`, by `rfl`); `parseK K` is its instance at the regenerated header/order and the
`zero`/`set` of a `Contract`. The element loop is split into cutting the elements at `:` and `runP`, the loop on
already-cut pairs returning `(object, remaining order)`: `Model.loop4 set els = finish (runP set (els.map cutColon))`.
On legal pairs the run is the fold of `Set`s along the order walk; at the first defect it fails with that defect's
error. `parseK_render` gives the parser on a string that *is* a rendering of pairs, `parseK_cases` on any byte string.
-/
namespace Proofs.P4
open Spec (Pair render SLASH COLON legal isMetric allLegal abvs)
open Model (Bytes O40 Res walk4 cutColon splitSlash)

def parse40With (hdr : Bytes) (order : List (List Bytes)) (zero : O40)
    (set : O40 → Bytes → Bytes → O40 × Go.Err) (s : Bytes) : Res O40 :=
  if Model.hasPrefix s hdr then
    match s.drop hdr.length with
    | [] => .err Model.eTooShort
    | c :: rest =>
      if c = Model.SLASH then Model.loop4 set (splitSlash rest) zero (Model.flatOrder order)
      else .err Model.eHeader
  else .err Model.eHeader

theorem parse40_eq : Model.parse40 = parse40With GenV40.const_header GenV40.tbl_order O40.zero O40.set := rfl

def parseK (K : Contract O40 Spec.V4.metrics) : Bytes → Res O40 :=
  parse40With GenV40.const_header GenV40.tbl_order K.zero K.set

theorem parse40_eq_parseK (K : Contract O40 Spec.V4.metrics) (hz : K.zero = O40.zero) (hs : K.set = O40.set) :
    Model.parse40 = parseK K := by
  rw [parse40_eq, parseK, hz, hs]

/-- the order the walk starts from -/
abbrev ord0 : Ord := mk (abvs Spec.V4.base) (abvs Spec.V4.optional)

def runP (set : O40 → Bytes → Bytes → O40 × Go.Err) : List Pair → O40 → Ord → Except Go.Err (O40 × Ord)
  | [], c, ord => .ok (c, ord)
  | p :: rest, c, ord =>
    match walk4 ord p.1 with
    | none => .error Model.eOrder
    | some ord' =>
      match set c p.1 p.2 with
      | (c', e) => if e = Go.errNil then runP set rest c' ord' else .error e

/-- the end of the loop: still inside the base group ⇒ `ErrTooShortVector` -/
def finish : Except Go.Err (O40 × Ord) → Res O40
  | .error e => .err e
  | .ok (c, ord) => if ord.any (·.1) then .err Model.eTooShort else .ok c

theorem loop4_eq (set : O40 → Bytes → Bytes → O40 × Go.Err) : ∀ (els : List Bytes) (c : O40) (ord : Ord),
    Model.loop4 set els c ord = finish (runP set (els.map cutColon) c ord)
  | [], c, ord => by simp [Model.loop4, runP, finish]
  | el :: rest, c, ord => by
    simp only [Model.loop4, List.map_cons, runP]
    cases walk4 ord (cutColon el).1 with
    | none => rfl
    | some o =>
      simp only
      cases set c (cutColon el).1 (cutColon el).2 with
      | mk c' e =>
        simp only
        by_cases he : e = Go.errNil
        · simp only [he, if_true]; exact loop4_eq set rest c' o
        · simp only [he, if_false]; rfl

/-- which errors the loop returns: its own two sentinels, or whatever non-nil error `Set` returned -/
theorem loop4_err (set : O40 → Bytes → Bytes → O40 × Go.Err) : ∀ (els : List Bytes) (c : O40) (ord : Ord) (e : Go.Err),
    Model.loop4 set els c ord = .err e →
    e = Model.eTooShort ∨ e = Model.eOrder ∨ ∃ c a v, e = (set c a v).2 ∧ e ≠ Go.errNil
  | [], c, ord, e, h => by
    simp only [Model.loop4] at h
    split at h
    · cases h; exact Or.inl rfl
    · cases h
  | el :: rest, c, ord, e, h => by
    simp only [Model.loop4] at h
    split at h
    · cases h; exact Or.inr (Or.inl rfl)
    · split at h
      · exact loop4_err set rest _ _ e h
      · rename_i hne; cases h; exact Or.inr (Or.inr ⟨_, _, _, rfl, hne⟩)

theorem finish_ne_panic (r : Except Go.Err (O40 × Ord)) : finish r ≠ .panic := by
  unfold finish
  split
  · simp
  · split <;> simp

theorem runP_cons (set : O40 → Bytes → Bytes → O40 × Go.Err) (p : Pair) (rest : List Pair) (c : O40) (ord : Ord) :
    runP set (p :: rest) c ord =
      match walk4 ord p.1 with
      | none => .error Model.eOrder
      | some ord' => if (set c p.1 p.2).2 = Go.errNil then runP set rest (set c p.1 p.2).1 ord' else .error (set c p.1 p.2).2 := by
  rw [runP]

theorem runP_append (set : O40 → Bytes → Bytes → O40 × Go.Err) : ∀ (xs ys : List Pair) (c : O40) (ord : Ord),
    runP set (xs ++ ys) c ord =
      match runP set xs c ord with
      | .error e => .error e
      | .ok (c', ord') => runP set ys c' ord'
  | [], ys, c, ord => by simp [runP]
  | p :: xs, ys, c, ord => by
    rw [List.cons_append, runP_cons, runP_cons]
    cases walk4 ord p.1 with
    | none => rfl
    | some o =>
      simp only
      by_cases he : (set c p.1 p.2).2 = Go.errNil
      · simp only [he, if_true]; exact runP_append set xs ys _ o
      · simp only [he, if_false]

section K
variable (K : Contract O40 Spec.V4.metrics)

def setAll (c : O40) (w : List Pair) : O40 := w.foldl (fun c p => (K.set c p.1 p.2).1) c

@[simp] theorem setAll_nil (c : O40) : setAll K c [] = c := rfl

theorem runP_good : ∀ (w : List Pair) (c : O40) (ord o : Ord), allLegal Spec.V4.metrics w →
    walkAll ord (w.map (·.1)) = some o → runP K.set w c ord = .ok (K.setAll c w, o)
  | [], c, ord, o, _, h => by
    simp only [List.map_nil, walkAll_nil, Option.some.injEq] at h
    subst h; rfl
  | p :: w, c, ord, o, hl, h => by
    rw [List.map_cons, walkAll_cons] at h
    rw [runP_cons]
    cases hw : walk4 ord p.1 with
    | none => rw [hw] at h; simp at h
    | some o1 =>
      rw [hw] at h
      simp only [Option.bind_some] at h
      simp only
      rw [if_pos ((K.set_ok_iff c p.1 p.2).mpr (hl p (by simp)))]
      exact runP_good w _ o1 o (fun q hq => hl q (List.mem_cons_of_mem _ hq)) h

theorem runP_ok : ∀ (w : List Pair) (c : O40) (ord : Ord) (c' : O40) (o : Ord),
    runP K.set w c ord = .ok (c', o) →
    allLegal Spec.V4.metrics w ∧ walkAll ord (w.map (·.1)) = some o ∧ c' = K.setAll c w
  | [], c, ord, c', o, h => by
    simp only [runP, Except.ok.injEq, Prod.mk.injEq] at h
    obtain ⟨rfl, rfl⟩ := h
    exact ⟨by intro p hp; simp at hp, by simp, rfl⟩
  | p :: w, c, ord, c', o, h => by
    rw [runP_cons] at h
    cases hw : walk4 ord p.1 with
    | none => rw [hw] at h; simp at h
    | some o1 =>
      rw [hw] at h
      simp only at h
      by_cases he : (K.set c p.1 p.2).2 = Go.errNil
      · rw [if_pos he] at h
        obtain ⟨h1, h2, h3⟩ := runP_ok w _ o1 c' o h
        refine ⟨?_, ?_, h3⟩
        · intro q hq
          rcases List.mem_cons.mp hq with e | e
          · subst e; exact (K.set_ok_iff c _ _).mp he
          · exact h1 q e
        · rw [List.map_cons, walkAll_cons, hw]; exact h2
      · rw [if_neg he] at h; simp at h

theorem runP_order_err (pre : List Pair) (p : Pair) (post : List Pair) (c : O40) (ord : Ord)
    (hl : allLegal Spec.V4.metrics pre) (h : walkAll ord ((pre ++ [p]).map (·.1)) = none) :
    runP K.set (pre ++ p :: post) c ord = .error Model.eOrder := by
  rw [List.map_append, walkAll_append] at h
  cases hw : walkAll ord (pre.map (·.1)) with
  | none =>
    -- the walk already fails inside `pre`: peel the last good prefix
    clear h
    induction pre generalizing c ord with
    | nil => simp at hw
    | cons q pre ih =>
      rw [List.cons_append, runP_cons]
      rw [List.map_cons, walkAll_cons] at hw
      cases hq : walk4 ord q.1 with
      | none => rfl
      | some o1 =>
        rw [hq] at hw
        simp only [Option.bind_some] at hw
        simp only
        rw [if_pos ((K.set_ok_iff c q.1 q.2).mpr (hl q (by simp)))]
        exact ih _ o1 (fun x hx => hl x (List.mem_cons_of_mem _ hx)) hw
  | some mid =>
    rw [hw] at h
    simp only [Option.bind_some, List.map_cons, List.map_nil, walkAll_cons, walkAll_nil] at h
    rw [runP_append, runP_good K pre c ord mid hl hw]
    simp only
    rw [runP_cons]
    cases hp : walk4 mid p.1 with
    | none => rfl
    | some o => rw [hp] at h; simp at h

theorem runP_value_err (pre : List Pair) (p : Pair) (post : List Pair) (c : O40) (ord o : Ord)
    (hl : allLegal Spec.V4.metrics pre) (h : walkAll ord ((pre ++ [p]).map (·.1)) = some o)
    (hm : isMetric Spec.V4.metrics p.1 = true) (hv : legal Spec.V4.metrics p.1 p.2 = false) :
    runP K.set (pre ++ p :: post) c ord = .error Model.eValue := by
  rw [List.map_append, walkAll_append] at h
  cases hw : walkAll ord (pre.map (·.1)) with
  | none => rw [hw] at h; simp at h
  | some mid =>
    rw [hw] at h
    simp only [Option.bind_some, List.map_cons, List.map_nil, walkAll_cons, walkAll_nil] at h
    rw [runP_append, runP_good K pre c ord mid hl hw]
    simp only
    rw [runP_cons]
    cases hp : walk4 mid p.1 with
    | none => rw [hp] at h; simp at h
    | some o' =>
      simp only
      rw [K.set_illegal _ p.1 p.2 hm hv]
      rw [if_neg Contract.eValue_ne_nil]

theorem parseK_unfold (s : Bytes) : parseK K s =
    if Spec.V4.header.isPrefixOf s then
      match s.drop Spec.V4.header.length with
      | [] => .err Model.eTooShort
      | c :: rest =>
        if c = SLASH then finish (runP K.set ((Spec.splitSlash rest).map cutColon) K.zero ord0)
        else .err Model.eHeader
    else .err Model.eHeader := by
  unfold parseK parse40With Model.hasPrefix
  rw [header_eq, ord0_eq]
  simp only [loop4_eq, Lex.model_SLASH, Lex.model_splitSlash]

theorem isPrefixOf_append (h r : Bytes) : h.isPrefixOf (h ++ r) = true :=
  List.isPrefixOf_iff_prefix.mpr (List.prefix_append h r)

theorem parseK_header_append (r : Bytes) : parseK K (Spec.V4.header ++ r) =
    match r with
    | [] => .err Model.eTooShort
    | c :: rest =>
      if c = SLASH then finish (runP K.set ((Spec.splitSlash rest).map cutColon) K.zero ord0)
      else .err Model.eHeader := by
  rw [parseK_unfold, if_pos (isPrefixOf_append _ _), List.drop_left]
  cases r <;> rfl

/-- a pair that splitting at `/` and cutting at `:` give back unchanged -/
def Lexable (p : Pair) : Prop := COLON ∉ p.1 ∧ SLASH ∉ render p

theorem lex_of_legal {p : Pair} (h : legal Spec.V4.metrics p.1 p.2 = true) : Lexable p := by
  obtain ⟨h1, h2, h3, _⟩ := good.legal_clean h
  exact ⟨h1, Lex.render_noslash h2 h3⟩

theorem parseK_render (w : List Pair) (h : ∀ q ∈ w, Lexable q) :
    parseK K (Spec.V4.header ++ body w) = finish (runP K.set w K.zero ord0) := by
  rw [parseK_header_append]
  cases w with
  | nil => rfl
  | cons p w =>
    rw [body_eq (by simp)]
    simp only [if_true]
    rw [Lex.splitSlash_join_render (by simp) (fun q hq => (h q hq).2), Lex.map_cutColon_render (fun q hq => (h q hq).1)]

theorem parseK_cases (s : Bytes) :
    (¬ Spec.V4.header <+: s ∧ parseK K s = .err Model.eHeader) ∨
    (s = Spec.V4.header ∧ parseK K s = .err Model.eTooShort) ∨
    (∃ c r, s = Spec.V4.header ++ c :: r ∧ c ≠ SLASH ∧ parseK K s = .err Model.eHeader) ∨
    (∃ r, s = Spec.V4.header ++ SLASH :: r ∧
      parseK K s = finish (runP K.set ((Spec.splitSlash r).map cutColon) K.zero ord0)) := by
  by_cases hp : Spec.V4.header.isPrefixOf s = true
  · obtain ⟨t, rfl⟩ := List.isPrefixOf_iff_prefix.mp hp
    right
    rw [parseK_header_append]
    cases t with
    | nil => left; exact ⟨by simp, rfl⟩
    | cons c r =>
      right
      by_cases hc : c = SLASH
      · right; subst hc; exact ⟨r, rfl, by simp⟩
      · left; exact ⟨c, r, rfl, hc, by simp [hc]⟩
  · left
    refine ⟨fun h => hp (List.isPrefixOf_iff_prefix.mpr h), ?_⟩
    rw [parseK_unfold, if_neg hp]

theorem parseK_ne_panic (s : Bytes) : parseK K s ≠ .panic := by
  rcases parseK_cases K s with ⟨_, h⟩ | ⟨_, h⟩ | ⟨_, _, _, _, h⟩ | ⟨_, _, h⟩
  · rw [h]; simp
  · rw [h]; simp
  · rw [h]; simp
  · rw [h]; exact finish_ne_panic _

end K
end Proofs.P4
