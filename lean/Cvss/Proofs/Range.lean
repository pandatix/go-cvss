/-!
# Reading one point off an evaluated table

The kernel tables are stated as `(List.range n).all p = true`, nested once per coordinate.
-/
namespace Proofs

theorem all_range {n : Nat} {p : Nat → Bool} (h : (List.range n).all p = true) {i : Nat} (hi : i < n) : p i = true :=
  List.all_eq_true.mp h i (List.mem_range.mpr hi)

end Proofs
