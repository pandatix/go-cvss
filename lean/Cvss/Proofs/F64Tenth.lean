import Cvss.Proofs.IEEE.Neg
import Cvss.Proofs.Score2Ok
import Cvss.Proofs.Score3CloseDef
/-!
# `F64.tenth k` is the double nearest `k/10`; the three decoders of a bit pattern agree

The score theorems (C03, C04, C05, C11) are stated as `score = F64.tenth K` with
`F64.tenth k := F64.div (F64.ofNat k) (F64.ofNat 10)`.  `tenth_nearest` says what that pattern is: for `k ≤ 100` it
decodes (`Spec.F64Val.ofBits`) to a finite `num/2^1075`, and every `Nat` decoding to another finite value is
strictly farther from `k/10`.  The kernel evaluates, for the 101 values of `k`, the pattern and its two neighbours
(pattern ∓ 1, `nearTable`); the monotonicity of the decoding (`F64Order.wp_lt_iff`) carries the comparison from the
neighbours to all patterns.  Nothing about the inside of `F64.div`/`F64.ofNat` is used: the results are evaluated
and shown nearest.  `negTenth_nearest` is the mirror image; `tenth_strictMono`, `tenth_le` order the patterns like
`k`.

Two other definitions decode a pattern into an exact number: `Proofs.Score2.toRat` (`Score2Ok.lean`, under
`closeTo`/`isNearest` of C05) and `Proofs.Score3.withinPow10` (`Score3CloseDef.lean`, under `within12` of C03).
`toRat_eq` and `withinPow10_iff` restate both on the value of `ofBits`, for every finite 64-bit pattern, by a
structural proof.  What stays trusted is `Spec.F64Val.ofBits` itself: that the decoding in `Spec/Rating.lean` is
IEEE-754 binary64.
-/
namespace F64Tenth
open Spec F64Order IEEE

/-- `F64Order.wp` written with the `Nat` primitives that the kernel evaluates by GMP -/
def wpN (a : Nat) : Nat :=
  F64.flet (Nat.div a F64.P52) fun e => F64.flet (Nat.mod a F64.P52) fun f =>
  cond (Nat.beq e 0) (Nat.mul f 2) (Nat.mul (Nat.add F64.P52 f) (Nat.shiftLeft 1 e))

theorem wpN_eq (a : Nat) : wpN a = wp a := by
  unfold wpN wp w
  rw [flet_eq, flet_eq]
  show cond (Nat.beq (a / P52) 0) ((a % P52) * 2) ((P52 + a % P52) * (1 <<< (a / P52))) = _
  by_cases h : a / P52 = 0
  · rw [h, if_pos rfl]; rfl
  · rw [if_neg h, Nat.one_shiftLeft]
    have : Nat.beq (a / P52) 0 = false := by
      cases hh : Nat.beq (a / P52) 0
      · rfl
      · rw [nbeq] at hh; exact absurd hh h
    rw [this]; rfl

def DEN : Nat := Nat.shiftLeft 1 1075
theorem DEN_eq : DEN = F64Val.den := by
  unfold DEN F64Val.den
  exact Nat.one_shiftLeft 1075

/-- `|v − t|` on naturals -/
def adist (v t : Nat) : Nat := Nat.add (Nat.sub v t) (Nat.sub t v)

/-- the facts about one `k`, with `a, v, b` = 10 × (value·den) of the patterns `x − 1, x, x + 1`, `t = k·den` -/
def nearC (k a v b t : Nat) : Bool :=
  Nat.blt a t && Nat.blt t b &&
  Nat.blt (adist v t) (Nat.sub t a) && Nat.blt (adist v t) (Nat.sub b t) &&
  Nat.ble (Nat.mul 2 (adist v t)) (Nat.sub b v) &&
  cond (Nat.beq v t) (Nat.beq (Nat.mod k 5) 0) (!(Nat.beq (Nat.mod k 5) 0))

/-- `x = F64.tenth k`: for `k = 0` it is `+0.0`; otherwise a positive finite pattern below the largest finite
    one, whose neighbours bracket `k/10` and are strictly farther from it -/
def nearB (k x : Nat) : Bool :=
  cond (Nat.beq k 0) (Nat.beq x 0)
    (Nat.blt 0 x && Nat.blt (Nat.succ x) PINF &&
      F64.flet (Nat.mul 10 (wpN (Nat.pred x))) fun a =>
      F64.flet (Nat.mul 10 (wpN x)) fun v =>
      F64.flet (Nat.mul 10 (wpN (Nat.succ x))) fun b =>
      F64.flet (Nat.mul k DEN) fun t => nearC k a v b t)

def nearOK (k : Nat) : Bool := F64.flet (F64.tenth k) (nearB k)

/-- kernel evaluation: 101 correctly rounded divisions and 300 decodings of ~1100-bit numbers -/
theorem nearTable : (List.range 101).all nearOK = true := by decide +kernel

def stepOK (k : Nat) : Bool := Nat.blt (F64.tenth k) (F64.tenth (Nat.succ k))
theorem stepTable : (List.range 100).all stepOK = true := by decide +kernel

theorem nearOK_of_le {k : Nat} (h : k ≤ 100) : nearOK k = true :=
  List.all_eq_true.mp nearTable k (List.mem_range.mpr (by omega))

theorem fin_cases (y : Nat) (m : Int) (h : F64Val.ofBits y = .fin m) :
    m ≤ 0 ∨ ∃ z, z < P63 ∧ m = (wp z : Int) := by
  obtain ⟨_, rfl⟩ := (ofBits_fin_iff y m).mp h
  unfold sv; split
  · exact Or.inr ⟨_, Nat.mod_lt _ (by decide), rfl⟩
  · exact Or.inl (by omega)

/-- `|10·num − k·den|`: the distance of `num/den` from `k/10`, scaled by `10·den` -/
def dist10 (num k : Int) : Nat := (10 * num - k * (F64Val.den : Int)).natAbs

/-- `x` denotes a finite number `num/2^1075`, and every pattern `y` denoting another finite number `m/2^1075` is
    strictly farther from `k/10`: `x` is **the** double nearest `k/10` (`|v − k/10| = dist10 v k / (10·2^1075)`) -/
def IsNearestTenth (x : Nat) (k : Int) : Prop :=
  ∃ num : Int, F64Val.ofBits x = .fin num ∧
    ∀ (y : Nat) (m : Int), F64Val.ofBits y = .fin m → m ≠ num → dist10 num k < dist10 m k

theorem IsNearestTenth.value_unique {x x' : Nat} {k : Int} (h : IsNearestTenth x k) (h' : IsNearestTenth x' k) :
    F64Val.ofBits x = F64Val.ofBits x' := by
  obtain ⟨n, hn, hmin⟩ := h
  obtain ⟨n', hn', hmin'⟩ := h'
  by_cases e : n' = n
  · rw [hn, hn', e]
  · have a := hmin x' n' hn' e
    have b := hmin' x n hn (fun h => e h.symm)
    omega

/-- from the two neighbours to all patterns -/
theorem nearest_of_neighbours (x : Nat) (t : Nat) (hx0 : 0 < x) (hx1 : x + 1 < PINF)
    (ha : 10 * wp (x - 1) < t) (hb : t < 10 * wp (x + 1))
    (da : adist (10 * wp x) t < t - 10 * wp (x - 1)) (db : adist (10 * wp x) t < 10 * wp (x + 1) - t)
    (y : Nat) (m : Int) (hy : F64Val.ofBits y = .fin m) (hne : m ≠ (wp x : Int)) :
    (10 * (wp x : Int) - (t : Int)).natAbs < (10 * m - (t : Int)).natAbs := by
  unfold adist at da db
  simp only [Nat.add_eq, Nat.sub_eq] at da db
  rcases fin_cases y m hy with h | ⟨z, hz, rfl⟩
  · omega
  · rcases Nat.lt_trichotomy z x with h | h | h
    · have : wp z ≤ wp (x - 1) := (wp_le_iff z (x - 1)).mp (by omega)
      omega
    · subst h; exact absurd rfl hne
    · have : wp (x + 1) ≤ wp z := (wp_le_iff (x + 1) z).mp (by omega)
      omega

structure Facts (k x : Nat) : Prop where
  pos : 0 < x
  fin : x + 1 < PINF
  lo : 10 * wp (x - 1) < k * F64Val.den
  hi : k * F64Val.den < 10 * wp (x + 1)
  dlo : adist (10 * wp x) (k * F64Val.den) < k * F64Val.den - 10 * wp (x - 1)
  dhi : adist (10 * wp x) (k * F64Val.den) < 10 * wp (x + 1) - k * F64Val.den
  ulp : 2 * adist (10 * wp x) (k * F64Val.den) ≤ 10 * wp (x + 1) - 10 * wp x
  exact : 10 * wp x = k * F64Val.den ↔ k % 5 = 0

theorem tenth_zero : F64.tenth 0 = 0 := by
  have h := nearOK_of_le (k := 0) (by omega)
  unfold nearOK nearB at h
  rw [flet_eq] at h
  exact Nat.eq_of_beq_eq_true h

theorem facts {k : Nat} (hk : k ≤ 100) (hk0 : k ≠ 0) : Facts k (F64.tenth k) := by
  have h := nearOK_of_le hk
  unfold nearOK nearB at h
  have k0 : Nat.beq k 0 = false := by
    cases hh : Nat.beq k 0
    · rfl
    · rw [nbeq] at hh; exact absurd hh hk0
  rw [flet_eq, k0, cond_false] at h
  generalize F64.tenth k = x at h
  simp only [flet_eq, wpN_eq, DEN_eq, nearC, Bool.and_eq_true, Nat.blt_eq, Nat.ble_eq, Nat.mul_eq,
    Nat.sub_eq, Nat.succ_eq_add_one, Nat.pred_eq_sub_one] at h
  obtain ⟨⟨h1, h2⟩, ⟨⟨⟨⟨h3, h4⟩, h5⟩, h6⟩, h7⟩, h8⟩ := h
  refine ⟨h1, h2, h3, h4, h5, h6, h7, ?_⟩
  cases hv : Nat.beq (10 * wp x) (k * F64Val.den) <;> rw [hv] at h8
  · rw [cond_false, Bool.not_eq_true', ← Bool.not_eq_true, nbeq] at h8
    have : ¬ (10 * wp x = k * F64Val.den) := by rw [← nbeq, hv]; decide
    exact ⟨fun h => absurd h this, fun h => absurd h h8⟩
  · rw [cond_true, nbeq] at h8
    rw [nbeq] at hv
    exact ⟨fun _ => h8, fun _ => hv⟩

theorem tenth_lt_PINF {k : Nat} (hk : k ≤ 100) : F64.tenth k < PINF := by
  by_cases h0 : k = 0
  · subst h0; rw [tenth_zero]; decide
  · have := (facts hk h0).fin; omega

theorem tenth_val {k : Nat} (hk : k ≤ 100) :
    F64Val.ofBits (F64.tenth k) = .fin (wp (F64.tenth k) : Int) :=
  ofBits_pos _ (tenth_lt_PINF hk)

theorem natCast_kden (k : Nat) : ((k : Nat) : Int) * (F64Val.den : Int) = ((k * F64Val.den : Nat) : Int) :=
  (Int.natCast_mul k F64Val.den).symm

theorem tenth_nearest : ∀ k : Nat, k ≤ 100 → IsNearestTenth (F64.tenth k) k := by
  intro k hk
  refine ⟨_, tenth_val hk, ?_⟩
  intro y m hy hne
  unfold dist10
  rw [natCast_kden]
  by_cases h0 : k = 0
  · subst h0
    rw [tenth_zero, wp_zero] at hne ⊢
    omega
  · have f := facts hk h0
    exact nearest_of_neighbours _ _ f.pos f.fin f.lo f.hi f.dlo f.dhi y m hy hne

theorem tenth_nonneg {k : Nat} (hk : k ≤ 100) :
    ∃ num : Int, F64Val.ofBits (F64.tenth k) = .fin num ∧ 0 ≤ num ∧ F64.tenth k < 2^63 ∧
      F64.isFin (F64.tenth k) = true := by
  refine ⟨_, tenth_val hk, Int.natCast_nonneg _, ?_, ?_⟩
  · have := tenth_lt_PINF hk; simp only [PINF] at this; omega
  · unfold F64.isFin
    have h := tenth_lt_PINF hk
    rw [Nat.blt_eq, ebits_lt_iff, Nat.mod_eq_of_lt (Nat.lt_trans h (by decide))]
    exact h

theorem fin_neg (y : Nat) (m : Int) (h : F64Val.ofBits y = .fin m) : ∃ y', F64Val.ofBits y' = .fin (-m) := by
  obtain ⟨hlt, rfl⟩ := (ofBits_fin_iff y m).mp h
  have hs := signBit_le y
  exact ⟨_, by rw [ofBits_pack_fin (1 - signBit y) _ (by omega) hlt, sv_flip _ _ hs]⟩

theorem dist10_neg (m k : Int) : dist10 (-m) (-k) = dist10 m k := by
  unfold dist10
  rw [Int.neg_mul]
  generalize k * (F64Val.den : Int) = t
  omega

theorem IsNearestTenth.neg {x : Nat} {k : Int} (h : IsNearestTenth x k) (hx : x < F64.P63) :
    IsNearestTenth (F64.neg x) (-k) := by
  obtain ⟨n, hn, hmin⟩ := h
  refine ⟨-n, neg_fin x n (Nat.lt_trans hx (by decide)) hn, ?_⟩
  intro y m hy hne
  obtain ⟨y', hy'⟩ := fin_neg y m hy
  have := hmin y' (-m) hy' (by omega)
  rw [← dist10_neg n k, ← dist10_neg (-m) k, Int.neg_neg] at this
  exact this

/-- for `k = 0` the pattern is `−0.0`, which denotes the number 0 -/
theorem negTenth_nearest : ∀ k : Nat, k ≤ 100 → IsNearestTenth (F64.negTenth k) (-(k : Int)) := by
  intro k hk
  have h := (tenth_nearest k hk).neg (by
    have := tenth_lt_PINF hk; simp only [PINF, F64.P63] at this ⊢; omega)
  exact h

theorem negTenth_zero : F64.negTenth 0 = Proofs.Score2.NEG0 := by
  unfold F64.negTenth
  rw [tenth_zero]
  decide


theorem tenth_step {k : Nat} (hk : k < 100) : F64.tenth k < F64.tenth (k + 1) := by
  have := List.all_eq_true.mp stepTable k (List.mem_range.mpr hk)
  unfold stepOK at this
  rw [Nat.blt_eq] at this
  exact this

theorem tenth_strictMono {k₁ k₂ : Nat} (h : k₁ < k₂) (h2 : k₂ ≤ 100) : F64.tenth k₁ < F64.tenth k₂ := by
  induction k₂ with
  | zero => omega
  | succ n ih =>
    have s := tenth_step (k := n) (by omega)
    by_cases e : k₁ = n
    · subst e; exact s
    · have := ih (by omega) (by omega); omega

theorem tenth_val_lt {k₁ k₂ : Nat} (h : k₁ < k₂) (h2 : k₂ ≤ 100) :
    F64Val.lt (F64Val.ofBits (F64.tenth k₁)) (F64Val.ofBits (F64.tenth k₂)) := by
  rw [tenth_val (k := k₁) (by omega), tenth_val h2]
  show (wp _ : Int) < (wp _ : Int)
  have := wp_strict (tenth_strictMono h h2)
  omega

theorem tenth_val_le {k₁ k₂ : Nat} (h : k₁ ≤ k₂) (h2 : k₂ ≤ 100) :
    F64Val.le (F64Val.ofBits (F64.tenth k₁)) (F64Val.ofBits (F64.tenth k₂)) := by
  rw [tenth_val (k := k₁) (by omega), tenth_val h2]
  show (wp _ : Int) ≤ (wp _ : Int)
  by_cases e : k₁ = k₂
  · subst e; omega
  · have := wp_strict (tenth_strictMono (k₁ := k₁) (k₂ := k₂) (by omega) h2)
    omega

theorem tenth_lt_P64 {k : Nat} (hk : k ≤ 100) : F64.tenth k < P64 := by
  have := tenth_lt_PINF hk; simp only [PINF, P64] at this ⊢; omega

theorem tenth_le {k₁ k₂ : Nat} (h1 : k₁ ≤ 100) (h2 : k₂ ≤ 100) :
    F64.le (F64.tenth k₁) (F64.tenth k₂) = decide (k₁ ≤ k₂) := by
  rw [le_eq_spec _ _ (tenth_lt_P64 h1) (tenth_lt_P64 h2)]
  by_cases h : k₁ ≤ k₂
  · rw [decide_eq_true h, decide_eq_true (tenth_val_le h h2)]
  · rw [decide_eq_false h, decide_eq_false]
    intro hle
    have hlt := tenth_val_lt (k₁ := k₂) (k₂ := k₁) (by omega) h1
    rw [tenth_val h1, tenth_val h2] at hlt hle
    have a : (wp (F64.tenth k₂) : Int) < (wp (F64.tenth k₁) : Int) := hlt
    have b : (wp (F64.tenth k₁) : Int) ≤ (wp (F64.tenth k₂) : Int) := hle
    omega

/-- the decoded numerator of a finite pattern, through the soft-float's accessors -/
theorem fin_num (x : Nat) (hx : x < 2^64) (num : Int) (h : F64Val.ofBits x = .fin num) :
    num = (if x < F64.P63 then (1 : Int) else -1) *
      ((F64.mant x (F64.ebits x) * 2 ^ F64.exf (F64.ebits x) : Nat) : Int) := by
  obtain ⟨_, d⟩ := decode x num hx h
  have hb := d.bits; have hp := d.pat_lt; have hs := d.s_le
  have hlt : x < F64.P63 ↔ sgn x = 0 := by simp only [P63, PINF, F64.P63] at *; omega
  rw [d.sv_eq]
  unfold sv
  split
  · rw [if_pos (hlt.mpr ‹_›), Int.one_mul]
  · rw [if_neg (fun h => ‹¬ _› (hlt.mp h)), Int.neg_mul, Int.one_mul]

theorem zpow_split (E : Nat) : (2:Rat)^((E:Int) - 1075) = (2:Rat)^E / (2:Rat)^(1075:Nat) := by
  rw [Int.sub_eq_add_neg, Rat.zpow_add (by decide), Rat.zpow_neg, Rat.zpow_natCast, Rat.div_def,
    ← Rat.zpow_natCast 2 1075]
  rfl

set_option exponentiation.threshold 1100 in
theorem den_cast : ((F64Val.den : Nat) : Rat) = (2:Rat)^(1075:Nat) := by
  exact (Rat.natCast_pow 2 1075).trans (congrArg (· ^ (1075 : Nat)) Rat.natCast_ofNat)

theorem toRat_eq (x : Nat) (hx : x < 2^64) (num : Int) (h : F64Val.ofBits x = .fin num) :
    Proofs.Score2.toRat x = (num : Rat) / ((F64Val.den : Nat) : Rat) := by
  have hn := fin_num x hx num h
  unfold Proofs.Score2.toRat
  rw [hn, zpow_split, den_cast, Rat.intCast_mul, Rat.intCast_natCast, Rat.natCast_mul, Rat.natCast_pow]
  by_cases hs : x < F64.P63
  · rw [if_pos hs, if_pos hs]
    show _ = ((1:Int):Rat) * _ / _
    rw [Rat.intCast_one]
    show _ * _ * (_ / _) = 1 * (_ * ((2:Nat):Rat) ^ _) / _
    rw [Rat.natCast_ofNat]
    grind
  · rw [if_neg hs, if_neg hs]
    show _ = ((-1:Int):Rat) * _ / _
    rw [Rat.intCast_neg, Rat.intCast_one]
    show _ * _ * (_ / _) = -1 * (_ * ((2:Nat):Rat) ^ _) / _
    rw [Rat.natCast_ofNat]
    grind


theorem isFin_iff_fin (x : Nat) (_hx : x < 2^64) : F64.isFin x = true ↔ ∃ num, F64Val.ofBits x = .fin num := by
  unfold F64.isFin
  rw [Nat.blt_eq, ebits_lt_iff]
  exact ⟨fun h => ⟨_, (ofBits_fin_iff x _).mpr ⟨h, rfl⟩⟩, fun ⟨num, h⟩ => ((ofBits_fin_iff x num).mp h).1⟩

set_option exponentiation.threshold 1100 in
theorem scale_split (E : Nat) : ∃ c : Nat, 0 < c ∧ 2^E = 2^(E-1075) * c ∧ 2^1075 = 2^(1075-E) * c := by
  by_cases h : E ≤ 1075
  · refine ⟨2^E, Nat.two_pow_pos _, ?_, ?_⟩
    · rw [Nat.sub_eq_zero_of_le h, Nat.pow_zero, Nat.one_mul]
    · rw [← Nat.pow_add]; congr 1; omega
  · refine ⟨F64Val.den, Nat.two_pow_pos 1075, ?_, ?_⟩
    · unfold F64Val.den; rw [← Nat.pow_add]; congr 1; omega
    · unfold F64Val.den; rw [Nat.sub_eq_zero_of_le (by omega), Nat.pow_zero, Nat.one_mul]

theorem within_core (v n : Int) (c Bp T P : Nat) (hc : 0 < c) :
    ((v * (c : Int)) * (T : Int) - n * ((Bp * c : Nat) : Int)).natAbs * P ≤ (Bp * c) * T ↔
      (v * (T : Int) - n * (Bp : Int)).natAbs * P ≤ Bp * T := by
  have e : (v * (c : Int)) * (T : Int) - n * ((Bp * c : Nat) : Int) = (c : Int) * (v * T - n * Bp) := by
    rw [Int.natCast_mul]; grind
  rw [e, Int.natAbs_mul, Int.natAbs_natCast]
  have : c * (v * (T : Int) - n * (Bp : Int)).natAbs * P ≤ Bp * c * T ↔
      c * ((v * (T : Int) - n * (Bp : Int)).natAbs * P) ≤ c * (Bp * T) := by
    rw [Nat.mul_assoc, Nat.mul_comm Bp c, Nat.mul_assoc]
  rw [this]; exact Nat.mul_le_mul_left_iff hc

/-- the inequality decided by `withinPow10` is the closeness of the decoded value, denominators cleared -/
theorem within_ineq (d x : Nat) (hx : x < 2^64) (n : Int) (e : Nat) (num : Int) (h : F64Val.ofBits x = .fin num) :
    ((if F64.P63 ≤ x then -((F64.mant x (F64.ebits x) * 2 ^ (F64.exf (F64.ebits x) - 1075) : Nat) : Int)
        else ((F64.mant x (F64.ebits x) * 2 ^ (F64.exf (F64.ebits x) - 1075) : Nat) : Int)) * ((10 ^ e : Nat) : Int)
        - n * ((2 ^ (1075 - F64.exf (F64.ebits x)) : Nat) : Int)).natAbs * 10 ^ d
      ≤ 2 ^ (1075 - F64.exf (F64.ebits x)) * 10 ^ e ↔
    (num * ((10^e : Nat) : Int) - n * ((F64Val.den : Nat) : Int)).natAbs * 10^d ≤ F64Val.den * 10^e := by
  have hn := fin_num x hx num h
  obtain ⟨c, hc, h1, h2⟩ := scale_split (F64.exf (F64.ebits x))
  generalize F64.exf (F64.ebits x) = E at *
  generalize F64.mant x (F64.ebits x) = m at *
  unfold F64Val.den
  rw [h2]
  rw [h1] at hn
  generalize (2:Nat) ^ (E - 1075) = A at *
  generalize (2:Nat) ^ (1075 - E) = Bp at *
  generalize (10:Nat) ^ e = T at *
  have hv : num = (if F64.P63 ≤ x then -((m * A : Nat) : Int) else ((m * A : Nat) : Int)) * (c : Int) := by
    rw [hn]
    by_cases hs : x < F64.P63
    · rw [if_pos hs, if_neg (by omega), ← Nat.mul_assoc, Int.natCast_mul (m * A) c, Int.one_mul]
    · rw [if_neg hs, if_pos (by omega), ← Nat.mul_assoc, Int.natCast_mul (m * A) c, Int.neg_mul, Int.neg_mul,
        Int.one_mul]
  rw [hv]
  exact (within_core _ n c Bp T (10 ^ d) hc).symm

/-- `|num/2^1075 − n/10^e| ≤ 10^-d`, written without fractions as `|num·10^e − n·2^1075| · 10^d ≤ 2^1075 · 10^e` -/
theorem withinPow10_iff (d x : Nat) (hx : x < 2^64) (n : Int) (e : Nat) :
    Proofs.Score3.withinPow10 d x (n, e) = true ↔ ∃ num : Int, F64Val.ofBits x = .fin num ∧
      (num * ((10^e : Nat) : Int) - n * ((F64Val.den : Nat) : Int)).natAbs * 10^d ≤ F64Val.den * 10^e := by
  unfold Proofs.Score3.withinPow10
  simp only [Bool.and_eq_true, decide_eq_true_eq]
  constructor
  · rintro ⟨hf, hi⟩
    obtain ⟨num, h⟩ := (isFin_iff_fin x hx).mp hf
    exact ⟨num, h, (within_ineq d x hx n e num h).mp hi⟩
  · rintro ⟨num, h, hi⟩
    exact ⟨(isFin_iff_fin x hx).mpr ⟨num, h⟩, (within_ineq d x hx n e num h).mpr hi⟩

theorem closeTo_iff (fl : Nat) (hfl : fl < 2^64) (x : Rat) :
    Proofs.Score2.closeTo fl x = true ↔ ∃ num : Int, F64Val.ofBits fl = .fin num ∧
      (num : Rat) / ((F64Val.den : Nat) : Rat) - x ≤ 1 / 1000000000000 ∧
      -((num : Rat) / ((F64Val.den : Nat) : Rat) - x) ≤ 1 / 1000000000000 := by
  unfold Proofs.Score2.closeTo
  rw [Proofs.Score2.forceRat_eq]
  simp only [Bool.and_eq_true, decide_eq_true_eq]
  constructor
  · rintro ⟨hf, hi⟩
    obtain ⟨num, h⟩ := (isFin_iff_fin fl hfl).mp hf
    rw [toRat_eq fl hfl num h] at hi
    exact ⟨num, h, hi⟩
  · rintro ⟨num, h, hi⟩
    rw [← toRat_eq fl hfl num h] at hi
    exact ⟨(isFin_iff_fin fl hfl).mpr ⟨num, h⟩, hi⟩

theorem rat_mul_le_iff {a b c : Rat} (hc : 0 < c) : a ≤ b ↔ a * c ≤ b * c :=
  ⟨fun h => Rat.mul_le_mul_of_nonneg_right h (Rat.le_of_lt hc), fun h => Rat.le_of_mul_le_mul_right h hc⟩

theorem rat_le_iff (num n : Int) (D T P : Nat) (hD : 0 < D) (hT : 0 < T) (hP : 0 < P) :
    (num : Rat) / (D : Rat) - (n : Rat) / (T : Rat) ≤ 1 / (P : Rat) ↔
      (num * (T : Int) - n * (D : Int)) * (P : Int) ≤ ((D * T : Nat) : Int) := by
  have hD' : (0 : Rat) < (D : Rat) := Rat.natCast_pos.mpr hD
  have hT' : (0 : Rat) < (T : Rat) := Rat.natCast_pos.mpr hT
  have hP' : (0 : Rat) < (P : Rat) := Rat.natCast_pos.mpr hP
  have hK : (0 : Rat) < (D : Rat) * (T : Rat) * (P : Rat) := Rat.mul_pos (Rat.mul_pos hD' hT') hP'
  have e1 : (num : Rat) / (D : Rat) * (D : Rat) = num := Rat.div_mul_cancel (Rat.ne_of_gt hD')
  have e2 : (n : Rat) / (T : Rat) * (T : Rat) = n := Rat.div_mul_cancel (Rat.ne_of_gt hT')
  have e3 : (1 : Rat) / (P : Rat) * (P : Rat) = 1 := Rat.div_mul_cancel (Rat.ne_of_gt hP')
  rw [rat_mul_le_iff hK, ← Rat.intCast_le_intCast]
  have l : ((num : Rat) / (D : Rat) - (n : Rat) / (T : Rat)) * ((D : Rat) * (T : Rat) * (P : Rat)) =
      (((num * (T : Int) - n * (D : Int)) * (P : Int) : Int) : Rat) := by
    rw [Rat.intCast_mul, Rat.intCast_sub, Rat.intCast_mul, Rat.intCast_mul, Rat.intCast_natCast,
      Rat.intCast_natCast, Rat.intCast_natCast]
    generalize (num : Rat) / (D : Rat) = a at *
    generalize (n : Rat) / (T : Rat) = q at *
    rw [← e1, ← e2]
    grind
  have r : (1 : Rat) / (P : Rat) * ((D : Rat) * (T : Rat) * (P : Rat)) = (((D * T : Nat) : Int) : Rat) := by
    rw [Rat.intCast_natCast, Rat.natCast_mul]
    generalize (1 : Rat) / (P : Rat) = u at *
    have : u * ((D : Rat) * (T : Rat) * (P : Rat)) = (u * (P : Rat)) * ((D : Rat) * (T : Rat)) := by grind
    rw [this, e3, Rat.one_mul]
  rw [l, r]

theorem abs_clear (num n : Int) (D T P : Nat) (hD : 0 < D) (hT : 0 < T) (hP : 0 < P) :
    (num * (T : Int) - n * (D : Int)).natAbs * P ≤ D * T ↔
      ((num : Rat) / (D : Rat) - (n : Rat) / (T : Rat) ≤ 1 / (P : Rat) ∧
       -((num : Rat) / (D : Rat) - (n : Rat) / (T : Rat)) ≤ 1 / (P : Rat)) := by
  have hneg : -((num : Rat) / (D : Rat) - (n : Rat) / (T : Rat)) =
      ((-num : Int) : Rat) / (D : Rat) - ((-n : Int) : Rat) / (T : Rat) := by
    rw [Rat.intCast_neg, Rat.intCast_neg]; grind
  rw [hneg, rat_le_iff num n D T P hD hT hP, rat_le_iff (-num) (-n) D T P hD hT hP]
  have e : (-num * (T : Int) - -n * (D : Int)) * (P : Int) = -((num * (T : Int) - n * (D : Int)) * (P : Int)) := by
    grind
  rw [e]
  have a : (num * (T : Int) - n * (D : Int)).natAbs * P = ((num * (T : Int) - n * (D : Int)) * (P : Int)).natAbs := by
    rw [Int.natAbs_mul, Int.natAbs_natCast]
  rw [a]
  generalize (num * (T : Int) - n * (D : Int)) * (P : Int) = Z
  generalize D * T = W
  omega

theorem withinPow10_iff_rat (d x : Nat) (hx : x < 2^64) (n : Int) (e : Nat) :
    Proofs.Score3.withinPow10 d x (n, e) = true ↔ ∃ num : Int, F64Val.ofBits x = .fin num ∧
      (num : Rat) / ((F64Val.den : Nat) : Rat) - (n : Rat) / ((10^e : Nat) : Rat) ≤ 1 / ((10^d : Nat) : Rat) ∧
      -((num : Rat) / ((F64Val.den : Nat) : Rat) - (n : Rat) / ((10^e : Nat) : Rat)) ≤ 1 / ((10^d : Nat) : Rat) := by
  rw [withinPow10_iff d x hx n e]
  have hD : 0 < F64Val.den := by unfold F64Val.den; exact Nat.two_pow_pos 1075
  have hT : 0 < 10^e := Nat.pow_pos (by decide)
  have hP : 0 < 10^d := Nat.pow_pos (by decide)
  constructor
  · rintro ⟨num, h, hi⟩
    exact ⟨num, h, (abs_clear num n _ _ _ hD hT hP).mp hi⟩
  · rintro ⟨num, h, hi⟩
    exact ⟨num, h, (abs_clear num n _ _ _ hD hT hP).mpr hi⟩

end F64Tenth
