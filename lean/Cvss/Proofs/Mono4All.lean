import Cvss.Proofs.Mono4Lists
import Cvss.Proofs.Score4TailAll
/-! On summaries taken from `S1 … S5` the Spec's `scoreOf` is `scoreSum` (the primitive form) and at least 1:
`Score4.point_all` at the listed points. -/
namespace Proofs.Mono4

theorem S1_ok : (S1.all fun s => s.1 < 3 && s.2 < Spec.V4.depth1P1 s.1) = true := by decide
theorem S2_ok : (S2.all fun s => s.1 < 2 && s.2 < Spec.V4.depth2P1 s.1) = true := by decide
theorem S36_ok : (S36.all fun s => s.1 < 3 && s.2.1 < 2 && !(s.1 == 2 && s.2.1 == 0) &&
    s.2.2 < Spec.V4.depth36P1 s.1 s.2.1) = true := by decide
theorem S4_ok : (S4.all fun s => s.1 < 3 && s.2 < Spec.V4.depth4P1 s.1) = true := by decide

theorem bridge_sum {s1 s2 : Nat × Nat} {s36 : Nat × Nat × Nat} {s4 : Nat × Nat} {q5 : Nat}
    (m1 : s1 ∈ S1) (m2 : s2 ∈ S2) (m36 : s36 ∈ S36) (m4 : s4 ∈ S4) (m5 : q5 ∈ S5) :
    Spec.V4.scoreOf (s1.1, s2.1, s36.1, s4.1, q5, s36.2.1) s1.2 s2.2 s36.2.2 s4.2 0 = scoreSum s1 s2 s36 s4 q5 ∧
      1 ≤ scoreSum s1 s2 s36 s4 q5 := by
  have b1 := List.all_eq_true.mp S1_ok _ m1
  have b2 := List.all_eq_true.mp S2_ok _ m2
  have b36 := List.all_eq_true.mp S36_ok _ m36
  have b4 := List.all_eq_true.mp S4_ok _ m4
  simp only [Bool.and_eq_true, decide_eq_true_eq, Bool.not_eq_true', Bool.and_eq_false_iff, beq_eq_false_iff_ne] at b1 b2 b36 b4
  have b5 : q5 < 3 := by
    simp only [S5, List.mem_cons, List.not_mem_nil, or_false] at m5; omega
  exact (Proofs.Score4.point_all b1.1 b2.1 b36.1.1.1 b4.1 b5 b36.1.1.2
    (by intro ⟨a, b⟩; rcases b36.1.2 with h | h <;> simp_all) b1.2 b2.2 b36.2 b4.2).2

end Proofs.Mono4
