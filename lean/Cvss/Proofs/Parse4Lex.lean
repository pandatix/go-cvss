import Cvss.Proofs.Contract
import Cvss.Proofs.Lex
/-!
# v4.0 parser proofs: the v4 body spelling `body w = "/a₁:v₁/a₂:v₂…"`
-/
namespace Proofs.P4
open Spec (Pair render SLASH COLON)
open Model (Bytes)

theorem mcolon : Model.COLON = COLON := rfl

/-- the part of a v4 vector after the header: every element preceded by `/` -/
def body (w : List Pair) : Bytes := (w.map (fun p => SLASH :: render p)).flatten

@[simp] theorem body_nil : body [] = [] := rfl
@[simp] theorem body_cons (p : Pair) (w : List Pair) : body (p :: w) = SLASH :: (render p ++ body w) := by
  simp [body]

theorem body_append (w₁ w₂ : List Pair) : body (w₁ ++ w₂) = body w₁ ++ body w₂ := by
  simp [body]

theorem body_eq {w : List Pair} (hne : w ≠ []) : body w = SLASH :: Spec.joinSlash (w.map render) := by
  have := Lex.flatten_slash (xs := w.map render) (by simpa using hne)
  rw [List.map_map] at this
  exact this

theorem mem_splitSlash_noslash : ∀ (r : Bytes) (el : Bytes), el ∈ Model.splitSlash r → SLASH ∉ el :=
  fun r _ h => Lex.mem_splitSlash (Lex.model_splitSlash r ▸ h)

theorem cutColon_fst_nocolon : ∀ el : Bytes, COLON ∉ (Model.cutColon el).1 := Lex.cutColon_fst

end Proofs.P4
