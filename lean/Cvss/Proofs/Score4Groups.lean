import Cvss.Proofs.Score4Loops
import Cvss.Proofs.Score4MV
import Cvss.Proofs.Score4Reads
import Cvss.Spec.V4
/-!
# v4.0 score: the per-EQ enumerations (generated code against the Spec, on codes)

For every tuple of codes one EQ group reads:
* the generated MacroVector component equals the Spec's level on the value strings,
* a highest severity vector of that level passes the generated filter (`lastSat`/`find?` is `some x`), and
  the generated payload (sum of `severityDistance`s, floats) at the selected one is `F64.ofNat` of the Spec's
  severity distance,
* the Spec's distance is within the depth of the level, the level is in range.
Plus, per metric: the effective value (`mod_`) against `Spec.V4.orElse`, and the no-impact tests.
All by kernel evaluation of the generated definitions.
-/
namespace Proofs.Score4
open GenV40
open Proofs.B40 (nv code)
open Spec.V4 (orElse)

/-- `mod_ base modified` against the Spec's "Modified metric if defined, else the base metric" -/
def stOk (nmB nmM : Nat → List Nat) (nb b m : Nat) : Bool :=
  (orElse (nmM m) (nmB b) == nmB (mod_ b m)) && Nat.blt (mod_ b m) nb

theorem stOk_elim {nmB nmM : Nat → List Nat} {nb b m : Nat} (h : stOk nmB nmM nb b m = true) :
    orElse (nmM m) (nmB b) = nmB (mod_ b m) ∧ mod_ b m < nb := by
  unfold stOk at h
  simp only [Bool.and_eq_true, beq_iff_eq] at h
  exact ⟨h.1, Nat.le_of_ble_eq_true h.2⟩

/-- the base/Modified pairs `Score` reads through `mod_` only (indices in `Spec.V4.metrics`): AV, AC, AT, PR, UI, VC,
    VI, VA, SC with their Modified metrics. SI and SA are not among them: EQ4 also reads the raw MSI/MSA codes. -/
def pairs : List (Nat × Nat) := [(0, 15), (1, 16), (2, 17), (3, 18), (4, 19), (5, 20), (6, 21), (7, 22), (8, 23)]

theorem st_all : (pairs.all fun p => (List.range (nv p.1)).all fun b => (List.range (nv p.2)).all fun m =>
    stOk (gv p.1) (gv p.2) (nv p.1) b m) = true := by decide +kernel

theorem st {j jm b m : Nat} (hp : (j, jm) ∈ pairs) (hb : b < nv j) (hm : m < nv jm) :
    orElse (gv jm m) (gv j b) = gv j (mod_ b m) ∧ mod_ b m < nv j :=
  stOk_elim (all_range (all_range (List.all_eq_true.mp st_all _ hp) hb) hm)

theorem st_wf {c : Model.O40} (h : c.wf = true) {j jm : Nat} (hp : (j, jm) ∈ pairs) :
    orElse (gv jm (code jm c)) (gv j (code j c)) = gv j (mod_ (code j c) (code jm c)) ∧
      mod_ (code j c) (code jm c) < nv j :=
  have hj : ∀ p ∈ pairs, p.1 < 32 ∧ p.2 < 32 := by decide
  st hp (wf_codes h j (hj _ hp).1) (wf_codes h jm (hj _ hp).2)

/-- a highest severity vector was selected (`o`), its payload is the Spec's severity distance `d`, the generated
    level `e` is the Spec's level `e'`, the distance is within the depth `dp` of the level, the level below `n` -/
def selOk (o : Option Nat) (pay : Nat → Nat) (d e e' dp n : Nat) : Bool :=
  o.any fun x => Nat.beq (pay x) (F64.ofNat d) && Nat.beq e e' && Nat.blt d dp && Nat.blt e n

theorem selOk_elim {o : Option Nat} {pay : Nat → Nat} {d e e' dp n : Nat} (h : selOk o pay d e e' dp n = true) :
    ∃ x, o = some x ∧ pay x = F64.ofNat d ∧ e = e' ∧ d < dp ∧ e < n := by
  obtain ⟨x, hx, h⟩ := (Option.any_eq_true _ _).mp h
  simp only [Bool.and_eq_true] at h
  exact ⟨x, hx, Nat.eq_of_beq_eq_true h.1.1.1, Nat.eq_of_beq_eq_true h.1.1.2, Nat.le_of_ble_eq_true h.1.2,
    Nat.le_of_ble_eq_true h.2⟩

def chk1 (av pr ui : Nat) : Bool :=
  selOk (lastSat (fun x => !bad1 av pr ui x) (Go.idx (Go.idx tbl_highestSeverityVectors 1) (eq1c av pr ui)))
    (pay1 av pr ui) (Spec.V4.dist1 (nmAV av) (nmPR pr) (nmUI ui))
    (eq1c av pr ui) (Spec.V4.eq1 (nmAV av) (nmPR pr) (nmUI ui)) (Spec.V4.depth1P1 (eq1c av pr ui)) 3

theorem chk1_all : ((List.range 4).all fun av => (List.range 3).all fun pr => (List.range 3).all fun ui =>
    chk1 av pr ui) = true := by decide +kernel

theorem g1 {av pr ui : Nat} (ha : av < 4) (hp : pr < 3) (hu : ui < 3) :
    ∃ x, lastSat (fun x => !bad1 av pr ui x) (Go.idx (Go.idx tbl_highestSeverityVectors 1) (eq1c av pr ui)) = some x ∧
      pay1 av pr ui x = F64.ofNat (Spec.V4.dist1 (nmAV av) (nmPR pr) (nmUI ui)) ∧
      eq1c av pr ui = Spec.V4.eq1 (nmAV av) (nmPR pr) (nmUI ui) ∧
      Spec.V4.dist1 (nmAV av) (nmPR pr) (nmUI ui) < Spec.V4.depth1P1 (eq1c av pr ui) ∧ eq1c av pr ui < 3 :=
  selOk_elim (all_range (all_range (all_range chk1_all ha) hp) hu)

def chk2 (ac at_ : Nat) : Bool :=
  selOk (lastSat (fun x => !bad2 ac at_ x) (Go.idx (Go.idx tbl_highestSeverityVectors 2) (eq2c ac at_)))
    (pay2 ac at_) (Spec.V4.dist2 (nmAC ac) (nmAT at_))
    (eq2c ac at_) (Spec.V4.eq2 (nmAC ac) (nmAT at_)) (Spec.V4.depth2P1 (eq2c ac at_)) 2

theorem chk2_all : ((List.range 2).all fun ac => (List.range 2).all fun at_ => chk2 ac at_) = true := by decide +kernel

theorem g2 {ac at_ : Nat} (ha : ac < 2) (ht : at_ < 2) :
    ∃ x, lastSat (fun x => !bad2 ac at_ x) (Go.idx (Go.idx tbl_highestSeverityVectors 2) (eq2c ac at_)) = some x ∧
      pay2 ac at_ x = F64.ofNat (Spec.V4.dist2 (nmAC ac) (nmAT at_)) ∧
      eq2c ac at_ = Spec.V4.eq2 (nmAC ac) (nmAT at_) ∧
      Spec.V4.dist2 (nmAC ac) (nmAT at_) < Spec.V4.depth2P1 (eq2c ac at_) ∧ eq2c ac at_ < 2 :=
  selOk_elim (all_range (all_range chk2_all ha) ht)

/-! ## EQ3 + EQ6 (effective VC/VI/VA codes, raw requirement codes; `reqFix` = the code's `X ⇒ H`) -/

/-- the Spec's requirement value: `X` is scored as `H` -/
def reqS (nm : Nat → List Nat) (r : Nat) : List Nat := orElse (nm r) (Spec.b "H")

def chk36 (vc vi va cr ir ar : Nat) : Bool :=
  selOk (lastSat (fun x => !bad36 vc vi va (reqFix cr) (reqFix ir) (reqFix ar) x)
      (Go.idx (Go.idx tbl_highestSeverityVectorsEQ3EQ6 (eq3c vc vi va)) (eq6c vc vi va cr ir ar)))
    (pay36 vc vi va (reqFix cr) (reqFix ir) (reqFix ar))
    (Spec.V4.dist36 (nmVC vc) (nmVI vi) (nmVA va) (reqS nmCR cr) (reqS nmIR ir) (reqS nmAR ar))
    (eq3c vc vi va) (Spec.V4.eq3 (nmVC vc) (nmVI vi) (nmVA va))
    (Spec.V4.depth36P1 (eq3c vc vi va) (eq6c vc vi va cr ir ar)) 3 &&
  Nat.beq (eq6c vc vi va cr ir ar)
    (Spec.V4.eq6 (nmVC vc) (nmVI vi) (nmVA va) (reqS nmCR cr) (reqS nmIR ir) (reqS nmAR ar)) &&
  Nat.blt (eq6c vc vi va cr ir ar) 2 && !(Nat.beq (eq3c vc vi va) 2 && Nat.beq (eq6c vc vi va cr ir ar) 0)

/-! An undefined requirement (`X`, code 0) is read as `H` (code 1) by `Score` (`reqFix`), by EQ6 of `macroVector_core`
and by the Spec alike, so the 3³ codes `H`, `M`, `L` stand for all 4³ -/

theorem eq6c_fix (vc vi va cr ir ar : Nat) :
    eq6c vc vi va cr ir ar = eq6c vc vi va (reqFix cr) (reqFix ir) (reqFix ar) := by
  cases cr <;> cases ir <;> cases ar <;> rfl

theorem reqS_fix (r : Nat) : reqS nmCR r = reqS nmCR (reqFix r) ∧ reqS nmIR r = reqS nmIR (reqFix r) ∧
    reqS nmAR r = reqS nmAR (reqFix r) := by
  cases r with
  | zero => decide
  | succ n => exact ⟨rfl, rfl, rfl⟩

theorem reqFix_idem (r : Nat) : reqFix (reqFix r) = reqFix r := by
  cases r <;> rfl

theorem reqFix_succ {r : Nat} (h : r < 4) : ∃ k, k < 3 ∧ reqFix r = k + 1 := by
  cases r with
  | zero => exact ⟨0, by decide, rfl⟩
  | succ n => exact ⟨n, Nat.lt_of_succ_lt_succ h, rfl⟩

theorem chk36_fix (vc vi va cr ir ar : Nat) :
    chk36 vc vi va cr ir ar = chk36 vc vi va (reqFix cr) (reqFix ir) (reqFix ar) := by
  unfold chk36
  rw [reqFix_idem, reqFix_idem, reqFix_idem, ← eq6c_fix, ← (reqS_fix cr).1, ← (reqS_fix ir).2.1, ← (reqS_fix ar).2.2]

theorem chk36_all : ((List.range 3).all fun vc => (List.range 3).all fun vi => (List.range 3).all fun va =>
    (List.range 3).all fun cr => (List.range 3).all fun ir => (List.range 3).all fun ar =>
      chk36 vc vi va (cr + 1) (ir + 1) (ar + 1)) = true := by decide +kernel

theorem g36 {vc vi va cr ir ar : Nat} (h1 : vc < 3) (h2 : vi < 3) (h3 : va < 3) (h4 : cr < 4) (h5 : ir < 4) (h6 : ar < 4) :
    ∃ x, lastSat (fun x => !bad36 vc vi va (reqFix cr) (reqFix ir) (reqFix ar) x)
        (Go.idx (Go.idx tbl_highestSeverityVectorsEQ3EQ6 (eq3c vc vi va)) (eq6c vc vi va cr ir ar)) = some x ∧
      pay36 vc vi va (reqFix cr) (reqFix ir) (reqFix ar) x =
        F64.ofNat (Spec.V4.dist36 (nmVC vc) (nmVI vi) (nmVA va) (reqS nmCR cr) (reqS nmIR ir) (reqS nmAR ar)) ∧
      eq3c vc vi va = Spec.V4.eq3 (nmVC vc) (nmVI vi) (nmVA va) ∧
      eq6c vc vi va cr ir ar = Spec.V4.eq6 (nmVC vc) (nmVI vi) (nmVA va) (reqS nmCR cr) (reqS nmIR ir) (reqS nmAR ar) ∧
      Spec.V4.dist36 (nmVC vc) (nmVI vi) (nmVA va) (reqS nmCR cr) (reqS nmIR ir) (reqS nmAR ar) <
        Spec.V4.depth36P1 (eq3c vc vi va) (eq6c vc vi va cr ir ar) ∧
      eq3c vc vi va < 3 ∧ eq6c vc vi va cr ir ar < 2 ∧
      (Nat.beq (eq3c vc vi va) 2 && Nat.beq (eq6c vc vi va cr ir ar) 0) = false := by
  obtain ⟨cr', hcr, ecr⟩ := reqFix_succ h4
  obtain ⟨ir', hir, eir⟩ := reqFix_succ h5
  obtain ⟨ar', har, ear⟩ := reqFix_succ h6
  have h := all_range (all_range (all_range (all_range (all_range (all_range chk36_all h1) h2) h3) hcr) hir) har
  rw [← ecr, ← eir, ← ear, ← chk36_fix] at h
  unfold chk36 at h
  simp only [Bool.and_eq_true, Bool.not_eq_true'] at h
  obtain ⟨⟨⟨hs, e6⟩, b6⟩, hx⟩ := h
  obtain ⟨x, sx, px, e3, d, b3⟩ := selOk_elim hs
  exact ⟨x, sx, px, e3, Nat.eq_of_beq_eq_true e6, d, b3, Nat.le_of_ble_eq_true b6, hx⟩

/-! ## EQ4 (effective SC code; raw SI/MSI and SA/MSA codes: the level reads the Modified codes directly) -/

/-- the Spec's effective SI / SA string from the raw pair -/
def effS (nmB nmM : Nat → List Nat) (b m : Nat) : List Nat := orElse (nmM m) (nmB b)

def chk4 (sc si msi sa msa : Nat) : Bool :=
  selOk ((Go.idx (Go.idx tbl_highestSeverityVectors 4) (eq4r sc msi si msa sa)).find?
      (fun x => !bad4 sc (mod_ si msi) (mod_ sa msa) x))
    (pay4 sc (mod_ si msi) (mod_ sa msa))
    (Spec.V4.dist4 (nmSC sc) (effS nmSI nmMSI si msi) (effS nmSA nmMSA sa msa))
    (eq4r sc msi si msa sa) (Spec.V4.eq4 (nmSC sc) (effS nmSI nmMSI si msi) (effS nmSA nmMSA sa msa))
    (Spec.V4.depth4P1 (eq4r sc msi si msa sa)) 3

theorem chk4_all : ((List.range 3).all fun sc => (List.range 3).all fun si => (List.range 5).all fun msi =>
    (List.range 3).all fun sa => (List.range 5).all fun msa => chk4 sc si msi sa msa) = true := by decide +kernel

theorem g4 {sc si msi sa msa : Nat} (h1 : sc < 3) (h2 : si < 3) (h3 : msi < 5) (h4 : sa < 3) (h5 : msa < 5) :
    ∃ x, (Go.idx (Go.idx tbl_highestSeverityVectors 4) (eq4r sc msi si msa sa)).find?
        (fun x => !bad4 sc (mod_ si msi) (mod_ sa msa) x) = some x ∧
      pay4 sc (mod_ si msi) (mod_ sa msa) x =
        F64.ofNat (Spec.V4.dist4 (nmSC sc) (effS nmSI nmMSI si msi) (effS nmSA nmMSA sa msa)) ∧
      eq4r sc msi si msa sa = Spec.V4.eq4 (nmSC sc) (effS nmSI nmMSI si msi) (effS nmSA nmMSA sa msa) ∧
      Spec.V4.dist4 (nmSC sc) (effS nmSI nmMSI si msi) (effS nmSA nmMSA sa msa) <
        Spec.V4.depth4P1 (eq4r sc msi si msa sa) ∧ eq4r sc msi si msa sa < 3 :=
  selOk_elim (all_range (all_range (all_range (all_range (all_range chk4_all h1) h2) h3) h4) h5)

/-! ## EQ5 (raw E code; `X` is scored as `A`) -/

def chk5 (e : Nat) : Bool :=
  Nat.beq (eq5c e) (Spec.V4.eq5 (orElse (nmE e) (Spec.b "A"))) && Nat.blt (eq5c e) 3 &&
  Nat.beq (Spec.V4.dist5 (orElse (nmE e) (Spec.b "A"))) 0

theorem chk5_all : ((List.range 4).all fun e => chk5 e) = true := by decide +kernel

theorem g5 {e : Nat} (h : e < 4) : eq5c e = Spec.V4.eq5 (orElse (nmE e) (Spec.b "A")) ∧ eq5c e < 3 ∧
    Spec.V4.dist5 (orElse (nmE e) (Spec.b "A")) = 0 := by
  have h := all_range chk5_all h
  unfold chk5 at h
  simp only [Bool.and_eq_true] at h
  exact ⟨Nat.eq_of_beq_eq_true h.1.1, Nat.le_of_ble_eq_true h.1.2, Nat.eq_of_beq_eq_true h.2⟩

def chkN (nm : Nat → List Nat) (e : Nat) : Bool := Nat.beq e 2 == Spec.V4.is (nm e) "N"
theorem chkN_all : ((List.range 3).all fun e => chkN nmVC e && chkN nmVI e && chkN nmVA e && chkN nmSC e) = true := by
  decide +kernel
theorem nN {e : Nat} (h : e < 3) : Nat.beq e 2 = Spec.V4.is (nmVC e) "N" ∧ Nat.beq e 2 = Spec.V4.is (nmVI e) "N" ∧
    Nat.beq e 2 = Spec.V4.is (nmVA e) "N" ∧ Nat.beq e 2 = Spec.V4.is (nmSC e) "N" := by
  have h := all_range chkN_all h
  unfold chkN at h
  simp only [Bool.and_eq_true, beq_iff_eq] at h
  exact ⟨h.1.1.1, h.1.1.2, h.1.2, h.2⟩

def chkNS (nmB nmM : Nat → List Nat) (b m : Nat) : Bool := Nat.beq (mod_ b m) 2 == Spec.V4.is (effS nmB nmM b m) "N"
theorem chkNS_all : ((List.range 3).all fun b => (List.range 5).all fun m => chkNS nmSI nmMSI b m && chkNS nmSA nmMSA b m) = true := by
  decide +kernel
theorem nNS {b m : Nat} (hb : b < 3) (hm : m < 5) : Nat.beq (mod_ b m) 2 = Spec.V4.is (effS nmSI nmMSI b m) "N" ∧
    Nat.beq (mod_ b m) 2 = Spec.V4.is (effS nmSA nmMSA b m) "N" := by
  have h := all_range (all_range chkNS_all hb) hm
  unfold chkNS at h
  simp only [Bool.and_eq_true, beq_iff_eq] at h
  exact h

/-! ## what the guards of the panic-freedom proof need: ranges only -/

/-- the effective SI / SA code: a code of SI / SA, or 3 (`S`, which only the Modified metric has) -/
theorem modS_all : ((List.range 3).all fun b => (List.range 5).all fun m => Nat.blt (mod_ b m) 4) = true := by
  decide +kernel

theorem eff_lt {c : Model.O40} (h : c.wf = true) :
    mod_ (code 0 c) (code 15 c) < 4 ∧ mod_ (code 1 c) (code 16 c) < 2 ∧ mod_ (code 2 c) (code 17 c) < 2 ∧
    mod_ (code 3 c) (code 18 c) < 3 ∧ mod_ (code 4 c) (code 19 c) < 3 ∧ mod_ (code 5 c) (code 20 c) < 3 ∧
    mod_ (code 6 c) (code 21 c) < 3 ∧ mod_ (code 7 c) (code 22 c) < 3 ∧ mod_ (code 8 c) (code 23 c) < 3 ∧
    mod_ (code 9 c) (code 24 c) < 4 ∧ mod_ (code 10 c) (code 25 c) < 4 :=
  have hc := wf_codes h
  ⟨(st_wf h (j := 0) (jm := 15) (by decide)).2, (st_wf h (j := 1) (jm := 16) (by decide)).2,
   (st_wf h (j := 2) (jm := 17) (by decide)).2, (st_wf h (j := 3) (jm := 18) (by decide)).2,
   (st_wf h (j := 4) (jm := 19) (by decide)).2, (st_wf h (j := 5) (jm := 20) (by decide)).2,
   (st_wf h (j := 6) (jm := 21) (by decide)).2, (st_wf h (j := 7) (jm := 22) (by decide)).2,
   (st_wf h (j := 8) (jm := 23) (by decide)).2,
   Nat.le_of_ble_eq_true (all_range (all_range modS_all (hc 9 (by decide))) (hc 24 (by decide))),
   Nat.le_of_ble_eq_true (all_range (all_range modS_all (hc 10 (by decide))) (hc 25 (by decide)))⟩

/-- the MacroVector of codes in range is one of the 270 valid ones -/
theorem mv_valid {av ac at_ pr ui vc vi va sc si msi sa msa cr ir ar e : Nat}
    (hav : av < 4) (hac : ac < 2) (hat : at_ < 2) (hpr : pr < 3) (hui : ui < 3) (hvc : vc < 3) (hvi : vi < 3) (hva : va < 3)
    (hsc : sc < 3) (hsi : si < 3) (hmsi : msi < 5) (hsa : sa < 3) (hmsa : msa < 5)
    (hcr : cr < 4) (hir : ir < 4) (har : ar < 4) (he : e < 4) :
    eq1c av pr ui < 3 ∧ eq2c ac at_ < 2 ∧ eq3c vc vi va < 3 ∧ eq4r sc msi si msa sa < 3 ∧ eq5c e < 3 ∧
      eq6c vc vi va cr ir ar < 2 ∧ (Nat.beq (eq3c vc vi va) 2 && Nat.beq (eq6c vc vi va cr ir ar) 0) = false := by
  obtain ⟨_, _, _, _, _, b1⟩ := g1 hav hpr hui
  obtain ⟨_, _, _, _, _, b2⟩ := g2 hac hat
  obtain ⟨_, _, _, _, _, _, b3, b6, bx⟩ := g36 hvc hvi hva hcr hir har
  obtain ⟨_, _, _, _, _, b4⟩ := g4 hsc hsi hmsi hsa hmsa
  exact ⟨b1, b2, b3, b4, (g5 he).2.1, b6, bx⟩

end Proofs.Score4
