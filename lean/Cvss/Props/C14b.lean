import Cvss.Proofs.PoolSim
import Cvss.Props.ParseTie
import Cvss.Props.C14
/-!
# C14b — the pool machine's steps are the regenerated loop bodies; `schedule_independent` against the generated parser

`C14.schedule_independent` (`Props/C14.lean`) is a theorem about the hand-written ownership machine
`Model.Pool` and the hand-written sequential model `Model.parse20`. What ties the *machine's decomposition of a
call into ticks* to the Go source is proved here, against the functions the translator regenerates on every
check (`Cvss/Gen/P20.lean`):

1. `C14.gen_split_is_forN`, `C14.gen_ParseVector_is_forRange` — the generated `split` / `ParseVector` are the
   combinator loops `Go.forN` / `Go.forRange` over the generated bodies `GenP20.split_for1` /
   `GenP20.ParseVector_range1`, followed by explicit tails.
2. `C14.tick_split_is_split_for1`, `C14.tick_split_exit_is_tail`, `C14.tick_loop_is_range1`,
   `C14.tick_loop_is_step2`, `C14.tick_loop_exit_is_tail` — **each thread-local `tick` is one application of the
   generated body** (or of the tail after the loop) to the thread's own `(buffer, start, curr, i)` /
   `(slci, i, object)` state: same write `dst[curr] = vector[start:i]`, same `break` at `curr == 13`, same final
   write `dst[curr] = vector[start:]`.
3. `C14.tick_simulates_generated`, `C14.single_thread_computes_generated`, `C14.single_thread_ret_only` — the
   (stuttering) simulation `PoolSim.Rem` between a thread's run and the unfolding of the generated function: a
   thread that did `Get` (buffer content `B`) and then ticks computes exactly `GenP20.ParseVector B inp`.
4. `C14.other_threads_do_not_interfere`, `C14.generated_code_shares_nothing` — why a thread-local step may be
   interleaved freely: a tick changes only the actor's phase and the actor's own buffer; and the generated
   bodies are functions of `(vector, loop state)` that consult only `GenV20.tbl_order` and `GenV20.Set`, with
   `GenV20.pkg_writes = []` and the only calls on package state being `splitPool.Get/Put` — the machine's
   `getPool/getNew` and `put`.
5. `C14.schedule_independent_gen` — `schedule_independent` with the **generated** parser on the right-hand side,
   for every 14-slot buffer; `C14.held_buffer_result` — in particular for the buffer content the thread actually
   received, with the buffer put back being what the generated `split` leaves.

The step correspondence is one-to-one with Go loop iterations; the only merging is in the two "exit" ticks (see
the table in `Cvss/Proofs/PoolSim.lean`): the tick on `split … []` performs the failing loop test, the final write,
`return curr`, the reslice `pts[:ei+1]` and the loop-variable initialisation (one buffer access: the write); the
tick on `loop … (ei+1) …` performs the end of the range loop and the `i != 0` test (no buffer access). After a
`break` the scan phase makes one more tick (`split … 13 vector[start:] []`) for the final write, exactly as Go
executes the statement after the loop. All these steps are thread-local, so merging them does not remove any
interleaving of *shared* accesses: by `other_threads_do_not_interfere` no other thread can observe the intermediate
states.
-/
/- decidable equality on phases, actions and loop-control values: used only to evaluate the concrete examples -/
deriving instance DecidableEq for Model.Pool.Phase
deriving instance DecidableEq for Model.Pool.Act
deriving instance DecidableEq for Go.Ctl

namespace C14
open Model Model.Pool GenParse GenParse20 PoolSim ParseTie

/-! ## 1. the generated functions are loops over the generated bodies -/

/-- `GenP20.split` = `Go.forN` (fuel `len+2`, condition `i < len(vector)`, post `i++`) over
    `GenP20.split_for1`, then `dst[curr] = vector[start:]; return curr` (`PoolSim.splitK`) -/
theorem gen_split_is_forN (dst : Buf) (v : Bytes) :
    GenP20.split dst v
      = splitK v (Go.forN (v.length + 2) (dst, 0, 0, 0) (PoolSim.cnd v) PoolSim.post (GenP20.split_for1 v)) :=
  split_unfold dst v

/-- `GenP20.ParseVector` = `GenP20.split`, `pts[:ei+1]`, `Go.forRange` over `GenP20.ParseVector_range1`, then the
    `i != 0` test (`PoolSim.pvK`, `PoolSim.rangeK`) -/
theorem gen_ParseVector_is_forRange (buf : Buf) (s : Bytes) :
    GenP20.ParseVector buf s = pvK (GenP20.split buf s) ∧
    (∀ pts ei, pvK (some (pts, ei)) = Go.sliceTo pts (ei + 1) Go.Res.panic fun pts =>
      rangeK (Go.forRange pts (0, 0, 0, 0, 0, 0) GenP20.ParseVector_range1)) :=
  ⟨pv_unfold buf s, fun _ _ => rfl⟩

/-! ## 2. a tick is one application of a generated body -/

/-- **(1) scan tick = `GenP20.split_for1`.** Thread in phase `split a inp curr seg (c :: cs)` with
    `inp = pre ++ seg ++ c :: cs` (so `start = |pre|`, `i = |pre|+|seg|`, `vector[i] = c`), on a 14-slot buffer,
    `curr ≤ 12`. The loop condition `i < len` holds and exactly one of:
    * `c ≠ '/'`: the body returns `next` with the state unchanged; after `i++` the thread's state is that of phase
      `split a inp curr (seg ++ [c]) cs` on the same buffer — which is what `tick` yields;
    * `c = '/'`, `curr+1 ≠ 13`: the body writes `dst[curr] = vector[start:i]` (`= seg`), sets `start = i+1`,
      `curr++`, returns `next`; after `i++` this is phase `split a inp (curr+1) [] cs` on `buf.set curr seg` = `tick`;
    * `c = '/'`, `curr+1 = 13`: the same write, then `brk`; `tick` yields phase `split a inp 13 vector[start:] []`
      on `buf.set curr seg`, whose next tick is the final write (`tick_split_exit_is_tail`). -/
theorem tick_split_is_split_for1 (a : Addr) (inp pre seg : Bytes) (c : Nat) (cs : Bytes) (curr : Nat) (buf : Buf)
    (hv : inp = pre ++ seg ++ c :: cs) (hl : buf.length = 14) (hc : curr ≤ 12) :
    PoolSim.cnd inp (gst buf pre seg curr) = true ∧
    ((c ≠ 47 ∧
        GenP20.split_for1 inp (gst buf pre seg curr) = .next (gst buf pre seg curr) ∧
        PoolSim.post (gst buf pre seg curr) = gst buf pre (seg ++ [c]) curr ∧
        tick (.split a inp curr seg (c :: cs)) buf = (.split a inp curr (seg ++ [c]) cs, buf)) ∨
     (c = 47 ∧ curr + 1 ≠ 13 ∧
        GenP20.split_for1 inp (gst buf pre seg curr)
          = .next (buf.set curr seg, pre.length + seg.length + 1, curr + 1, pre.length + seg.length) ∧
        PoolSim.post (buf.set curr seg, pre.length + seg.length + 1, curr + 1, pre.length + seg.length)
          = gst (buf.set curr seg) (pre ++ seg ++ [47]) [] (curr + 1) ∧
        tick (.split a inp curr seg (c :: cs)) buf = (.split a inp (curr + 1) [] cs, buf.set curr seg)) ∨
     (c = 47 ∧ curr + 1 = 13 ∧
        GenP20.split_for1 inp (gst buf pre seg curr)
          = .brk (buf.set curr seg, pre.length + seg.length + 1, 13, pre.length + seg.length) ∧
        inp.drop (pre.length + seg.length + 1) = cs ∧
        tick (.split a inp curr seg (c :: cs)) buf = (.split a inp 13 cs [], buf.set curr seg))) := by
  have hcl : curr < buf.length := by omega
  have hb := split_for1_eval hv hcl
  refine ⟨blt_true (by simp [hv]), ?_⟩
  by_cases hs : c = 47
  · by_cases h13 : curr + 1 = 13
    · rw [if_pos hs, if_pos h13, h13] at hb
      exact .inr (.inr ⟨hs, h13, hb, drop_after hv, by simp [tick, SLASH, hs, hcl, h13]⟩)
    · rw [if_pos hs, if_neg h13] at hb
      exact .inr (.inl ⟨hs, h13, hb, by simp [PoolSim.post, gst, Nat.add_assoc],
        by simp [tick, SLASH, hs, hcl, h13]⟩)
  · rw [if_neg hs] at hb
    exact .inl ⟨hs, hb, by simp [PoolSim.post, gst, Nat.add_assoc], by simp [tick, SLASH, hs]⟩

/-- the hypotheses of `tick_split_is_split_for1` are satisfiable, all three cases occur:
    `"A/B"` at `i = 0` (`'A'`), at `i = 1` (`'/'`, `curr = 0`), and `'/'` with `curr = 12` (the `break`) -/
example :
    let buf : Buf := List.replicate 14 [88]
    GenP20.split_for1 [65, 47, 66] (gst buf [] [] 0) = .next (gst buf [] [] 0) ∧
    GenP20.split_for1 [65, 47, 66] (gst buf [] [65] 0) = .next (buf.set 0 [65], 2, 1, 1) ∧
    GenP20.split_for1 [65, 47, 66] (gst buf [] [65] 12) = .brk (buf.set 12 [65], 2, 13, 1) ∧
    tick (.split 0 [65, 47, 66] 12 [65] [47, 66]) buf = (.split 0 [65, 47, 66] 13 [66] [], buf.set 12 [65]) :=
  ⟨rfl, rfl, rfl, rfl⟩

/-- **(1, end) last scan tick = failing loop test + the code after the loop.** Thread in phase
    `split a inp curr seg []` with `inp = pre ++ seg` (so `seg = vector[start:]`; reached by end of input, or by
    `break` with `curr = 13`): the loop condition is false at `i = len`, the generated tail
    `dst[curr] = vector[start:]; return curr` yields `(buf.set curr seg, curr)` for *any* value of `i` (after a
    `break`, `i` was not incremented), and `tick` performs that write and enters the range loop over `pts[:curr+1]`
    with all loop variables 0. -/
theorem tick_split_exit_is_tail (a : Addr) (inp pre seg : Bytes) (curr : Nat) (buf : Buf) (i : Nat)
    (hv : inp = pre ++ seg) (hl : buf.length = 14) (hc : curr ≤ 13) :
    PoolSim.cnd inp (gst buf pre seg curr) = false ∧
    splitK inp (.done (buf, pre.length, curr, i)) = some (buf.set curr seg, curr) ∧
    tick (.split a inp curr seg []) buf = (.loop a inp curr 0 0 0 O20.zero, buf.set curr seg) := by
  have hcl : curr < buf.length := by omega
  refine ⟨blt_false (by simp [hv]), ?_, by simp [tick, hcl]⟩
  simp only [splitK]
  rw [sliceFrom_ok _ (by simp [hv]), setIndex_ok _ _ hcl]
  simp [hv]

/-- **(2) range tick = `GenP20.ParseVector_range1`.** Thread in phase `loop a inp ei k slci i c`, `k ≤ ei`,
    `pts[k] = pt`: the tick is determined by the value of the generated body on `(slci, c, i)` and `pt` — `next`
    with new loop variables ⇒ the same phase at `k+1` with those variables, buffer unchanged; `return x` ⇒ phase
    `ret x`; the body never `break`s. -/
theorem tick_loop_is_range1 (a : Addr) (inp : Bytes) (ei k slci i : Nat) (c : O20) (buf : Buf) (pt : Bytes)
    (hk : k < ei + 1) (hpt : buf[k]? = some pt) :
    match GenP20.ParseVector_range1 pt (enc slci i c) with
    | .next (slci', u0, u1, u2, u3, i') =>
        tick (.loop a inp ei k slci i c) buf = (.loop a inp ei (k + 1) slci' i' ⟨u0, u1, u2, u3⟩, buf)
    | .ret r => tick (.loop a inp ei k slci i c) buf = (.ret a inp (res20 r), buf)
    | .brk _ => False := by
  rw [range_step]
  cases hst : step2 GenV20.tbl_order slci i c pt with
  | ok v =>
    obtain ⟨s', i', c'⟩ := v
    simp [next2, tick, hk, hpt, hst]
  | err e => simp [next2, tick, hk, hpt, hst, ofGo]
  | panic => simp [next2, tick, hk, hpt, hst, ofGo]

/-- … equivalently `Model.step2` (`GenParse20.range_step`): the generated body *is* the `step2` the machine calls -/
theorem tick_loop_is_step2 (pt : Bytes) (slci i : Nat) (c : O20) :
    GenP20.ParseVector_range1 pt (enc slci i c) = next2 (step2 GenV20.tbl_order slci i c pt) :=
  range_step pt slci i c

/-- **(2, end) last range tick = end of `Go.forRange` + the code after the loop** (`if i != 0 { return nil,
    ErrTooShortVector }; return obj, nil`) -/
theorem tick_loop_exit_is_tail (a : Addr) (inp : Bytes) (ei k slci i : Nat) (c : O20) (buf : Buf)
    (hk : ¬ k < ei + 1) :
    tick (.loop a inp ei k slci i c) buf
      = (.ret a inp (res20 (rangeK (Go.forRange [] (enc slci i c) GenP20.ParseVector_range1))), buf) := by
  rw [show res20 _ = loop2 GenV20.tbl_order [] slci i c from range_spec [] slci i c]
  simp [tick, hk, loop2]

/-- the first range tick of `"AV:N"` (slot 0 of the buffer): the generated body returns `next` with
    `slci = 0, i = 1` and `AV = N` stored; the tick moves to `k = 1` with exactly these values -/
example :
    let buf : Buf := [[65, 86, 58, 78]] ++ List.replicate 13 [88]
    GenP20.ParseVector_range1 [65, 86, 58, 78] (enc 0 0 O20.zero) = .next (0, 128, 0, 0, 0, 1) ∧
    tick (.loop 0 [65, 86, 58, 78] 0 0 0 0 O20.zero) buf = (.loop 0 [65, 86, 58, 78] 0 1 0 1 ⟨128, 0, 0, 0⟩, buf) := by
  decide +kernel

/-! ## 3. the simulation: a thread's run is the unfolding of the generated function -/

/-- **Simulation.** `PoolSim.Rem a inp B ph buf` says: from the thread's state `(ph, buf)` the generated code that
    remains (rest of `Go.forN` over `split_for1`, `splitK`, `pvK`; or rest of `Go.forRange` over
    `ParseVector_range1`, `rangeK`) evaluates to `GenP20.split B inp` / `GenP20.ParseVector B inp`.
    It holds right after `Get` returned a 14-slot buffer with content `B` (`getPool` and `getNew` both put the thread
    in phase `split a inp 0 [] inp`), and every tick preserves it — the thread moves along the *same* generated
    computation; it never crashes, never leaves its buffer, and the tick bound `fuelOf` decreases. -/
theorem tick_simulates_generated (a : Addr) (inp : Bytes) (B : Buf) :
    (B.length = 14 → Rem a inp B (.split a inp 0 [] inp) B) ∧
    (∀ ph buf, Rem a inp B ph buf →
      Rem a inp B (tick ph buf).1 (tick ph buf).2 ∧ (tick ph buf).1.owner = some a ∧
      fuelOf (tick ph buf).1 ≤ fuelOf ph - 1) ∧
    (∀ a' inp' r buf, Rem a inp B (.ret a' inp' r) buf →
      a' = a ∧ inp' = inp ∧ r = res20 (GenP20.ParseVector B inp) ∧ ∃ ei, GenP20.split B inp = some (buf, ei)) :=
  ⟨rem_start a inp B,
   fun _ _ h => ⟨(rem_tick h).1, rem_owner (rem_tick h).1, (rem_tick h).2⟩,
   fun _ _ _ _ h => ⟨h.1, h.2.1, h.2.2.2.2, h.2.2.2.1⟩⟩

/-- **(3) A thread that got the buffer `buf` and ticks `len(inp) + 17` times or more** is in phase `ret` holding
    exactly the value of the generated `ParseVector` **on that buffer**, and the buffer it will `Put` back is the one
    the generated `split` returns. -/
theorem single_thread_computes_generated (a : Addr) (inp : Bytes) (buf : Buf) (hl : buf.length = 14) (m : Nat)
    (hm : inp.length + 17 ≤ m) :
    ∃ bufF ei, tickN m (.split a inp 0 [] inp) buf = (.ret a inp (res20 (GenP20.ParseVector buf inp)), bufF) ∧
      GenP20.split buf inp = some (bufF, ei) := by
  obtain ⟨h1, h2⟩ := rem_tickN m (rem_start a inp buf hl)
  have hz : fuelOf (tickN m (.split a inp 0 [] inp) buf).1 = 0 := by
    have hf : fuelOf (.split a inp 0 [] inp) = inp.length + 17 := rfl
    rw [hf] at h2; omega
  obtain ⟨e1, ei, e2⟩ := rem_fuel_zero h1 hz
  exact ⟨_, ei, Prod.ext e1 rfl, e2⟩

/-- … and after *any* number of ticks, if the thread is in phase `ret`, its value is the generated one; it is never
    `crashed` -/
theorem single_thread_ret_only (a : Addr) (inp : Bytes) (buf : Buf) (hl : buf.length = 14) (m : Nat) :
    (∀ a' inp' r, (tickN m (.split a inp 0 [] inp) buf).1 = .ret a' inp' r →
      a' = a ∧ inp' = inp ∧ r = res20 (GenP20.ParseVector buf inp)) ∧
    (tickN m (.split a inp 0 [] inp) buf).1 ≠ .crashed := by
  obtain ⟨h1, _⟩ := rem_tickN m (rem_start a inp buf hl)
  refine ⟨fun a' inp' r e => ?_, fun e => ?_⟩
  · rw [e] at h1
    exact ⟨h1.1, h1.2.1, h1.2.2.2.2⟩
  · rw [e] at h1
    exact h1

/-- `"AV:N"` on a stale buffer: 4 scan ticks, the exit tick, one range tick, the exit tick — 7 ticks reach `ret` with
    the generated result `ErrTooShortVector`; 6 ticks do not -/
example :
    let stale : Buf := List.replicate 14 [115, 116, 97, 108, 101, 47, 65, 82, 58, 72]
    (tickN 7 (.split 0 inpD 0 [] inpD) stale).1 = .ret 0 inpD (res20 (GenP20.ParseVector stale inpD)) ∧
    res20 (GenP20.ParseVector stale inpD) = .err eTooShort ∧
    (tickN 6 (.split 0 inpD 0 [] inpD) stale).1 = .loop 0 inpD 0 1 0 1 ⟨128, 0, 0, 0⟩ := by
  decide +kernel

/-! ## 4. why thread-local steps may be interleaved freely -/

/-- **Frame.** A legal action changes the phase (= all locals) of no thread other than its actor, and — in a state
    satisfying the ownership invariant — does not change the buffer held by any thread other than its actor. In
    particular a `tick` of thread `t'` touches only `t'`'s phase and `t'`'s own buffer. -/
theorem other_threads_do_not_interfere {σ σ' : St} {act : Act} (hI : Inv σ) (hl : act.legal = true)
    (hs : apply σ act = some σ') {t : Nat} {ph : Phase} {a : Addr} (ht : σ.thr[t]? = some ph)
    (ho : ph.owner = some a) (hne : actor act ≠ some t) :
    σ'.thr[t]? = some ph ∧ σ'.heap a = σ.heap a :=
  ⟨(frame_thr hs hne).trans ht, frame_heap hI hl hs ht ho hne⟩

/-- The generated bodies `GenP20.split_for1`, `GenP20.ParseVector_range1` are Lean functions of
    `(vector, loop state)` resp. `(pt, loop state)`; the only package-level objects their text mentions are the table
    `GenV20.tbl_order` and the function `GenV20.Set`. The regenerated shared-state facts say that no function of
    package 20 writes a package variable, and that the only calls on package state are `ParseVector`'s
    `splitPool.Get` / `splitPool.Put` — the machine's actions `getPool`/`getNew` and `put`. So between `Get` and
    `Put` a call reads and writes its own buffer and its locals only: the thread-local `tick`. -/
theorem generated_code_shares_nothing :
    GenV20.pkg_writes = [] ∧
    GenV20.pkg_calls = ["ParseVector:splitPool.Get", "ParseVector:splitPool.Put"] :=
  v20_shared_state

/-! ## 5. every schedule, against the generated parser -/

/-- **`schedule_independent`, generated parser on the right.** Any `Init` state, any legal schedule. Then
    * every finished call `(t, inp, r)` returned `r = res20 (GenP20.ParseVector buf inp)` for **every** 14-slot
      buffer `buf` (the generated result does not depend on the buffer: `ParseTie.v20_buffer_independent`);
    * every call whose body has returned holds that value, and the buffer it is about to `Put` back is what the
      generated `split` leaves from some 14-slot buffer;
    * every thread inside a call is at a point of the generated `ParseVector B inp` for a 14-slot `B` (`PoolSim.Rem`);
    * no thread ever crashed.
    The proof goes through the simulation (`PoolSim.ginv_run`), not through `Model.parse20`. -/
theorem schedule_independent_gen (σ₀ σ : St) (acts : List Act) (h0 : Init σ₀)
    (hlegal : ∀ x ∈ acts, x.legal = true) (hrun : run σ₀ acts = some σ) :
    (∀ (t : Nat) (inp : Bytes) (r : Res O20), (t, inp, r) ∈ σ.log →
        ∀ buf : Buf, buf.length = 14 → r = res20 (GenP20.ParseVector buf inp)) ∧
    (∀ (t : Nat) (a : Addr) (inp : Bytes) (r : Res O20), σ.thr[t]? = some (Phase.ret a inp r) →
        (∀ buf : Buf, buf.length = 14 → r = res20 (GenP20.ParseVector buf inp)) ∧
        ∃ (B : Buf) (ei : Nat), B.length = 14 ∧ GenP20.split B inp = some (σ.heap a, ei)) ∧
    (∀ (t : Nat) (ph : Phase) (a : Addr), σ.thr[t]? = some ph → ph.owner = some a →
        ∃ (inp : Bytes) (B : Buf), B.length = 14 ∧ Rem a inp B ph (σ.heap a)) ∧
    (∀ t : Nat, σ.thr[t]? ≠ some Phase.crashed) := by
  have hG := ginv_run acts (init_ginv h0) hlegal hrun
  have hrem : ∀ (t : Nat) (ph : Phase) (a : Addr), σ.thr[t]? = some ph → ph.owner = some a →
      ∃ (inp : Bytes) (B : Buf), B.length = 14 ∧ Rem a inp B ph (σ.heap a) := by
    intro t ph a ht ho
    rcases hG.rem t ph ht with rfl | ⟨a', inp, B, hB, hr⟩
    · cases ho
    · cases (rem_owner hr).symm.trans ho
      exact ⟨inp, B, hB, hr⟩
  refine ⟨?_, ?_, hrem, fun t h => hG.inv.phaseOK t .crashed h⟩
  · intro t inp r h buf hb
    obtain ⟨B, hB, e⟩ := hG.log _ h
    rw [v20_buffer_independent buf B hb hB inp]; exact e
  · intro t a inp r h
    obtain ⟨inp', B, hB, hr⟩ := hrem t _ a h rfl
    obtain ⟨_, rfl, _, ⟨ei, he⟩, rfl⟩ := hr
    exact ⟨fun buf hb => by rw [v20_buffer_independent buf B hb hB inp], B, ei, hB, he⟩

/-- … and the two statements agree: the generated result for any 14-slot buffer is the sequential model's
    (`ParseTie.v20`), so `schedule_independent_gen` implies the log part of `C14.schedule_independent` and vice versa -/
theorem gen_result_is_model (buf : Buf) (hb : buf.length = 14) (inp : Bytes) :
    res20 (GenP20.ParseVector buf inp) = parse20 inp := ParseTie.v20 buf hb inp

/-- **In particular for the buffer the thread actually held.** Split a schedule at a call of thread `t`:
    `before`, then the `Get` (from the pool, or a fresh buffer with arbitrary content), then `during` — anything
    legal by anybody, except that `t` does not `Put` —, then `t`'s `Put`. Let `B` be the content of the buffer at
    address `a` at the moment `Get` returned it (stale strings of earlier calls of possibly other threads). Then the
    call logged exactly `res20 (GenP20.ParseVector B inp)`, and the buffer that went back into the pool is the one the
    generated `split B inp` returns — whatever the other threads did in between. -/
theorem held_buffer_result (σ₀ σ₁ σ₂ σ₃ σ₄ : St) (before during : List Act) (get : Act) (t : Nat) (inp : Bytes)
    (a : Addr) (h0 : Init σ₀)
    (hget : get = .getPool t inp a ∨ ∃ content, get = .getNew t inp a content)
    (hl1 : ∀ x ∈ before, x.legal = true) (hl2 : ∀ x ∈ during, x.legal = true) (hnp : Act.put t ∉ during)
    (h1 : run σ₀ before = some σ₁) (h2 : apply σ₁ get = some σ₂) (h3 : run σ₂ during = some σ₃)
    (h4 : apply σ₃ (.put t) = some σ₄) :
    (σ₂.heap a).length = 14 ∧
    (get = .getPool t inp a → σ₂.heap a = σ₁.heap a) ∧
    (∀ content, get = .getNew t inp a content → σ₂.heap a = content) ∧
    σ₄.log = (t, inp, res20 (GenP20.ParseVector (σ₂.heap a) inp)) :: σ₃.log ∧
    (∃ ei, GenP20.split (σ₂.heap a) inp = some (σ₄.heap a, ei)) ∧ a ∈ σ₄.pool := by
  have hG1 := ginv_run before (init_ginv h0) hl1 h1
  have key : GInv σ₂ ∧ (σ₂.heap a).length = 14 ∧ Tracks σ₂ t a inp (σ₂.heap a) ∧
      (get = .getPool t inp a → σ₂.heap a = σ₁.heap a) ∧
      (∀ content, get = .getNew t inp a content → σ₂.heap a = content) := by
    rcases hget with rfl | ⟨content, rfl⟩
    · obtain ⟨e1, e2, e3⟩ := tracks_getPool hG1.inv h2
      refine ⟨ginv_apply hG1 rfl h2, by rw [e2]; exact e1, by rw [e2]; exact e3, fun _ => e2, ?_⟩
      intro content h; cases h
    · obtain ⟨e1, e2, e3⟩ := tracks_getNew h2
      refine ⟨ginv_apply hG1 rfl h2, by rw [e2]; exact e1, by rw [e2]; exact e3, ?_, ?_⟩
      · intro h; cases h
      · intro content' h; cases h; exact e2
  obtain ⟨hG2, hlen, hT2, hp, hn⟩ := key
  obtain ⟨_, hT3⟩ := tracks_run during hG2 hT2 hl2 hnp h3
  obtain ⟨e1, e2, e3⟩ := tracks_put hT3 h4
  exact ⟨hlen, hp, hn, e1, e3, e2⟩

/-- The hypotheses of `held_buffer_result` are satisfiable by a genuinely interleaved run: on `σex` (every buffer
    holds 14 copies of `"stale/AR:H"`) thread 1 first starts parsing the 14-metric `inpC` on a fresh buffer, then thread
    0 gets the pooled buffer 0 for `inpA`; 90 rounds of strictly alternating ticks; thread 1 `Put`s; thread 0 `Put`s.
    The run is enabled to the end and thread 0's entry is the generated result on the stale buffer. -/
theorem held_buffer_example :
    let before : List Act := [.getNew 1 inpC 7 (List.replicate 14 [88])]
    let during : List Act := (List.replicate 90 [Act.tick 0, Act.tick 1]).flatten ++ [.put 1]
    (∀ x ∈ before ++ during, x.legal = true) ∧ Act.put 0 ∉ during ∧
    ((run σex before).bind fun σ₁ => (apply σ₁ (.getPool 0 inpA 0)).bind fun σ₂ =>
      (run σ₂ during).bind fun σ₃ => (apply σ₃ (.put 0)).map fun σ₄ => σ₄.log)
      = some [(0, inpA, res20 (GenP20.ParseVector (σex.heap 0) inpA)),
              (1, inpC, res20 (GenP20.ParseVector (List.replicate 14 [88]) inpC))] := by
  decide +kernel

end C14
