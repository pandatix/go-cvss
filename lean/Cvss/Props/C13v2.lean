import Cvss.Proofs.Parse2Read
/-!
# C13 (v2.0 part): an accepted v2.0 string starts with `AV:`

(The other three parsers require their `CVSS:x.y` header, which is incompatible with this prefix.)
-/
namespace C13.V2
open Proofs Proofs.Parse2
open Model (Bytes Res)
open Spec.V2 (metrics Witness G)

theorem grammatical_prefix {s : Bytes} (h : G s) : [65, 86, 58] <+: s := by
  obtain ⟨w, hw⟩ := h
  exact witness_prefix hw

section
variable (K : Contract Model.O20 metrics)

theorem accepted_prefix {s : Bytes} {c : Model.O20} (h : parseK K s = .ok c) : [65, 86, 58] <+: s := by
  obtain ⟨w, hw, _⟩ := parse_sound K h
  exact witness_prefix hw

/-- in the form the other parsers test their headers: `strings.HasPrefix` -/
theorem accepted_hasPrefix {s : Bytes} {c : Model.O20} (h : parseK K s = .ok c) :
    Model.hasPrefix s [65, 86, 58] = true := by
  obtain ⟨r, hr⟩ := accepted_prefix K h
  rw [← hr]
  simp [Model.hasPrefix]

theorem model_accepted_prefix (hz : K.zero = Model.O20.zero) (hs : K.set = Model.O20.set)
    {s : Bytes} {c : Model.O20} (h : Model.parse20 s = .ok c) : [65, 86, 58] <+: s := by
  rw [parse20_eq_parseK K hz hs] at h; exact accepted_prefix K h

end

/-- `AV:` is incompatible with every `CVSS:x.y` header the other parsers require -/
theorem prefix_excludes_headers {s : Bytes} (h : [65, 86, 58] <+: s) :
    Model.hasPrefix s GenV30.const_header = false ∧ Model.hasPrefix s GenV31.const_header = false ∧
    Model.hasPrefix s GenV40.const_header = false := by
  obtain ⟨r, rfl⟩ := h
  refine ⟨?_, ?_, ?_⟩ <;> rfl

example : Model.parse20 (Spec.b "AV:L/AC:H/Au:M/C:N/I:N/A:N") = .ok ⟨32, 0, 0, 0⟩ := by decide +kernel

end C13.V2
