import Cvss.Proofs.Score2Nd
import Cvss.Proofs.F64Eval
/-! C05 table: recomputed base, C code 0 -/
namespace Proofs.Score2

theorem rb_table_0 : rbTable 0 = true := by
  simp only [rbTable, okRB, RBf, GenV20.roundTo1Decimal, ← F64.divK_eq]
  decide +kernel

end Proofs.Score2
