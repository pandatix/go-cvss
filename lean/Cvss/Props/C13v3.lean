import Cvss.Proofs.Parse3Loop
import Cvss.Proofs.Parse3Inst
/-!
# C13 (v3 part): an accepted string starts with the version's prefix literal

`parse3 header … s` ok ⇒ `header` is a prefix of `s` — for any header and any `Set`. With the generated
constants: `parse30` accepts only strings starting `CVSS:3.0/`, `parse31` only `CVSS:3.1/`, hence never both.
-/
namespace C13.V3
open Proofs Proofs.Parse3
open Spec (Bytes)

theorem ok_prefix {O : Type} (header : Bytes) (zero : O) (set : O → Bytes → Bytes → O × Go.Err) (s : Bytes)
    (h : (Model.parse3 header zero set s).isOk = true) : header <+: s := by
  cases hp : Model.parse3 header zero set s with
  | ok c => exact (parse3_ok_prefix header zero set s c hp).1
  | err e => rw [hp] at h; cases h
  | panic => rw [hp] at h; cases h

theorem ok_prefix_K {O : Type} (K : Contract O Spec.V3.metrics) (hdr s : Bytes)
    (h : (Model.parse3 (hdr ++ [47]) K.zero K.set s).isOk = true) : (hdr ++ [47]) <+: s :=
  ok_prefix _ _ _ s h

theorem parse30_prefix (s : Bytes) (h : (Model.parse30 s).isOk = true) : Spec.b "CVSS:3.0/" <+: s := by
  have := ok_prefix _ _ _ s h
  rwa [const_header30] at this

theorem parse31_prefix (s : Bytes) (h : (Model.parse31 s).isOk = true) : Spec.b "CVSS:3.1/" <+: s := by
  have := ok_prefix _ _ _ s h
  rwa [const_header31] at this

theorem parse30_parse31_exclusive (s : Bytes) :
    ¬ ((Model.parse30 s).isOk = true ∧ (Model.parse31 s).isOk = true) := by
  rintro ⟨h0, h1⟩
  have := List.prefix_of_prefix_length_le (parse30_prefix s h0) (parse31_prefix s h1) (by decide)
  rw [← List.isPrefixOf_iff_prefix] at this
  revert this
  decide

end C13.V3
