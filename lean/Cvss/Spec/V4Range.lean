import Cvss.Spec.V4
/-!
# Spec: the v4.0 score is at most 10.0 — for every assignment of strings to the metrics

`Spec.V4.scoreK val ≤ 100` (tenths) for **all** `val : Bytes → Bytes`, legal or not: the score is either 0, or a
lookup value (all ≤ 100; 0 if the MacroVector does not exist) minus a non-negative mean, rounded half-up.
Independent of the code.
-/
namespace Spec.V4

theorem table_le_100 : (table.all fun p => p.2 ≤ 100) = true := by decide +kernel

theorem lookup_getD_le (l : List (Nat × Nat)) (h : (l.all fun p => p.2 ≤ 100) = true) (k : Nat) :
    (l.lookup k).getD 0 ≤ 100 := by
  induction l with
  | nil => simp [List.lookup]
  | cons p r ih =>
    simp only [List.all_cons, Bool.and_eq_true, decide_eq_true_eq] at h
    obtain ⟨a, v⟩ := p
    unfold List.lookup
    split
    · simpa using h.1
    · exact ih (by simpa using h.2)

theorem lookup_le_100 (mv : MV) : (lookup mv).getD 0 ≤ 100 := lookup_getD_le table table_le_100 _

/-- rounding `v − n/d` half-up never exceeds `v` -/
theorem roundHalfUp_le (v n d : Nat) : roundHalfUp (v * d - n) d ≤ v := by
  unfold roundHalfUp
  rcases Nat.eq_zero_or_pos d with h | h
  · subst h; simp
  · apply Nat.le_of_lt_succ
    rw [Nat.div_lt_iff_lt_mul (by omega)]
    have : (v + 1) * (2 * d) = 2 * (v * d) + 2 * d := by
      rw [Nat.add_mul, Nat.one_mul, Nat.mul_left_comm]
    rw [this]
    omega

theorem scoreOf_le_100 (mv : MV) (d1 d2 d36 d4 d5 : Nat) : scoreOf mv d1 d2 d36 d4 d5 ≤ 100 := by
  unfold scoreOf exactOf
  exact Nat.le_trans (roundHalfUp_le _ _ _) (lookup_le_100 mv)

theorem scoreE_le_100 (e : Eff) : scoreE e ≤ 100 := by
  unfold scoreE
  split
  · exact Nat.zero_le _
  · exact scoreOf_le_100 ..

theorem scoreK_le_100 (val : Bytes → Bytes) : scoreK val ≤ 100 := scoreE_le_100 _

end Spec.V4
