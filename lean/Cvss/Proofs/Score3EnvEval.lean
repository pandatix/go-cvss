import Cvss.Proofs.Score3M30
import Cvss.Proofs.Score3Force
/-!
# C03 (c): evaluating the inner table with the exact side computed once per value

The Spec side of `okInnerOn` depends on the eleven codes only through the Modified Scope, the exact MISS of the six
impact/requirement codes and the exact exploitability of the other four (`specInner_eq`). The kernel shares the
evaluation of identical closed terms, so the table is evaluated on `okInnerF`, which first forces the float result,
MISS and exploitability to literals: tuples with the same values then meet the same term `specOK ver ms r m e`
(618 different ones instead of 4,374 in a chunk).
-/
namespace Proofs.Score3
open Spec Spec.V3

theorem specInner_eq (v31 : Bool) (mav mac mpr mui ms mc mi ma cr ir ar : Nat) :
    specInner v31 mav mac mpr mui ms mc mi ma cr ir ar =
      BaseScore (Nat.beq ms 1) (ModifiedImpact v31 (Nat.beq ms 1)
        (MISS (cReq cr) (cCIA mc) (cReq ir) (cCIA mi) (cReq ar) (cCIA ma))) (specExpl mav mac mpr mui ms) := rfl

/-- the exact side of `okInnerOn`, for the float result `r`, on (scope, MISS, exploitability) -/
def specOK (v31 : Bool) (ms r : Nat) (m e : Dec) : Bool :=
  isTenth r (BaseScore (Nat.beq ms 1) (ModifiedImpact v31 (Nat.beq ms 1) m) e) &&
  (decide (ModifiedImpact v31 (Nat.beq ms 1) m ≤ 0) ||
    agreeA (baseArg (Nat.beq ms 1) (ModifiedImpact v31 (Nat.beq ms 1) m) e))

def okInnerF (v31 : Bool) (r mav mac mpr mui ms mc mi ma cr ir ar : Nat) : Bool :=
  F64.flet r fun r =>
  forceDec (MISS (cReq cr) (cCIA mc) (cReq ir) (cCIA mi) (cReq ar) (cCIA ma)) fun m =>
  forceDec (specExpl mav mac mpr mui ms) fun e => specOK v31 ms r m e

theorem okInnerOn_eqF (v31 : Bool) (inner : Nat → Nat → Nat → Nat → Nat → Nat → Nat → Nat → Nat → Nat → Nat → Nat)
    (mav mac mpr mui ms mc mi ma cr ir ar : Nat) :
    okInnerOn v31 inner mav mac mpr mui ms mc mi ma cr ir ar =
      okInnerF v31 (inner mav mac mpr mui ms mc mi ma cr ir ar) mav mac mpr mui ms mc mi ma cr ir ar := by
  rw [okInnerF, flet_eq, forceDec_eq, forceDec_eq]
  rfl

/-- kernel evaluation of a chunk of the inner table of either version: on `okInnerF`, with the divisions of
    `roundup` in the linear form `F64.divK` -/
macro "decide_inner" : tactic =>
  `(tactic| (simp only [V31.chunkEnv, V30.chunkEnv, chunkEnvOn, okInnerOn_eqF, okInnerF, V31.Inner, V30.Inner,
               GenV31.roundup, GenV30.roundup, ← F64.divK_eq]
             decide +kernel))

end Proofs.Score3
