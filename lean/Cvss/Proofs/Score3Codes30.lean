import Cvss.Proofs.Score3Codes31
/-!
# C03, v3.0: the field codes of an object

`30/cvss30.go` repeats `Get` of `31/cvss31.go` line for line, so `valOf` is v3.1's (`valOf_eq`, by `rfl`; it stops
checking when the two packages diverge) and the lemmas of `Score3Codes31` on strings and code vectors are this
version's too. What is stated again is what mentions the object type: its field codes, and the generated methods as
their `_core` functions on them.
-/
namespace Proofs.Score3.V30
open Spec Spec.V3 GenV30
open V31 (vec InRange)

/-- the vector of an object with the given field codes, as the Spec sees it: metric ↦ value string of `Get` -/
def valOf (r0 r1 r2 r3 r4 r5 r6 r7 r8 r9 r10 r11 r12 r13 r14 r15 r16 r17 r18 r19 r20 r21 : Nat) : Bytes → Bytes := fun a =>
  (Get_core r0 r1 r2 r3 r4 r5 r6 r7 r8 r9 r10 r11 r12 r13 r14 r15 r16 r17 r18 r19 r20 r21 a).1

theorem valOf_eq : @valOf = @V31.valOf := rfl

section codes
variable (c : Model.O30)
/-- field code `j`, in Spec table order -/
def cd (j : Nat) : Nat := (Bits30.codes c).getD j 0
/-- the scope field as `Impact`/`BaseScore` read it (not shifted) -/
def kS : Nat := Nat.land c.u0 (2 : Nat)

/-- the vector of `c` as the Spec sees it -/
def val : Bytes → Bytes := fun a => (c.get a).1

/-! hoisting: every generated method is its `_core` on these codes (definitional) -/
theorem val_eq : val c = vec (cd c) := rfl
theorem baseScore_eq : c.baseScore =
    BaseScore_core (cd c 5) (cd c 6) (cd c 7) (kS c) (cd c 0) (cd c 1) (cd c 2) (cd c 4) (cd c 3) := rfl
theorem temporalScore_eq : c.temporalScore =
    TemporalScore_core (cd c 8) (cd c 9) (cd c 10) (cd c 5) (cd c 6) (cd c 7) (kS c) (cd c 0) (cd c 1) (cd c 2) (cd c 4)
      (cd c 3) := rfl
theorem environmentalScore_eq : c.environmentalScore =
    EnvironmentalScore_core (cd c 0) (cd c 14) (cd c 1) (cd c 15) (cd c 2) (cd c 16) (cd c 3) (cd c 17) (cd c 4)
      (cd c 18) (cd c 5) (cd c 19) (cd c 6) (cd c 20) (cd c 7) (cd c 21) (cd c 11) (cd c 12) (cd c 13) (cd c 8) (cd c 9)
      (cd c 10) := rfl
theorem impact_eq : c.impact = Impact_core (cd c 5) (cd c 6) (cd c 7) (kS c) := rfl
theorem exploitability_eq : c.exploitability = Exploitability_core (cd c 0) (cd c 1) (cd c 2) (cd c 4) (cd c 3) := rfl
end codes

/-- all field codes of a well-formed object are in range (`Bits30.vals` is `Bits31.vals`) -/
theorem inRange_of_wf (c : Model.O30) (h : c.wf = true) : InRange (cd c) :=
  .of_vals ((Bits30.layout.wf_iff Bits30.tableOK c).mp h).2.2

end Proofs.Score3.V30
