import Cvss.Proofs.Parse2Core
/-!
# v2.0 parser proofs: meaning of a parsed vector, canonical spelling, round trip
-/
namespace Proofs.Parse2
open Model (Bytes Res cutColon splitN)
open Spec (joinSlash render Pair abvs legal isMetric findMetric Metric valueOf allLegal)
open Spec.V2 (metrics base temporal environmental shapes Witness G groupPairs canonical)
open Proofs.Table

/-! ## C06: what the parsed object holds -/

section contract
variable (K : Contract Model.O20 metrics)

theorem get_parsed {w : List Pair} (hsh : w.map (·.1) ∈ shapes) (hl : allLegal metrics w)
    {m : Metric} (hm : m ∈ metrics) :
    K.get (setAll K.set K.zero w) m.abv = (valueOf metrics w m.abv, Go.errNil) :=
  K.get_setAll_zero good (complete_of_shape hsh hl) hm

theorem parse_get {s : Bytes} {c : Model.O20} (h : parseK K s = .ok c) {w : List Pair} (hw : Witness s w)
    {m : Metric} (hm : m ∈ metrics) : K.get c m.abv = (valueOf metrics w m.abv, Go.errNil) := by
  obtain ⟨w0, hw0, hc⟩ := parse_sound K h
  have := witness_unique hw hw0
  subst this
  subst hc
  exact get_parsed K hw.2.1 hw.2.2 hm

theorem parse_wf {s : Bytes} {c : Model.O20} (h : parseK K s = .ok c) : K.WF c := by
  obtain ⟨w0, _, hc⟩ := parse_sound K h
  subst hc
  exact K.wf_setAll _ _ K.wf_zero

end contract

/-- the pair list `canonical` renders -/
def canonW (w : List Pair) : List Pair :=
  groupPairs base w ++ groupPairs temporal w ++ groupPairs environmental w

theorem canonical_eq (w : List Pair) : canonical w = joinSlash ((canonW w).map render) := rfl

/-- a group written in full -/
def fullGroup (g : List Metric) (w : List Pair) : List Pair := g.map fun m => (m.abv, valueOf metrics w m.abv)

theorem fullGroup_names (g : List Metric) (w : List Pair) : (fullGroup g w).map (·.1) = abvs g := by
  unfold fullGroup abvs
  rw [List.map_map]
  rfl

theorem groupPairs_eq (g : List Metric) (w : List Pair) :
    groupPairs g w =
      if (g.all fun m => m.mandatory) || (fullGroup g w).any (fun p => p.2 ≠ Spec.b "ND") then fullGroup g w
      else [] := rfl

theorem groupPairs_base (w : List Pair) : groupPairs base w = fullGroup base w := by
  rw [groupPairs_eq, base_mandatory]; rfl

theorem fullGroup_congr (g : List Metric) (hg : ∀ m ∈ g, m ∈ metrics) {w w' : List Pair}
    (h : ∀ m ∈ metrics, valueOf metrics w m.abv = valueOf metrics w' m.abv) : fullGroup g w = fullGroup g w' := by
  unfold fullGroup
  apply List.map_congr_left
  intro m hm
  rw [h m (hg m hm)]

theorem canonW_congr {w w' : List Pair}
    (h : ∀ m ∈ metrics, valueOf metrics w m.abv = valueOf metrics w' m.abv) : canonW w = canonW w' := by
  unfold canonW
  simp only [groupPairs_eq, fullGroup_congr base base_sub h, fullGroup_congr temporal temporal_sub h,
    fullGroup_congr environmental environmental_sub h]

theorem groupPairs_opt (g : List Metric) (hopt : (g.all fun m => m.mandatory) = false) (w : List Pair) :
    groupPairs g w = fullGroup g w ∨
    (groupPairs g w = [] ∧ ∀ m ∈ g, valueOf metrics w m.abv = Spec.b "ND") := by
  rw [groupPairs_eq, hopt, Bool.false_or]
  cases hany : (fullGroup g w).any (fun p => p.2 ≠ Spec.b "ND") with
  | true => exact Or.inl rfl
  | false =>
    refine Or.inr ⟨rfl, ?_⟩
    intro m hm
    have := List.any_eq_false.mp hany (m.abv, valueOf metrics w m.abv)
      (List.mem_map.mpr ⟨m, hm, rfl⟩)
    simpa using this

theorem names_groupPairs (g : List Metric) (hopt : (g.all fun m => m.mandatory) = false) (w : List Pair) :
    (groupPairs g w).map (·.1) ∈ [[], abvs g] := by
  rcases groupPairs_opt g hopt w with h | ⟨h, _⟩ <;> simp [h, fullGroup_names]

theorem canonW_witness {w : List Pair} (hsh : w.map (·.1) ∈ shapes) (hl : allLegal metrics w) :
    Witness (canonical w) (canonW w) ∧ ∀ m ∈ metrics, valueOf metrics (canonW w) m.abv = valueOf metrics w m.abv := by
  have hmem : ∀ p ∈ canonW w, ∃ m ∈ metrics, p = (m.abv, valueOf metrics w m.abv) := by
    have hg : ∀ g : List Metric, (∀ m ∈ g, m ∈ metrics) → ∀ p ∈ groupPairs g w,
        ∃ m ∈ metrics, p = (m.abv, valueOf metrics w m.abv) := by
      intro g hg p hp
      rw [groupPairs_eq] at hp
      split at hp
      · obtain ⟨m, hm, rfl⟩ := List.mem_map.mp hp
        exact ⟨m, hg m hm, rfl⟩
      · cases hp
    intro p hp
    simp only [canonW, List.mem_append] at hp
    rcases hp with (hp | hp) | hp
    · exact hg base base_sub p hp
    · exact hg temporal temporal_sub p hp
    · exact hg environmental environmental_sub p hp
  have hshape : (canonW w).map (·.1) ∈ shapes := by
    simp only [canonW, List.map_append, groupPairs_base, fullGroup_names]
    exact shapes_cases _ (names_groupPairs temporal temporal_optional w) _
      (names_groupPairs environmental environmental_optional w)
  have hlegal : allLegal metrics (canonW w) := by
    intro p hp
    obtain ⟨m, hm, rfl⟩ := hmem p hp
    exact (good.legal_self hm).mpr ((complete_of_shape hsh hl).valueOf_mem good hm)
  refine ⟨⟨canonical_eq w, hshape, hlegal⟩, fun m hm => ?_⟩
  by_cases hin : m.abv ∈ (canonW w).map (·.1)
  · -- written: the pair with this name is the one made from `m`
    obtain ⟨p, hp, hpa⟩ := List.mem_map.mp hin
    obtain ⟨m', hm', rfl⟩ := hmem p hp
    have hpa : m'.abv = m.abv := hpa
    have : m' = m := Option.some.inj ((good.find_self hm').symm.trans (hpa ▸ good.find_self hm))
    subst this
    exact valueOf_of_mem metrics (shapes_nodup _ hshape) hp
  · -- not written: `m` is in an optional group that was dropped, and a group is dropped only when all of it is `ND`
    rw [valueOf_of_not_mem (good.find_self hm) hin]
    have hdrop : ∀ g : List Metric, (g.all fun m => m.mandatory) = false → (∀ x ∈ g, x ∈ temporal ++ environmental) →
        (∀ p ∈ groupPairs g w, p ∈ canonW w) → m ∈ g → m.undef.getD [] = valueOf metrics w m.abv := by
      intro g hopt hsub hg hmg
      rcases groupPairs_opt g hopt w with h | ⟨_, h⟩
      · have : (m.abv, valueOf metrics w m.abv) ∈ groupPairs g w := by rw [h]; exact List.mem_map.mpr ⟨m, hmg, rfl⟩
        exact absurd (List.mem_map.mpr ⟨_, hg _ this, rfl⟩) hin
      · rw [opt_undef m (hsub m hmg), h m hmg]; rfl
    have hm' : m ∈ base ++ temporal ++ environmental := hm
    simp only [List.mem_append] at hm'
    rcases hm' with (hb | ht) | he
    · refine absurd (List.mem_map.mpr ⟨(m.abv, valueOf metrics w m.abv), ?_, rfl⟩) hin
      simp only [canonW, groupPairs_base, List.mem_append]
      exact Or.inl (Or.inl (List.mem_map.mpr ⟨m, hb, rfl⟩))
    · exact hdrop temporal temporal_optional (fun x hx => List.mem_append_left _ hx)
        (fun p hp => by simp [canonW, hp]) ht
    · exact hdrop environmental environmental_optional (fun x hx => List.mem_append_right _ hx)
        (fun p hp => by simp [canonW, hp]) he

theorem canonW_idem {w : List Pair} (hsh : w.map (·.1) ∈ shapes) (hl : allLegal metrics w) :
    canonW (canonW w) = canonW w :=
  canonW_congr (canonW_witness hsh hl).2

section contract2
variable (K : Contract Model.O20 metrics)

/-- C08 core: the canonical spelling of the parsed object's values is the canonical spelling of the witness -/
theorem canonical_pairs_parsed {s : Bytes} {c : Model.O20} (h : parseK K s = .ok c) {w : List Pair}
    (hw : Witness s w) : canonical (K.pairs c) = canonical w := by
  rw [canonical_eq, canonical_eq]
  congr 2
  apply canonW_congr
  intro m hm
  rw [K.valueOf_pairs good.nodup c hm, parse_get K h hw hm]

/-- C02 core: parsing the canonical spelling of a well-formed object's values gives the object back -/
theorem parse_canonical_pairs {c : Model.O20} (h : K.WF c) : parseK K (canonical (K.pairs c)) = .ok c := by
  have hsh : (K.pairs c).map (·.1) ∈ shapes := by rw [K.names_pairs]; exact abvs_metrics_shape
  have hl : allLegal metrics (K.pairs c) := by
    intro p hp
    obtain ⟨m, hm, rfl⟩ := List.mem_map.mp hp
    exact (good.legal_self hm).mpr (K.wf_get c h m hm).2
  obtain ⟨hwit, hval⟩ := canonW_witness hsh hl
  rw [parse_complete K hwit]
  exact congrArg _ (K.setAll_eq good h (complete_of_shape hwit.2.1 hwit.2.2)
    fun m hm => by rw [hval m hm, K.valueOf_pairs good.nodup c hm])

end contract2
end Proofs.Parse2
