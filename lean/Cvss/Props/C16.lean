import Cvss.Proofs.Nomen40
import Cvss.Proofs.Reach40
/-!
# C16 — CVSS v4.0 nomenclature

"Nomenclature returns CVSS-B followed by T if and only if the threat metric E is defined (not X), and by E if and
only if at least one environmental metric (CR, IR, AR or any Modified metric) is defined; base and supplemental
metrics never affect it."

Proved on the generated `GenV40.Nomenclature` for **every byte state** (nine `uint8`s), not only for reachable
objects; the metric groups are the Spec tables `Spec.V4.threat / environmental / base / supplemental`.
-/
namespace C16
open Model (O40)
open Spec (b)
open Proofs.B40

/-- **C16.** The nomenclature string, for every byte state. -/
theorem nomenclature (c : O40) (hc : c.IsBytes) :
    c.nomenclature = b "CVSS-B"
      ++ (if (c.get (b "E")).1 ≠ b "X" then b "T" else [])
      ++ (if ∃ m ∈ Spec.V4.environmental, (c.get m.abv).1 ≠ b "X" then b "E" else []) :=
  nomenclature_eq c hc

/-- `E` is the (only) threat metric of the Spec table, so the first test is "the threat group is defined" -/
theorem threat_is_E : Spec.V4.threat.map (·.abv) = [b "E"] := by decide +kernel

/-- … in particular for every object reachable through the API -/
theorem nomenclature_reachable (c : O40) (hr : O40.Reachable c) :
    c.nomenclature = b "CVSS-B"
      ++ (if (c.get (b "E")).1 ≠ b "X" then b "T" else [])
      ++ (if ∃ m ∈ Spec.V4.environmental, (c.get m.abv).1 ≠ b "X" then b "E" else []) :=
  nomenclature_eq c ((wf_iff c).1 ((reachable_iff_wf c).1 hr)).1

/-- only the values of `E` and of the environmental metrics matter … -/
theorem depends_only_on_threat_env (c c' : O40) (hc : c.IsBytes) (hc' : c'.IsBytes)
    (hE : (c.get (b "E")).1 = (c'.get (b "E")).1)
    (hEnv : ∀ m ∈ Spec.V4.environmental, (c.get m.abv).1 = (c'.get m.abv).1) :
    c.nomenclature = c'.nomenclature := by
  have hX : (∃ m ∈ Spec.V4.environmental, (c.get m.abv).1 ≠ b "X") ↔
      ∃ m ∈ Spec.V4.environmental, (c'.get m.abv).1 ≠ b "X" :=
    exists_congr fun m => and_congr_right fun hm => by rw [hEnv m hm]
  simp only [nomenclature c hc, nomenclature c' hc', hE, hX]

/-- … so storing anything in a base or supplemental metric never changes it -/
theorem base_supplemental_irrelevant (c : O40) (hc : c.IsBytes) (m : Spec.Metric)
    (hm : m ∈ Spec.V4.base ++ Spec.V4.supplemental) (v : List Nat) :
    (c.set m.abv v).1.nomenclature = c.nomenclature := by
  cases hl : Spec.legal Spec.V4.metrics m.abv v with
  | false => exact congrArg O40.nomenclature (Bits.set_refuses contract40 c _ _ hl).2
  | true =>
    obtain ⟨hne, henv⟩ := base_supp_not_threat_env m hm
    apply depends_only_on_threat_env _ _ (set_isBytes c _ _ hc) hc
    · exact congrArg Prod.fst (contract40.get_set_other c _ _ _ hl (by decide +kernel) hne.symm)
    · exact fun m' hm' => congrArg Prod.fst (contract40.get_set_other c _ _ _ hl (env_metrics m' hm') (henv m' hm'))

/-- the four groups are all of the metrics (nothing else could matter) -/
theorem groups_cover : Spec.V4.metrics = Spec.V4.base ++ Spec.V4.threat ++ Spec.V4.environmental ++ Spec.V4.supplemental := rfl

/-! Non-trivial instances (each hypothesis is satisfiable, every outcome occurs). -/
def ex (ps : List (String × String)) : O40 := ps.foldl (fun c p => (c.set (b p.1) (b p.2)).1) O40.zero
example : (ex []).nomenclature = b "CVSS-B" := by decide +kernel
example : (ex [("AV", "P"), ("U", "Red"), ("E", "P")]).nomenclature = b "CVSS-BT" := by decide +kernel
example : (ex [("AV", "P"), ("MSA", "S")]).nomenclature = b "CVSS-BE" := by decide +kernel
example : (ex [("CR", "L"), ("E", "U"), ("S", "P")]).nomenclature = b "CVSS-BTE" := by decide +kernel
example : (ex [("MAC", "L"), ("E", "A"), ("MAC", "X"), ("E", "X"), ("VC", "N")]).nomenclature = b "CVSS-B" := by decide +kernel

end C16
