import Cvss.Proofs.Parse2Read
/-!
# C01 (v2.0): `ParseVector` accepts exactly the grammar; it never panics; `read?` returns the witness

`parseK K` is the hand-written parser model `Model.parse20` with the zero object and `Set` of an arbitrary
Get/Set contract `K` (`Proofs.Parse2.parse20_eq_parseK`: it *is* `Model.parse20` when `K.zero`/`K.set` are
the generated ones — the case of the instance proved from the bit-field code). All statements are for
**every** byte string, no length bound.
-/
namespace C01.V2
open Proofs Proofs.Parse2
open Model (Bytes Res)
open Spec.V2 (metrics Witness G)

theorem order_tie :
    GenV20.tbl_order = [Spec.abvs Spec.V2.base, Spec.abvs Spec.V2.temporal, Spec.abvs Spec.V2.environmental] :=
  tbl_eq

theorem model_is_instance :
    Model.parse20 = parse20With GenV20.tbl_order Model.O20.zero Model.O20.set := parse20_eq

section
variable (K : Contract Model.O20 metrics)

theorem accepts_iff (s : Bytes) : (parseK K s).isOk = true ↔ G s := by
  constructor
  · intro h
    cases hp : parseK K s with
    | ok c => obtain ⟨w, hw, _⟩ := parse_sound K hp; exact ⟨w, hw⟩
    | err e => rw [hp] at h; cases h
    | panic => rw [hp] at h; cases h
  · rintro ⟨w, hw⟩
    rw [parse_complete K hw]; rfl

/-- the out-of-range index into `order` is unreachable -/
theorem no_panic (s : Bytes) : parseK K s ≠ .panic := parse_ne_panic K.zero K.set s

/-- the same about `Model.parse20` itself, for a contract whose zero/`Set` are the generated ones -/
theorem model_accepts_iff (hz : K.zero = Model.O20.zero) (hs : K.set = Model.O20.set) (s : Bytes) :
    (Model.parse20 s).isOk = true ↔ G s := by
  rw [parse20_eq_parseK K hz hs]; exact accepts_iff K s

end

/-- no panic needs no contract at all: it holds for the model with the generated `Set` as it is -/
theorem model_no_panic (s : Bytes) : Model.parse20 s ≠ .panic := by
  rw [parse20_eq]; exact parse_ne_panic _ _ s

theorem read_iff (s : Bytes) (w : List Spec.Pair) : Spec.V2.read? s = some w ↔ Witness s w :=
  Proofs.Parse2.read_iff s w

theorem read_isSome_iff (s : Bytes) : (Spec.V2.read? s).isSome = true ↔ G s :=
  Proofs.Parse2.read_isSome_iff s

theorem witness_unique {s : Bytes} {w w' : List Spec.Pair} (h : Witness s w) (h' : Witness s w') : w = w' :=
  Proofs.Parse2.witness_unique h h'

/-! Consequences the reader may want to see (each decided through `read?`). -/

theorem G_decidable (s : Bytes) : G s ↔ (Spec.V2.read? s).isSome = true := (read_isSome_iff s).symm

/-- the grammar is inhabited: a base vector, a base+environmental vector and a full vector -/
example : G (Spec.b "AV:L/AC:H/Au:M/C:N/I:N/A:N") := (G_decidable _).mpr (by decide +kernel)
example : G (Spec.b "AV:N/AC:L/Au:N/C:C/I:C/A:C/CDP:ND/TD:H/CR:ND/IR:M/AR:ND") := (G_decidable _).mpr (by decide +kernel)
example : G (Spec.b "AV:N/AC:L/Au:N/C:C/I:C/A:C/E:F/RL:OF/RC:C/CDP:H/TD:H/CR:M/IR:M/AR:H") :=
  (G_decidable _).mpr (by decide +kernel)
/-- empty string, lower case, trailing `/`, empty element, header, incomplete group: not grammatical -/
example : ¬ G [] := fun h => absurd ((G_decidable _).mp h) (by decide +kernel)
example : ¬ G (Spec.b "av:L/AC:H/Au:M/C:N/I:N/A:N") := fun h => absurd ((G_decidable _).mp h) (by decide +kernel)
example : ¬ G (Spec.b "AV:L/AC:H/Au:M/C:N/I:N/A:N/") := fun h => absurd ((G_decidable _).mp h) (by decide +kernel)
example : ¬ G (Spec.b "AV:L//AC:H/Au:M/C:N/I:N/A:N") := fun h => absurd ((G_decidable _).mp h) (by decide +kernel)
example : ¬ G (Spec.b "CVSS:2.0/AV:L/AC:H/Au:M/C:N/I:N/A:N") := fun h => absurd ((G_decidable _).mp h) (by decide +kernel)
example : ¬ G (Spec.b "AV:L/AC:H/Au:M/C:N/I:N/A:N/E:F/RL:OF") := fun h => absurd ((G_decidable _).mp h) (by decide +kernel)
/-- and the model agrees on them (evaluation of the real generated `Set`) -/
example : (Model.parse20 (Spec.b "AV:L/AC:H/Au:M/C:N/I:N/A:N")).isOk = true := by decide +kernel
example : Model.parse20 (Spec.b "AV:L/AC:H/Au:M/C:N/I:N/A:N/") = .err ⟨3, []⟩ := by decide +kernel

end C01.V2
