import Cvss.Proofs.Parse2Split
/-!
# v2.0 parser proofs: the loop over an arbitrary `set`, and its name automaton

`parse20With order zero set` is `Model.parse20` with the table, the zero object and the `Set` function as
parameters; `Model.parse20` is the instance at the regenerated `GenV20.tbl_order` and `O20.set`. The walk over
`(slci, i)` is factored into the *name automaton* `nstep` (which looks only at the abbreviation) and the stores
through `set`.
-/
namespace Proofs.Parse2
open Model (Bytes Res cutColon splitN idx2 eValue eOrder eTooShort)
open Spec (joinSlash render Pair)

def step2With {O : Type} (order : List (List Bytes)) (set : O → Bytes → Bytes → O × Go.Err)
    (slci i : Nat) (c : O) (pt : Bytes) : Res (Nat × Nat × O) :=
  let av := cutColon pt
  let abv := av.1
  let sel : Option (Nat × Option Bytes) :=
    if slci = 0 ∨ slci = 2 then some (slci, idx2 order slci i)
    else if slci = 1 then
      (if i = 0 ∧ idx2 order 1 i ≠ some abv then some (2, idx2 order 2 0) else some (1, idx2 order 1 i))
    else none
  match sel with
  | none => .err eValue
  | some (_, none) => .panic
  | some (slci, some tgt) =>
    if abv ≠ tgt then .err eOrder else
    match set c abv av.2 with
    | (c', e) =>
      if e ≠ Go.errNil then .err e else
      let i := i + 1
      if i = (order.getD slci []).length then .ok (slci + 1, 0, c') else .ok (slci, i, c')

def loop2With {O : Type} (order : List (List Bytes)) (set : O → Bytes → Bytes → O × Go.Err) :
    List Bytes → Nat → Nat → O → Res O
  | [], _, i, c => if i ≠ 0 then .err eTooShort else .ok c
  | pt :: rest, slci, i, c =>
    match step2With order set slci i c pt with
    | .ok (slci', i', c') => loop2With order set rest slci' i' c'
    | .err e => .err e
    | .panic => .panic

def parse20With {O : Type} (order : List (List Bytes)) (zero : O) (set : O → Bytes → Bytes → O × Go.Err)
    (s : Bytes) : Res O :=
  loop2With order set (splitN 13 s) 0 0 zero

theorem step2_eq (order : List (List Bytes)) :
    Model.step2 order = step2With order Model.O20.set := rfl

theorem loop2_eq (order : List (List Bytes)) (pts : List Bytes) (g i : Nat) (c : Model.O20) :
    Model.loop2 order pts g i c = loop2With order Model.O20.set pts g i c := by
  induction pts generalizing g i c with
  | nil => rfl
  | cons pt rest ih =>
    simp only [Model.loop2, loop2With, step2_eq]
    split <;> simp_all

theorem parse20_eq : Model.parse20 = parse20With GenV20.tbl_order Model.O20.zero Model.O20.set := by
  funext s
  exact loop2_eq _ _ _ _ _

def parseK (K : Contract Model.O20 Spec.V2.metrics) : Bytes → Res Model.O20 :=
  parse20With GenV20.tbl_order K.zero K.set

theorem parse20_eq_parseK (K : Contract Model.O20 Spec.V2.metrics)
    (hz : K.zero = Model.O20.zero) (hs : K.set = Model.O20.set) : Model.parse20 = parseK K := by
  rw [parse20_eq, parseK, hz, hs]

/-- the part of `step2` that looks only at the abbreviation: next state, or the error -/
def nstep (order : List (List Bytes)) (slci i : Nat) (abv : Bytes) : Res (Nat × Nat) :=
  let sel : Option (Nat × Option Bytes) :=
    if slci = 0 ∨ slci = 2 then some (slci, idx2 order slci i)
    else if slci = 1 then
      (if i = 0 ∧ idx2 order 1 i ≠ some abv then some (2, idx2 order 2 0) else some (1, idx2 order 1 i))
    else none
  match sel with
  | none => .err eValue
  | some (_, none) => .panic
  | some (slci, some tgt) =>
    if abv ≠ tgt then .err eOrder else
      if i + 1 = (order.getD slci []).length then .ok (slci + 1, 0) else .ok (slci, i + 1)

theorem step2With_eq {O : Type} (order : List (List Bytes)) (set : O → Bytes → Bytes → O × Go.Err)
    (g i : Nat) (c : O) (pt : Bytes) :
    step2With order set g i c pt =
      match nstep order g i (cutColon pt).1 with
      | .ok (g', i') =>
        if (set c (cutColon pt).1 (cutColon pt).2).2 ≠ Go.errNil then .err (set c (cutColon pt).1 (cutColon pt).2).2
        else .ok (g', i', (set c (cutColon pt).1 (cutColon pt).2).1)
      | .err e => .err e
      | .panic => .panic := by
  unfold step2With nstep
  dsimp only
  generalize set c (cutColon pt).1 (cutColon pt).2 = r
  obtain ⟨c', e⟩ := r
  dsimp only
  split
  · rfl
  · rfl
  · rename_i g' tgt hsel
    split
    · rfl
    · by_cases hl : i + 1 = (order.getD g' []).length
      · simp only [hl, if_true]
      · simp only [hl, if_false]

def nrun (order : List (List Bytes)) : List Bytes → Nat → Nat → Res (Nat × Nat)
  | [], g, i => .ok (g, i)
  | a :: rest, g, i =>
    match nstep order g i a with
    | .ok (g', i') => nrun order rest g' i'
    | .err e => .err e
    | .panic => .panic

def setAll {O : Type} (set : O → Bytes → Bytes → O × Go.Err) (c : O) (ps : List Pair) : O :=
  ps.foldl (fun c p => (set c p.1 p.2).1) c

theorem nrun_append (order : List (List Bytes)) (l1 l2 : List Bytes) (g i : Nat) :
    nrun order (l1 ++ l2) g i =
      match nrun order l1 g i with
      | .ok (g', i') => nrun order l2 g' i'
      | .err e => .err e
      | .panic => .panic := by
  induction l1 generalizing g i with
  | nil => rfl
  | cons a l1 ih =>
    simp only [List.cons_append, nrun]
    cases nstep order g i a with
    | ok st => exact ih st.1 st.2
    | err e => rfl
    | panic => rfl

theorem loop_prefix {O : Type} (order : List (List Bytes)) (set : O → Bytes → Bytes → O × Go.Err)
    (ps : List Pair) (rest : List Bytes) (g i : Nat) (c : O)
    (hcolon : ∀ p ∈ ps, 58 ∉ p.1) (hset : ∀ p ∈ ps, ∀ c, (set c p.1 p.2).2 = Go.errNil) :
    loop2With order set (ps.map render ++ rest) g i c =
      match nrun order (ps.map (·.1)) g i with
      | .ok (g', i') => loop2With order set rest g' i' (setAll set c ps)
      | .err e => .err e
      | .panic => .panic := by
  induction ps generalizing g i c with
  | nil => rfl
  | cons p ps ih =>
    simp only [List.map_cons, List.cons_append, loop2With, nrun, step2With_eq]
    rw [Lex.cutColon_render (hcolon p (by simp))]
    cases hn : nstep order g i p.1 with
    | ok st =>
      simp only [hset p (by simp) c, ne_eq, not_true_eq_false, if_false]
      exact ih st.1 st.2 _ (fun q hq => hcolon q (by simp [hq])) (fun q hq => hset q (by simp [hq]))
    | err e => rfl
    | panic => rfl

theorem loop_head_nerr {O : Type} (order : List (List Bytes)) (set : O → Bytes → Bytes → O × Go.Err)
    (y : Bytes) (rest : List Bytes) (g i : Nat) (c : O) (e : Go.Err)
    (h : nstep order g i (cutColon y).1 = .err e) : loop2With order set (y :: rest) g i c = .err e := by
  simp only [loop2With, step2With_eq, h]

theorem loop_head_seterr {O : Type} (order : List (List Bytes)) (set : O → Bytes → Bytes → O × Go.Err)
    (y : Bytes) (rest : List Bytes) (g i : Nat) (c : O) (st : Nat × Nat)
    (h : nstep order g i (cutColon y).1 = .ok st)
    (he : (set c (cutColon y).1 (cutColon y).2).2 ≠ Go.errNil) :
    loop2With order set (y :: rest) g i c = .err (set c (cutColon y).1 (cutColon y).2).2 := by
  simp only [loop2With, step2With_eq, h, he, ne_eq, not_false_eq_true, if_true]

theorem idx2_mem {order : List (List Bytes)} {g i : Nat} {t : Bytes} (h : idx2 order g i = some t) :
    t ∈ order.flatten := by
  unfold idx2 at h
  have h1 : t ∈ order.getD g [] := List.mem_of_getElem? h
  rw [List.getD_eq_getElem?_getD] at h1
  cases hg : order[g]? with
  | none => simp [hg] at h1
  | some l =>
    simp [hg] at h1
    exact List.mem_flatten.mpr ⟨l, List.mem_of_getElem? hg, h1⟩

theorem nstep_ok_mem {order : List (List Bytes)} {g i : Nat} {a : Bytes} {st : Nat × Nat}
    (h : nstep order g i a = .ok st) : a ∈ order.flatten := by
  unfold nstep at h
  dsimp only at h
  split at h
  · cases h
  · cases h
  · rename_i g' tgt hsel
    split at h
    · cases h
    · rename_i hne
      have hat : a = tgt := Classical.not_not.mp hne
      subst hat
      split at hsel
      · simp only [Option.some.injEq, Prod.mk.injEq] at hsel
        exact idx2_mem hsel.2
      · split at hsel
        · split at hsel
          · simp only [Option.some.injEq, Prod.mk.injEq] at hsel
            exact idx2_mem hsel.2
          · simp only [Option.some.injEq, Prod.mk.injEq] at hsel
            exact idx2_mem hsel.2
        · cases hsel

theorem nstep_unknown {order : List (List Bytes)} (g i : Nat) {a a' : Bytes}
    (ha : a ∉ order.flatten) (ha' : a' ∉ order.flatten) : nstep order g i a = nstep order g i a' := by
  have key : ∀ g i (x : Bytes), x ∉ order.flatten → idx2 order g i ≠ some x :=
    fun g i x hx h => hx (idx2_mem h)
  have key2 : ∀ (x : Bytes), x ∉ order.flatten → ∀ (o : Option Bytes) (g' i' : Nat), o = idx2 order g' i' →
      ∀ t, o = some t → x ≠ t := by
    intro x hx o g' i' ho t ht
    intro hxt; subst hxt
    exact key g' i' x hx (ho ▸ ht)
  unfold nstep
  dsimp only
  by_cases h02 : g = 0 ∨ g = 2
  · simp only [h02, if_true]
    cases hi : idx2 order g i with
    | none => rfl
    | some t =>
      have h1 : a ≠ t := fun h => key g i a ha (h ▸ hi)
      have h2 : a' ≠ t := fun h => key g i a' ha' (h ▸ hi)
      simp only [h1, h2, ne_eq, not_false_eq_true, if_true]
  · simp only [h02, if_false]
    by_cases h1 : g = 1
    · simp only [h1, if_true]
      have e1 : (idx2 order 1 i ≠ some a) = True := eq_true (key 1 i a ha)
      have e2 : (idx2 order 1 i ≠ some a') = True := eq_true (key 1 i a' ha')
      simp only [e1, e2]
      split
      · rfl
      · rfl
      · rename_i g' tgt hsel
        have hmem : tgt ∈ order.flatten := by
          split at hsel
          · simp only [Option.some.injEq, Prod.mk.injEq] at hsel
            exact idx2_mem hsel.2
          · simp only [Option.some.injEq, Prod.mk.injEq] at hsel
            exact idx2_mem hsel.2
        have h1 : a ≠ tgt := fun h => ha (h ▸ hmem)
        have h2 : a' ≠ tgt := fun h => ha' (h ▸ hmem)
        simp only [h1, h2, ne_eq, not_false_eq_true, if_true]
    · simp only [h1, if_false]

theorem nstep_ge3 (order : List (List Bytes)) (g i : Nat) (a : Bytes) (hg : 3 ≤ g) :
    nstep order g i a = .err eValue := by
  unfold nstep
  have h1 : ¬ (g = 0 ∨ g = 2) := by omega
  have h2 : ¬ g = 1 := by omega
  simp only [h1, h2, if_false]

/-- the first failing position of the name automaton, with its error -/
def nfail (order : List (List Bytes)) : List Bytes → Nat → Nat → Option (Nat × Go.Err)
  | [], _, _ => none
  | a :: rest, g, i =>
    match nstep order g i a with
    | .ok (g', i') => (nfail order rest g' i').map (fun pe => (pe.1 + 1, pe.2))
    | .err e => some (0, e)
    | .panic => none

theorem nfail_spec (order : List (List Bytes)) (names : List Bytes) (g i : Nat) (p : Nat) (e : Go.Err)
    (h : nfail order names g i = some (p, e)) :
    ∃ (hp : p < names.length) (st : Nat × Nat),
      nrun order (names.take p) g i = .ok st ∧ nstep order st.1 st.2 names[p] = .err e := by
  induction names generalizing g i p e with
  | nil => simp [nfail] at h
  | cons a rest ih =>
    simp only [nfail] at h
    cases hn : nstep order g i a with
    | ok st =>
      simp only [hn, Option.map_eq_some_iff] at h
      obtain ⟨⟨p', e'⟩, h1, h2⟩ := h
      simp only [Prod.mk.injEq] at h2
      obtain ⟨hp1, he⟩ := h2
      obtain ⟨hp, st', h3, h4⟩ := ih st.1 st.2 p' e' h1
      subst hp1
      refine ⟨by simp; omega, st', ?_, ?_⟩
      · simp only [List.take_succ_cons, nrun, hn]; exact h3
      · rw [← he]; simpa using h4
    | err e' =>
      simp only [hn, Option.some.injEq, Prod.mk.injEq] at h
      obtain ⟨rfl, rfl⟩ := h
      exact ⟨by simp, (g, i), rfl, by simpa using hn⟩
    | panic => simp [hn] at h

end Proofs.Parse2
