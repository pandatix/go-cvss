import Cvss.Proofs.Score3MonoTab
/-! C12 (v3.1), Spec enumeration of the modified base score: the score on the listed values with the scope changed -/
namespace Proofs.Score3.Mono
theorem chunkG_1_0 : chunkG 1 0 = true := by decide +kernel
theorem chunkG_1_1 : chunkG 1 1 = true := by decide +kernel
theorem chunkG_1_2 : chunkG 1 2 = true := by decide +kernel
theorem chunkG_1_3 : chunkG 1 3 = true := by decide +kernel
theorem chunkG_1_4 : chunkG 1 4 = true := by decide +kernel
theorem chunkG_1_5 : chunkG 1 5 = true := by decide +kernel
theorem chunkG_1_6 : chunkG 1 6 = true := by decide +kernel
end Proofs.Score3.Mono
