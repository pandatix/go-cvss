import Cvss.Props.C03
import Cvss.Props.C15
/-!
# C11 (v3.0 / v3.1 part) — every score is a finite number with one decimal in 0.0 … 10.0, and `Rating` accepts it

For every well-formed `CVSS30` / `CVSS31` object each of `BaseScore`, `TemporalScore`, `EnvironmentalScore` is
finite, is not the panic marker, and is — bit for bit — the double nearest `k/10` for some `0 ≤ k ≤ 100`
(corollary of C03: `k` is the Spec value); and the package's `Rating` returns no error on it
(101-case kernel table of the generated `Rating` of v3.1 on `F64.tenth k`; v3.0's is the same function,
`C15.rating_same`).
-/
namespace Props.C11v3
open Model

theorem rating31_tbl : ∀ k, k < 101 → (GenV31.Rating (F64.tenth k)).2 = Go.errNil := by decide +kernel

/-- the C11 form of a score value -/
def InRange (x : Nat) : Prop :=
  ∃ k : Nat, k ≤ 100 ∧ F64.isFin x = true ∧ x ≠ Props.C03.poison ∧ F64.eq x (F64.tenth k) = true ∧ x = F64.tenth k

theorem of_isScore {x k : Nat} (h : Props.C03.IsScore x k) : InRange x ∧ (GenV31.Rating x).2 = Go.errNil :=
  ⟨⟨k, h.2.2.1, h.2.2.2.1, h.2.2.2.2, h.1, h.2.1⟩, h.2.1 ▸ rating31_tbl k (Nat.lt_succ_of_le h.2.2.1)⟩

theorem base_v31 (c : O31) (h : c.wf = true) : InRange c.baseScore ∧ (GenV31.Rating c.baseScore).2 = Go.errNil :=
  of_isScore (Props.C03.base_v31 c h)
theorem temporal_v31 (c : O31) (h : c.wf = true) :
    InRange c.temporalScore ∧ (GenV31.Rating c.temporalScore).2 = Go.errNil :=
  of_isScore (Props.C03.temporal_v31 c h)
theorem environmental_v31 (c : O31) (h : c.wf = true) :
    InRange c.environmentalScore ∧ (GenV31.Rating c.environmentalScore).2 = Go.errNil :=
  of_isScore (Props.C03.environmental_v31 c h)

theorem base_v30 (c : O30) (h : c.wf = true) : InRange c.baseScore ∧ (GenV30.Rating c.baseScore).2 = Go.errNil :=
  (C15.rating_same _).1 ▸ of_isScore (Props.C03.base_v30 c h)
theorem temporal_v30 (c : O30) (h : c.wf = true) :
    InRange c.temporalScore ∧ (GenV30.Rating c.temporalScore).2 = Go.errNil :=
  (C15.rating_same _).1 ▸ of_isScore (Props.C03.temporal_v30 c h)
theorem environmental_v30 (c : O30) (h : c.wf = true) :
    InRange c.environmentalScore ∧ (GenV30.Rating c.environmentalScore).2 = Go.errNil :=
  (C15.rating_same _).1 ▸ of_isScore (Props.C03.environmental_v30 c h)

/-- satisfiable: `CVSS:3.1/AV:N/AC:L/PR:L/UI:N/S:C/C:L/I:L/A:N/E:F/RL:O/CR:H/MAV:L/MS:C/MC:H` scores 6.4 / 5.9 / 8.2,
    rated MEDIUM / MEDIUM / HIGH -/
example : Props.C03.ex31.wf = true ∧ Props.C03.ex31.environmentalScore = F64.tenth 82 ∧
    GenV31.Rating Props.C03.ex31.environmentalScore = (Spec.b "HIGH", Go.errNil) ∧
    GenV31.Rating Props.C03.ex31.baseScore = (Spec.b "MEDIUM", Go.errNil) := by decide +kernel

end Props.C11v3
