import Cvss.Proofs.Score3MonoStr
import Cvss.Proofs.F64Tenth
import Cvss.Props.C03
/-!
# C12 (v3): transfer of the Spec monotonicity to the generated float model

`score = F64.tenth k` (C03) for both objects, `k₁ ≤ k₂` (Spec, `Score3MonoStr.lean`), and the doubles nearest to
`k/10` are ordered by the soft-float `F64.le` like `k` (`F64Tenth.tenth_le`).
-/
namespace Proofs.Score3.Mono
open Spec Spec.V3
open EffKeys (upd cval)

theorem le_of_isScore {x y k₁ k₂ : Nat} (hx : Props.C03.IsScore x k₁) (hy : Props.C03.IsScore y k₂) (h : k₁ ≤ k₂) :
    F64.le x y = true := by
  rw [hx.2.1, hy.2.1, F64Tenth.tenth_le hx.2.2.1 hy.2.2.1]; exact decide_eq_true h

/-! through the Get/Set contract of an object type (`Bits30.contract30`, `Bits31.contract31`) -/
section
variable {O : Type} (K : Proofs.Contract O ms)

theorem legalVec (c : O) (h : K.WF c) : LegalVec (cval K c) := fun m hm => (K.wf_get c h m hm).2

/-- a score that on every well-formed object is the tenth `key` of its value strings does not decrease under `Set`
    where `key` does not decrease under `upd` -/
theorem set_le {score : O → Nat} {key : (Bytes → Bytes) → Nat}
    (hs : ∀ c, K.WF c → Props.C03.IsScore (score c) (key (cval K c))) (c : O) (h : K.WF c) {a v₁ v₂ : Bytes}
    (l1 : legal ms a v₁ = true) (l2 : legal ms a v₂ = true) (hk : key (upd (cval K c) a v₁) ≤ key (upd (cval K c) a v₂)) :
    F64.le (score (K.set c a v₁).1) (score (K.set c a v₂).1) = true := by
  have s1 := hs _ (K.wf_set c a v₁ h)
  have s2 := hs _ (K.wf_set c a v₂ h)
  rw [EffKeys.cval_set K c a v₁ l1] at s1; rw [EffKeys.cval_set K c a v₂ l2] at s2
  exact le_of_isScore s1 s2 hk
end

end Proofs.Score3.Mono
