import Cvss.Model.Pool
/-!
# Proofs for C14: the pooled buffer is invisible

1. `split14With_spec`: whatever 14 strings the buffer holds, `split` leaves `splitN 13 s` in slots `0..ei`,
   `ei ≤ 13` (and `parse20With` reads only those); `splitGo_untouched`: it writes nothing beyond `ei`.
2. The ownership machine: what an enabled action looks like (`Pool.apply_getPool` … `Pool.apply_gc`), the
   invariant `Pool.Inv`, and `Pool.inv_apply`: every legal action keeps the ownership discipline. What each
   thread's own buffer must satisfy is established in `Proofs/PoolSim.lean`, against the generated parser.
-/
namespace Model

theorem splitN_ne_nil : ∀ (n : Nat) (s : Bytes), splitN n s ≠ []
  | 0, s => by simp [splitN]
  | _ + 1, [] => by simp [splitN]
  | n + 1, c :: cs => by
    unfold splitN
    split
    · simp
    · split <;> simp

/-- glue the partial segment in front of the first element -/
def pre (seg : Bytes) : List Bytes → List Bytes
  | [] => [seg]
  | h :: t => (seg ++ h) :: t

theorem pre_nil_of_ne_nil {l : List Bytes} (h : l ≠ []) : pre [] l = l := by
  cases l with
  | nil => exact absurd rfl h
  | cons a t => simp [pre]

theorem take_set_succ {α} (l : List α) (i : Nat) (x : α) (h : i < l.length) :
    (l.set i x).take (i + 1) = l.take i ++ [x] := by
  induction l generalizing i with
  | nil => simp at h
  | cons a t ih =>
    cases i with
    | zero => simp
    | succ j =>
      have hj : j < t.length := by simpa using h
      simp [List.set, ih j hj]

/-- what `split` leaves in the buffer: length unchanged, `ei ≤ 13`, slots `0..ei` are the already written
    prefix followed by the split of the rest of the input at its first `13 - curr` slashes -/
theorem splitGo_spec (buf : Buf) (curr : Nat) (seg rest : Bytes) (n : Nat)
    (hl : buf.length = 14) (hc : curr + (n + 1) = 13) :
    (splitGo buf curr seg rest).1.length = 14 ∧ (splitGo buf curr seg rest).2 ≤ 13 ∧
    (splitGo buf curr seg rest).1.take ((splitGo buf curr seg rest).2 + 1)
      = buf.take curr ++ pre seg (splitN (n + 1) rest) := by
  fun_induction splitGo buf curr seg rest generalizing n with
  | case1 buf curr seg =>
    refine ⟨by simp [hl], by omega, ?_⟩
    simp [splitN, pre, take_set_succ buf curr seg (by omega)]
  | case2 buf curr seg cs h13 =>
    obtain rfl : n = 0 := by omega
    obtain rfl : curr = 12 := by omega
    refine ⟨by simp [hl], Nat.le_refl _, ?_⟩
    rw [take_set_succ _ _ _ (by simp [hl]), take_set_succ _ _ _ (by omega)]
    simp [splitN, pre]
  | case3 buf curr seg cs h13 ih =>
    obtain ⟨m, rfl⟩ : ∃ m, n = m + 1 := ⟨n - 1, by omega⟩
    have := ih m (by simp [hl]) (by omega)
    refine ⟨this.1, this.2.1, ?_⟩
    rw [this.2.2, take_set_succ _ _ _ (by omega), pre_nil_of_ne_nil (splitN_ne_nil _ _)]
    simp [splitN, pre]
  | case4 buf curr seg c cs hs ih =>
    have := ih n hl hc
    refine ⟨this.1, this.2.1, ?_⟩
    rw [this.2.2]
    congr 1
    conv => rhs; unfold splitN
    simp only [hs, if_false]
    cases splitN (n + 1) cs <;> simp [pre]

/-- **`split` into a stale buffer**: 14 slots remain, `ei ≤ 13`, and slots `0..ei` are exactly the pool-free
    `splitN 13 s`, whatever the buffer held before. -/
theorem split14With_spec (buf : Buf) (s : Bytes) (hl : buf.length = 14) :
    (split14With buf s).1.length = 14 ∧ (split14With buf s).2 ≤ 13 ∧
    (split14With buf s).1.take ((split14With buf s).2 + 1) = splitN 13 s := by
  have := splitGo_spec buf 0 [] s 12 hl rfl
  refine ⟨this.1, this.2.1, ?_⟩
  unfold split14With
  rw [this.2.2, pre_nil_of_ne_nil (splitN_ne_nil _ _)]
  simp

theorem splitGo_curr_le (buf : Buf) (curr : Nat) (seg rest : Bytes) : curr ≤ (splitGo buf curr seg rest).2 := by
  fun_induction splitGo buf curr seg rest with
  | case1 => exact Nat.le_refl _
  | case2 => exact Nat.le_succ _
  | case3 _ _ _ _ _ ih => exact Nat.le_trans (Nat.le_succ _) ih
  | case4 _ _ _ _ _ _ ih => exact ih

/-- slots beyond `ei` are not written: they keep their stale content -/
theorem splitGo_untouched (buf : Buf) (curr : Nat) (seg rest : Bytes) (j : Nat) :
    (splitGo buf curr seg rest).2 < j → (splitGo buf curr seg rest).1[j]? = buf[j]? := by
  fun_induction splitGo buf curr seg rest with
  | case1 => intro h; exact List.getElem?_set_ne (by simp only at h; omega)
  | case2 =>
    intro h; simp only at h
    rw [List.getElem?_set_ne (by omega), List.getElem?_set_ne (by omega)]
  | case3 buf curr seg cs _ ih =>
    intro h
    have := splitGo_curr_le (buf.set curr seg) (curr + 1) [] cs
    rw [ih h, List.getElem?_set_ne (by omega)]
  | case4 _ _ _ _ _ _ ih => exact ih

namespace Pool

theorem upd_same (h : Addr → Buf) (a : Addr) (b : Buf) : upd h a b a = b := by simp [upd]
theorem upd_other (h : Addr → Buf) {a x : Addr} (b : Buf) (hx : x ≠ a) : upd h a b x = h x := by
  simp [upd, hx]

/-! ### what an enabled action is: the only places where `apply` is unfolded -/

theorem apply_getPool {σ σ' : St} {t : Nat} {inp : Bytes} {a : Addr} (h : apply σ (.getPool t inp a) = some σ') :
    σ.thr[t]? = some .idle ∧ a ∈ σ.pool ∧
    σ' = { σ with pool := σ.pool.erase a, thr := σ.thr.set t (.split a inp 0 [] inp) } := by
  simp only [apply] at h
  split at h
  next ht =>
    split at h
    next hm => exact ⟨ht, hm, (Option.some.inj h).symm⟩
    next => cases h
  next => cases h

theorem apply_getNew {σ σ' : St} {t : Nat} {inp : Bytes} {a : Addr} {content : Buf}
    (h : apply σ (.getNew t inp a content) = some σ') :
    σ.thr[t]? = some .idle ∧ σ.fresh a = true ∧ content.length = 14 ∧
    σ' = { σ with heap := upd σ.heap a content, thr := σ.thr.set t (.split a inp 0 [] inp) } := by
  simp only [apply] at h
  split at h
  next ht =>
    split at h
    next hf => exact ⟨ht, hf.1, hf.2, (Option.some.inj h).symm⟩
    next => cases h
  next => cases h

theorem apply_tick {σ σ' : St} {t : Nat} (h : apply σ (.tick t) = some σ') :
    ∃ ph a, σ.thr[t]? = some ph ∧ ph.owner = some a ∧
      σ' = { σ with heap := upd σ.heap a (tick ph (σ.heap a)).2, thr := σ.thr.set t (tick ph (σ.heap a)).1 } := by
  simp only [apply] at h
  split at h
  next ph ht =>
    split at h
    next a ho => exact ⟨ph, a, ht, ho, (Option.some.inj h).symm⟩
    next => cases h
  next => cases h

theorem apply_put {σ σ' : St} {t : Nat} (h : apply σ (.put t) = some σ') :
    ∃ a inp r, σ.thr[t]? = some (.ret a inp r) ∧
      σ' = { σ with pool := a :: σ.pool, thr := σ.thr.set t .idle, log := (t, inp, r) :: σ.log } := by
  simp only [apply] at h
  split at h
  next a inp r ht => exact ⟨a, inp, r, ht, (Option.some.inj h).symm⟩
  next => cases h

theorem apply_gc {σ σ' : St} {a : Addr} (h : apply σ (.gc a) = some σ') :
    a ∈ σ.pool ∧ σ' = { σ with pool := σ.pool.erase a } := by
  simp only [apply] at h
  split at h
  next hm => exact ⟨hm, (Option.some.inj h).symm⟩
  next => cases h

theorem apply_getAliased {σ σ' : St} {t : Nat} {inp : Bytes} {a : Addr}
    (h : apply σ (.getAliased t inp a) = some σ') :
    σ.thr[t]? = some .idle ∧ a ∈ σ.pool ∧ σ' = { σ with thr := σ.thr.set t (.split a inp 0 [] inp) } := by
  simp only [apply] at h
  split at h
  next ht =>
    split at h
    next hm => exact ⟨ht, hm, (Option.some.inj h).symm⟩
    next => cases h
  next => cases h

theorem frame_log {σ σ' : St} {act : Act} (hs : apply σ act = some σ') (hnp : ∀ t, act ≠ .put t) :
    σ'.log = σ.log := by
  cases act with
  | getPool t inp a => obtain ⟨_, _, rfl⟩ := apply_getPool hs; rfl
  | getNew t inp a content => obtain ⟨_, _, _, rfl⟩ := apply_getNew hs; rfl
  | tick t => obtain ⟨_, _, _, _, rfl⟩ := apply_tick hs; rfl
  | put t => exact absurd rfl (hnp t)
  | gc a => obtain ⟨_, rfl⟩ := apply_gc hs; rfl
  | getAliased t inp a => obtain ⟨_, _, rfl⟩ := apply_getAliased hs; rfl

/-- a tick never changes the buffer a thread works on: it keeps its address, or has crashed -/
theorem tick_owner (ph : Phase) (buf : Buf) :
    (tick ph buf).1.owner = ph.owner ∨ (tick ph buf).1.owner = none := by
  fun_cases tick ph buf <;> first | exact .inl rfl | exact .inr rfl

theorem run_induction {P : St → Prop} : ∀ (acts : List Act) {σ σ' : St},
    (∀ x ∈ acts, ∀ σ σ', P σ → apply σ x = some σ' → P σ') → P σ → run σ acts = some σ' → P σ'
  | [], σ, σ', _, h, hr => by simp only [run, Option.some.injEq] at hr; exact hr ▸ h
  | x :: xs, σ, σ', step, h, hr => by
    simp only [run] at hr
    split at hr
    next σ1 h1 =>
      exact run_induction xs (fun y hy => step y (List.mem_cons_of_mem _ hy))
        (step x (List.mem_cons_self ..) σ σ1 h h1) hr
    next => cases hr

/-- inside `split`: the buffer has 14 slots, the write index is in range, and *finishing* the split from here
    leaves `splitN 13 inp` in slots `0..ei` -/
def SplitInv (buf : Buf) (curr : Nat) (seg rest inp : Bytes) : Prop :=
  buf.length = 14 ∧ curr ≤ 13 ∧ (curr = 13 → rest = []) ∧
  (splitGo buf curr seg rest).1.take ((splitGo buf curr seg rest).2 + 1) = splitN 13 inp

/-- inside the `range` loop: continuing the sequential loop from here on the slots not yet visited gives the
    sequential result -/
def LoopInv (buf : Buf) (ei k slci i : Nat) (c : O20) (inp : Bytes) : Prop :=
  buf.length = 14 ∧ ei ≤ 13 ∧ k ≤ ei + 1 ∧
  loop2 GenV20.tbl_order ((buf.take (ei + 1)).drop k) slci i c = parse20 inp

/-- what a thread's phase promises about its own buffer -/
def PhaseOK (h : Addr → Buf) : Phase → Prop
  | .idle => True
  | .split a inp curr seg rest => SplitInv (h a) curr seg rest inp
  | .loop a inp ei k slci i c => LoopInv (h a) ei k slci i c inp
  | .ret a inp r => (h a).length = 14 ∧ r = parse20 inp
  | .crashed => False

/-- The invariant of the machine.
    `heldNotFree`/`heldDistinct` are the ownership discipline: a held buffer is not free and is held by exactly
    one thread; `phaseOK` is what each thread's own buffer must satisfy; `logOK` is the claim. -/
structure Inv (σ : St) : Prop where
  poolLen : ∀ a ∈ σ.pool, (σ.heap a).length = 14
  poolNodup : σ.pool.Nodup
  heldNotFree : ∀ (t : Nat) (ph : Phase) (a : Addr), σ.thr[t]? = some ph → ph.owner = some a → a ∉ σ.pool
  heldDistinct : ∀ (t t' : Nat) (ph ph' : Phase) (a : Addr), σ.thr[t]? = some ph → σ.thr[t']? = some ph' →
    ph.owner = some a → ph'.owner = some a → t = t'
  phaseOK : ∀ (t : Nat) (ph : Phase), σ.thr[t]? = some ph → PhaseOK σ.heap ph
  logOK : ∀ e ∈ σ.log, e.2.2 = parse20 e.2.1

theorem getElem?_set_some {α} {l : List α} {t t' : Nat} {x ph : α} (h : (l.set t x)[t']? = some ph) :
    (t' = t ∧ ph = x) ∨ (t' ≠ t ∧ l[t']? = some ph) := by
  rw [List.getElem?_set] at h
  by_cases e : t = t'
  · subst e
    simp only [if_true] at h
    split at h
    · exact .inl ⟨rfl, (Option.some.inj h).symm⟩
    · cases h
  · simp only [e, if_false] at h
    exact .inr ⟨fun h' => e h'.symm, h⟩

theorem init_inv {σ : St} (hi : Init σ) : Inv σ where
  poolLen := hi.len
  poolNodup := hi.nodup
  heldNotFree t ph a ht ho := by
    rw [hi.idle ph (List.mem_of_getElem? ht)] at ho; cases ho
  heldDistinct t t' ph ph' a ht _ ho _ := by
    rw [hi.idle ph (List.mem_of_getElem? ht)] at ho; cases ho
  phaseOK t ph ht := by rw [hi.idle ph (List.mem_of_getElem? ht)]; trivial
  logOK e he := by rw [hi.log] at he; cases he

/-- Thread `t` moves to a phase that owns `a` or nothing, where `a` is exclusively `t`'s (not in the new pool,
    owned by no other thread), the heap changes at most at `a`, and the pool can only shrink: the ownership
    discipline is kept **because no other thread's buffer is touched**. The promises `hok`, `hlog` about the
    new state come from the caller. -/
theorem inv_thread_step {σ : St} (hI : Inv σ) {t : Nat} {ph1 : Phase} {h' : Addr → Buf}
    {p' : List Addr} {a : Addr}
    (hown1 : ph1.owner = some a ∨ ph1.owner = none) (hnp : a ∉ p')
    (hothers : ∀ t' ph', t' ≠ t → σ.thr[t']? = some ph' → ph'.owner ≠ some a)
    (hheap : ∀ x, x ≠ a → h' x = σ.heap x)
    (hpool : ∀ x, x ∈ p' → x ∈ σ.pool) (hnd : p'.Nodup)
    (hok : ∀ (t' : Nat) ph', (σ.thr.set t ph1)[t']? = some ph' → PhaseOK h' ph') :
    Inv { heap := h', pool := p', thr := σ.thr.set t ph1, log := σ.log } where
  poolLen x hx := by
    have : x ≠ a := fun e => hnp (e ▸ hx)
    simp only [hheap x this]; exact hI.poolLen x (hpool x hx)
  poolNodup := hnd
  heldNotFree t' ph' a' ht' ho' := by
    rcases getElem?_set_some ht' with ⟨_, rfl⟩ | ⟨_, hold⟩
    · rcases hown1 with h | h <;> rw [h] at ho' <;> cases ho'; exact hnp
    · exact fun hm => hI.heldNotFree t' ph' a' hold ho' (hpool _ hm)
  heldDistinct t1 t2 ph ph' a' h1 h2 ho1 ho2 := by
    have own : ∀ {a''}, ph1.owner = some a'' → a'' = a := fun h => by
      rcases hown1 with h' | h' <;> rw [h'] at h <;> cases h; rfl
    rcases getElem?_set_some h1 with ⟨e1, rfl⟩ | ⟨n1, hold1⟩ <;>
      rcases getElem?_set_some h2 with ⟨e2, rfl⟩ | ⟨n2, hold2⟩
    · rw [e1, e2]
    · cases own ho1; exact absurd ho2 (hothers t2 ph' n2 hold2)
    · cases own ho2; exact absurd ho1 (hothers t1 ph n1 hold1)
    · exact hI.heldDistinct t1 t2 ph ph' a' hold1 hold2 ho1 ho2
  phaseOK := hok
  logOK := hI.logOK

/-- **every legal action keeps the ownership discipline**: given what the threads' buffers and the log of
    the new state must satisfy (`hok`, `hlog`), the whole invariant holds again -/
theorem inv_apply {σ σ' : St} {act : Act} (hI : Inv σ) (hl : act.legal = true)
    (hs : apply σ act = some σ') (hok : ∀ (t : Nat) ph, σ'.thr[t]? = some ph → PhaseOK σ'.heap ph)
    (hlog : ∀ e ∈ σ'.log, e.2.2 = parse20 e.2.1) : Inv σ' := by
  cases act with
  | getAliased t inp a => cases hl
  | getPool t inp a =>
    obtain ⟨ht, hm, rfl⟩ := apply_getPool hs
    exact inv_thread_step hI (a := a) (.inl rfl)
      (fun hm' => ((hI.poolNodup.mem_erase_iff).1 hm').1 rfl)
      (fun t' ph' _ ht' ho => hI.heldNotFree t' ph' a ht' ho hm) (fun _ _ => rfl)
      (fun x hx => List.mem_of_mem_erase hx) (hI.poolNodup.erase a) hok
  | getNew t inp a content =>
    obtain ⟨ht, hf, _, rfl⟩ := apply_getNew hs
    simp only [St.fresh, Bool.and_eq_true, Bool.not_eq_true', List.all_eq_true] at hf
    refine inv_thread_step hI (a := a) (.inl rfl) ?_ ?_ (fun x hx => upd_other _ _ hx)
      (fun _ hx => hx) hI.poolNodup hok
    · intro hm; have := List.contains_iff_mem.2 hm; rw [hf.1] at this; cases this
    · intro t' ph' _ ht' ho
      have := hf.2 ph' (List.mem_of_getElem? ht')
      simp [ho] at this
  | tick t =>
    obtain ⟨ph, a, ht, ho, rfl⟩ := apply_tick hs
    refine inv_thread_step hI (a := a) ?_ (hI.heldNotFree t ph a ht ho) ?_
      (fun x hx => upd_other _ _ hx) (fun _ hx => hx) hI.poolNodup hok
    · rw [← ho]; exact tick_owner ph _
    · exact fun t' ph' hn ht' ho' => hn (hI.heldDistinct t' t ph' ph a ht' ht ho' ho)
  | put t =>
    obtain ⟨a, inp, r, ht, rfl⟩ := apply_put hs
    have hnf : a ∉ σ.pool := hI.heldNotFree t _ a ht rfl
    refine ⟨?_, List.nodup_cons.2 ⟨hnf, hI.poolNodup⟩, ?_, ?_, hok, hlog⟩
    · intro x hx
      rcases List.mem_cons.1 hx with rfl | hx
      · exact (hI.phaseOK t _ ht).1
      · exact hI.poolLen x hx
    · intro t' ph' a' ht' ho'
      rcases getElem?_set_some ht' with ⟨_, rfl⟩ | ⟨n, hold⟩
      · cases ho'
      · intro hm
        rcases List.mem_cons.1 hm with rfl | hm
        · exact n (hI.heldDistinct t' t ph' _ a' hold ht ho' rfl)
        · exact hI.heldNotFree t' ph' a' hold ho' hm
    · intro t1 t2 ph ph' a' h1 h2 ho1 ho2
      rcases getElem?_set_some h1 with ⟨_, rfl⟩ | ⟨_, hold1⟩
      · cases ho1
      · rcases getElem?_set_some h2 with ⟨_, rfl⟩ | ⟨_, hold2⟩
        · cases ho2
        · exact hI.heldDistinct t1 t2 ph ph' a' hold1 hold2 ho1 ho2
  | gc a =>
    obtain ⟨hm, rfl⟩ := apply_gc hs
    exact ⟨fun x hx => hI.poolLen x (List.mem_of_mem_erase hx), hI.poolNodup.erase a,
      fun t ph a' ht ho hm' => hI.heldNotFree t ph a' ht ho (List.mem_of_mem_erase hm'),
      hI.heldDistinct, hok, hlog⟩

end Pool
end Model
