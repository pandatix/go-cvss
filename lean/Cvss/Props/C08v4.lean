import Cvss.Proofs.Parse4Canon
/-!
# C08 (v4.0): parse then serialise gives the canonical form

`Vector()` only through `VK : VecContract` (on a well-formed object it spells `Spec.V4.canonical` of the
object's own values); `Get`/`Set` only through `K`.
-/
namespace C08.V4
open Spec (Pair b canonPairs)
open Model (Bytes O40 Res)
open Proofs.P4

variable (K : Proofs.Contract O40 Spec.V4.metrics)
variable (VK : Proofs.VecContract O40 Spec.V4.metrics K Spec.V4.canonical)

/-- **C08.** the serialisation of the parsed object is the canonical spelling of the witness -/
theorem vector_parse {s : Bytes} {c : O40} (h : parseK K s = .ok c) :
    ∀ w, Spec.V4.Witness s w → VK.vector c = Spec.V4.canonical w := by
  intro w hw
  rw [parseK_witness K hw] at h
  simp only [Res.ok.injEq] at h
  subst h
  have hv := (witness_iff.mp hw).2
  rw [VK.vector_eq _ (K.wf_setAll w K.zero K.wf_zero), canonical_eq, canonical_eq,
    Proofs.Table.canonPairs_congr (w₂ := w) fun m hm => by
      rw [K.valueOf_pairs good.nodup _ hm, K.get_setAll_zero good hv.complete hm]]

/-- the canonical spelling of a grammatical vector is grammatical -/
theorem canonical_G {s : Bytes} {w : List Pair} (hw : Spec.V4.Witness s w) : Spec.V4.G (Spec.V4.canonical w) :=
  ⟨_, witness_canonical (witness_iff.mp hw).2⟩

/-- … and its reading is the canonical pair list -/
theorem canonical_witness {s : Bytes} {w : List Pair} (hw : Spec.V4.Witness s w) :
    Spec.V4.Witness (Spec.V4.canonical w) (canonPairs Spec.V4.metrics w) :=
  witness_canonical (witness_iff.mp hw).2

/-- idempotence on pair lists (any list) -/
theorem canonPairs_idem (w : List Pair) :
    canonPairs Spec.V4.metrics (canonPairs Spec.V4.metrics w) = canonPairs Spec.V4.metrics w :=
  Proofs.Table.canonPairs_idem good.nodup w

/-- idempotence on strings: canonicalising the canonical spelling (read with *its* witness) changes nothing -/
theorem canonical_idem {s : Bytes} {w : List Pair} (hw : Spec.V4.Witness s w) :
    ∀ w', Spec.V4.Witness (Spec.V4.canonical w) w' → Spec.V4.canonical w' = Spec.V4.canonical w := by
  intro w' hw'
  rw [witness_unique hw' (canonical_witness hw), canonical_eq, canonical_eq, canonPairs_idem]

/-- a string is canonical when it is the canonical spelling of its own reading -/
def IsCanonical (s : Bytes) : Prop := ∃ w, Spec.V4.Witness s w ∧ s = Spec.V4.canonical w

/-- `s` canonical ⇒ parse then serialise returns `s` -/
theorem canonical_fixed {s : Bytes} {c : O40} (hs : IsCanonical s) (h : parseK K s = .ok c) : VK.vector c = s := by
  obtain ⟨w, hw, e⟩ := hs
  rw [vector_parse K VK h w hw, ← e]

/-- the canonical spelling of any grammatical vector is canonical; so parse∘serialise∘parse∘serialise = parse∘serialise -/
theorem canonical_isCanonical {s : Bytes} {w : List Pair} (hw : Spec.V4.Witness s w) : IsCanonical (Spec.V4.canonical w) :=
  ⟨_, canonical_witness hw, by rw [canonical_eq, canonical_eq, canonPairs_idem]⟩

theorem reparse {s : Bytes} {c c' : O40} (h : parseK K s = .ok c) (h' : parseK K (VK.vector c) = .ok c') :
    VK.vector c' = VK.vector c := by
  obtain ⟨w, hw, _⟩ := parseK_ok K h
  have e := vector_parse K VK h w hw
  rw [e] at h' ⊢
  exact canonical_fixed K VK (canonical_isCanonical hw) h'

/-- examples: explicit `X` and the optional metrics are normalised; a canonical string is a fixed point -/
example : Spec.V4.canonical [(b "AV", b "N"), (b "AC", b "L"), (b "AT", b "N"), (b "PR", b "N"), (b "UI", b "N"),
    (b "VC", b "H"), (b "VI", b "H"), (b "VA", b "H"), (b "SC", b "N"), (b "SI", b "N"), (b "SA", b "N"),
    (b "E", b "X"), (b "CR", b "H"), (b "MAV", b "X"), (b "U", b "Red")] =
    b "CVSS:4.0/AV:N/AC:L/AT:N/PR:N/UI:N/VC:H/VI:H/VA:H/SC:N/SI:N/SA:N/CR:H/U:Red" := by decide +kernel
example : IsCanonical (b "CVSS:4.0/AV:N/AC:L/AT:N/PR:N/UI:N/VC:H/VI:H/VA:H/SC:N/SI:N/SA:N/CR:H/U:Red") :=
  ⟨[(b "AV", b "N"), (b "AC", b "L"), (b "AT", b "N"), (b "PR", b "N"), (b "UI", b "N"),
    (b "VC", b "H"), (b "VI", b "H"), (b "VA", b "H"), (b "SC", b "N"), (b "SI", b "N"), (b "SA", b "N"),
    (b "CR", b "H"), (b "U", b "Red")], (read_iff _ _).mp (by decide +kernel), by decide +kernel⟩

/-! ## for `Model.parse40` itself, given the contract instances of the generated code -/

theorem vector_parse_model (hz : K.zero = O40.zero) (hs : K.set = O40.set) {s : Bytes} {c : O40}
    (h : Model.parse40 s = .ok c) : ∀ w, Spec.V4.Witness s w → VK.vector c = Spec.V4.canonical w := by
  rw [parse40_eq_parseK K hz hs] at h; exact vector_parse K VK h

end C08.V4
