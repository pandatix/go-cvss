import Cvss.Proofs.Parse4Run
/-!
# v4.0 parser proofs: acceptance, the recogniser, and the meaning of an accepted vector
-/
namespace Proofs.P4
open Spec (Pair render SLASH COLON legal isMetric allLegal abvs valueOf findMetric Metric)
open Model (Bytes O40 Res walk4 cutColon splitSlash)

/-- the conditions of `Spec.V4.Witness` that do not mention the string -/
def Valid (w : List Pair) : Prop :=
  allLegal Spec.V4.metrics w ∧ ∃ opt, opt.Sublist (abvs Spec.V4.optional) ∧ w.map (·.1) = abvs Spec.V4.base ++ opt

theorem witness_iff {s : Bytes} {w : List Pair} : Spec.V4.Witness s w ↔ s = Spec.V4.header ++ body w ∧ Valid w :=
  Iff.rfl

theorem Valid.lex {w : List Pair} (h : Valid w) : ∀ q ∈ w, Lexable q := fun q hq => lex_of_legal (h.1 q hq)

theorem Valid.length {w : List Pair} (h : Valid w) : 11 ≤ w.length := by
  obtain ⟨_, opt, _, h2⟩ := h
  have := congrArg List.length h2
  simp only [List.length_map, List.length_append] at this
  rw [base_length] at this
  omega

theorem Valid.names_sublist {w : List Pair} (h : Valid w) : (w.map (·.1)).Sublist (abvs Spec.V4.metrics) := by
  obtain ⟨_, opt, h1, h2⟩ := h
  rw [h2, abvs_metrics]
  exact List.Sublist.append (List.Sublist.refl _) h1

theorem Valid.nodup {w : List Pair} (h : Valid w) : (w.map (·.1)).Nodup := h.names_sublist.nodup good.nodup

theorem Valid.complete {w : List Pair} (h : Valid w) : Table.Complete Spec.V4.metrics w := by
  refine ⟨h.1, h.nodup, fun m hm hmand => ?_⟩
  obtain ⟨_, opt, _, h2⟩ := h
  rw [h2]
  exact List.mem_append_left _ (List.mem_map.mpr ⟨m, mandatory_base m hm hmand, rfl⟩)

theorem Valid.walk {w : List Pair} (h : Valid w) : ∃ o, walkAll ord0 (w.map (·.1)) = some o ∧ o.any (·.1) = false := by
  obtain ⟨_, opt, h1, h2⟩ := h
  rw [h2]; exact walkAll_valid _ _ opt h1

theorem finish_ok {r : Except Go.Err (O40 × Ord)} {c : O40} :
    finish r = .ok c ↔ ∃ o, r = .ok (c, o) ∧ o.any (·.1) = false := by
  unfold finish
  constructor
  · intro h
    split at h
    · simp at h
    · rename_i c' o
      split at h
      · simp at h
      · rename_i hn
        simp only [Res.ok.injEq] at h
        subst h
        exact ⟨o, rfl, by simpa using hn⟩
  · rintro ⟨o, rfl, h⟩
    simp [h]

section K
variable (K : Contract O40 Spec.V4.metrics)

theorem parseK_valid {w : List Pair} (h : Valid w) :
    parseK K (Spec.V4.header ++ body w) = .ok (K.setAll K.zero w) := by
  rw [parseK_render K w h.lex]
  obtain ⟨o, h1, h2⟩ := h.walk
  rw [runP_good K w K.zero ord0 o h.1 h1]
  exact finish_ok.mpr ⟨o, rfl, h2⟩

theorem parseK_witness {s : Bytes} {w : List Pair} (h : Spec.V4.Witness s w) :
    parseK K s = .ok (K.setAll K.zero w) := by
  obtain ⟨rfl, hv⟩ := witness_iff.mp h
  exact parseK_valid K hv

theorem parseK_ok {s : Bytes} {c : O40} (h : parseK K s = .ok c) :
    ∃ w, Spec.V4.Witness s w ∧ c = K.setAll K.zero w := by
  rcases parseK_cases K s with ⟨_, e⟩ | ⟨_, e⟩ | ⟨_, _, _, _, e⟩ | ⟨r, hs, e⟩
  · rw [e] at h; simp at h
  · rw [e] at h; simp at h
  · rw [e] at h; simp at h
  · rw [e] at h
    obtain ⟨o, h1, h2⟩ := finish_ok.mp h
    obtain ⟨hl, hw, hc⟩ := runP_ok K _ _ _ _ _ h1
    refine ⟨(Spec.splitSlash r).map cutColon, witness_iff.mpr ⟨?_, hl, ?_⟩, hc⟩
    · have hcol : ∀ el ∈ Spec.splitSlash r, COLON ∈ el := fun el hel =>
        Lex.colon_mem_of_snd_ne_nil (good.legal_clean (hl (cutColon el) (List.mem_map.mpr ⟨el, hel, rfl⟩))).2.2.2
      rw [hs, body_eq (by simpa using Lex.splitSlash_ne_nil r), Lex.map_render_cutColon hcol,
        Lex.joinSlash_splitSlash]
    · exact (walkAll_ok_iff _ _ _).mp ⟨o, hw, h2⟩

/-- C01: the parser accepts exactly the grammar -/
theorem parseK_isOk_iff (s : Bytes) : (parseK K s).isOk = true ↔ Spec.V4.G s := by
  constructor
  · intro h
    cases hp : parseK K s with
    | ok c => obtain ⟨w, hw, _⟩ := parseK_ok K hp; exact ⟨w, hw⟩
    | err e => rw [hp] at h; simp [Res.isOk] at h
    | panic => rw [hp] at h; simp [Res.isOk] at h
  · rintro ⟨w, hw⟩
    rw [parseK_witness K hw]; rfl

end K

theorem read_of_valid {w : List Pair} (h : Valid w) : Spec.V4.read? (Spec.V4.header ++ body w) = some w := by
  have hlen := h.length
  obtain ⟨hl, opt, h1, h2⟩ := h
  cases w with
  | nil => simp at hlen
  | cons p w =>
    have hlex : ∀ q ∈ p :: w, Lexable q := fun q hq => lex_of_legal (hl q hq)
    unfold Spec.V4.read?
    rw [(Lex.stripPrefix_eq_some_iff _ _ _).mpr rfl, body_eq (by simp)]
    simp only [ne_eq, not_true_eq_false, if_false]
    rw [Lex.splitSlash_join_render (by simp) (fun q hq => (hlex q hq).2),
      Lex.readPairs_map_render (fun q hq => (hlex q hq).1)]
    simp only
    rw [h2, List.take_left' base_length, List.drop_left' base_length, (Table.allLegalB_iff _ _).mpr hl,
      (isSubseq_iff _ _).mpr h1]
    simp

theorem valid_of_read {s : Bytes} {w : List Pair} (h : Spec.V4.read? s = some w) : Spec.V4.Witness s w := by
  unfold Spec.V4.read? at h
  split at h
  · simp at h
  · rename_i rest hs
    have hs' := (Lex.stripPrefix_eq_some_iff _ _ _).mp hs
    split at h
    · simp at h
    · rename_i c r
      split at h
      · simp at h
      · rename_i hc
        have hc' : c = SLASH := Classical.not_not.mp hc
        subst hc'
        split at h
        · rename_i w' hr
          dsimp only at h
          split at h
          · rename_i hcond
            simp only [Option.some.injEq] at h
            subst h
            simp only [Bool.and_eq_true, beq_iff_eq] at hcond
            obtain ⟨⟨hl, hb⟩, hsub⟩ := hcond
            have hels := Lex.map_render_of_readPairs hr
            have hne : w' ≠ [] := fun e => Lex.splitSlash_ne_nil r (by rw [← hels, e]; rfl)
            refine witness_iff.mpr ⟨?_, (Table.allLegalB_iff _ _).mp hl, (w'.map (·.1)).drop 11,
              (isSubseq_iff _ _).mp hsub, ?_⟩
            · rw [hs', body_eq hne, hels, Lex.joinSlash_splitSlash]
            · rw [← hb]; exact (List.take_append_drop 11 _).symm
          · simp at h
        · simp at h

theorem read_iff (s : Bytes) (w : List Pair) : Spec.V4.read? s = some w ↔ Spec.V4.Witness s w := by
  constructor
  · exact valid_of_read
  · intro h
    obtain ⟨rfl, hv⟩ := witness_iff.mp h
    exact read_of_valid hv

theorem witness_unique {s : Bytes} {w w' : List Pair} (h : Spec.V4.Witness s w) (h' : Spec.V4.Witness s w') : w = w' := by
  have := (read_iff s w).mpr h
  rw [(read_iff s w').mpr h'] at this
  exact (Option.some.inj this).symm

end Proofs.P4
