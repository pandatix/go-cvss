import Cvss.Proofs.Parse4Lex
/-!
# v4.0 parser proofs: the order walk

`Model.walk4` iterated over a list of abbreviations (`walkAll`), on an order of the shape
"`B` tagged `true`, then `Oo` tagged `false`" (`mk B Oo`), characterised by: the abbreviations are
`B` followed by a sub-sequence of `Oo` (or, when fewer than `|B|`, a prefix of `B`).
Generic in `B` and `Oo`; no table is consulted here.
-/
namespace Proofs.P4
open Model (Bytes walk4)

abbrev Ord := List (Bool × Bytes)

def walkAll : Ord → List Bytes → Option Ord
  | ord, [] => some ord
  | ord, a :: as =>
    match walk4 ord a with
    | none => none
    | some o => walkAll o as

/-- base group `B` (no skipping), then the optional abbreviations `Oo` -/
def mk (B Oo : List Bytes) : Ord := B.map (fun a => (true, a)) ++ Oo.map (fun a => (false, a))

theorem flatOrder_eq (g0 : List Bytes) (gs : List (List Bytes)) : Model.flatOrder (g0 :: gs) = mk g0 gs.flatten := rfl

@[simp] theorem walkAll_nil (ord : Ord) : walkAll ord [] = some ord := by simp [walkAll]

theorem walkAll_cons (ord : Ord) (a : Bytes) (as : List Bytes) :
    walkAll ord (a :: as) = (walk4 ord a).bind (fun o => walkAll o as) := by
  rw [walkAll]; cases walk4 ord a <;> rfl

theorem walkAll_append : ∀ (xs ys : List Bytes) (ord : Ord),
    walkAll ord (xs ++ ys) = (walkAll ord xs).bind (fun o => walkAll o ys)
  | [], ys, ord => by simp
  | x :: xs, ys, ord => by
    rw [List.cons_append, walkAll_cons, walkAll_cons]
    cases walk4 ord x with
    | none => rfl
    | some o => simp [walkAll_append xs ys o]

theorem walk4_base (b : Bytes) (B Oo : List Bytes) (a : Bytes) :
    walk4 (mk (b :: B) Oo) a = if a = b then some (mk B Oo) else none := by
  simp only [mk, List.map_cons, List.cons_append, walk4]
  by_cases h : a = b <;> simp [h]

theorem walk4_opt_nil (a : Bytes) : walk4 (mk [] []) a = none := rfl

theorem walk4_opt_cons (y : Bytes) (ys : List Bytes) (a : Bytes) :
    walk4 (mk [] (y :: ys)) a = if a = y then some (mk [] ys) else walk4 (mk [] ys) a := by
  simp only [mk, List.map_cons, List.map_nil, List.nil_append, walk4]
  simp

theorem walk4_some : ∀ {ord ord' : Ord} {a : Bytes}, walk4 ord a = some ord' →
    ∃ pre t, ord = pre ++ (t, a) :: ord'
  | [], _, _, h => by simp [walk4] at h
  | (t, n) :: rest, ord', a, h => by
    rw [walk4] at h
    split at h
    · simp at h
    · split at h
      · rename_i e
        simp only [Option.some.injEq] at h
        subst h; subst e
        exact ⟨[], t, rfl⟩
      · obtain ⟨pre, t', e⟩ := walk4_some h
        exact ⟨(t, n) :: pre, t', by rw [e]; rfl⟩

theorem walk4_none_of_not_mem {ord : Ord} {a : Bytes} (h : a ∉ ord.map (·.2)) : walk4 ord a = none := by
  cases hw : walk4 ord a with
  | none => rfl
  | some o =>
    obtain ⟨pre, t, e⟩ := walk4_some hw
    exact absurd (by rw [e]; simp) h

/-! ## the optional phase is the greedy sub-sequence test -/

theorem isSubseq_eq_isSublist : ∀ (ys xs : List Bytes), Spec.isSubseq xs ys = xs.isSublist ys
  | _, [] => by cases ‹List Bytes› <;> simp [Spec.isSubseq, List.isSublist]
  | [], _ :: _ => by simp [Spec.isSubseq, List.isSublist]
  | y :: ys, x :: xs => by
    rw [Spec.isSubseq, List.isSublist]
    by_cases h : x = y
    · simp [h, isSubseq_eq_isSublist ys xs]
    · simp [h, isSubseq_eq_isSublist ys (x :: xs)]

theorem isSubseq_iff (xs ys : List Bytes) : Spec.isSubseq xs ys = true ↔ xs.Sublist ys := by
  rw [isSubseq_eq_isSublist]; exact List.isSublist_iff_sublist

theorem walkAll_opt : ∀ (os names : List Bytes),
    (∃ os', walkAll (mk [] os) names = some (mk [] os')) ∨ walkAll (mk [] os) names = none
  | os, [] => Or.inl ⟨os, by simp⟩
  | [], a :: as => Or.inr (by rw [walkAll_cons, walk4_opt_nil]; rfl)
  | y :: ys, a :: as => by
    by_cases h : a = y
    · have := walkAll_opt ys as
      rw [walkAll_cons, walk4_opt_cons, if_pos h]
      exact this
    · have := walkAll_opt ys (a :: as)
      rw [walkAll_cons] at this
      rw [walkAll_cons, walk4_opt_cons, if_neg h]
      exact this

theorem walkAll_opt_isSome : ∀ (os names : List Bytes),
    (walkAll (mk [] os) names).isSome = Spec.isSubseq names os
  | os, [] => by cases os <;> simp [Spec.isSubseq]
  | [], a :: as => by rw [walkAll_cons, walk4_opt_nil]; simp [Spec.isSubseq]
  | y :: ys, a :: as => by
    by_cases h : a = y
    · have := walkAll_opt_isSome ys as
      rw [walkAll_cons, walk4_opt_cons, if_pos h, Spec.isSubseq, if_pos h]
      exact this
    · have := walkAll_opt_isSome ys (a :: as)
      rw [walkAll_cons] at this
      rw [walkAll_cons, walk4_opt_cons, if_neg h, Spec.isSubseq, if_neg h]
      exact this

theorem any_mk_nil (os : List Bytes) : (mk [] os).any (·.1) = false := by
  simp [mk]

theorem any_mk_cons (b : Bytes) (B os : List Bytes) : (mk (b :: B) os).any (·.1) = true := by
  simp [mk]

theorem walkAll_base_cons (b : Bytes) (B Oo : List Bytes) (a : Bytes) (as : List Bytes) :
    walkAll (mk (b :: B) Oo) (a :: as) = if a = b then walkAll (mk B Oo) as else none := by
  rw [walkAll_cons, walk4_base]
  by_cases h : a = b <;> simp [h]

theorem walkAll_some : ∀ (B Oo names : List Bytes) (ord' : Ord), walkAll (mk B Oo) names = some ord' →
    (names.length < B.length ∧ names = B.take names.length ∧ ord' = mk (B.drop names.length) Oo ∧
      ord'.any (·.1) = true) ∨
    (∃ opt, names = B ++ opt ∧ opt.Sublist Oo ∧ ord'.any (·.1) = false)
  | [], Oo, names, ord', h => by
    right
    refine ⟨names, by simp, ?_, ?_⟩
    · rw [← isSubseq_iff, ← walkAll_opt_isSome, h]; rfl
    · rcases walkAll_opt Oo names with ⟨os', e⟩ | e
      · rw [e] at h; simp only [Option.some.injEq] at h; subst h; exact any_mk_nil os'
      · rw [e] at h; simp at h
  | b :: B, Oo, [], ord', h => by
    left
    simp only [walkAll_nil, Option.some.injEq] at h
    subst h
    exact ⟨by simp, by simp, by simp, any_mk_cons b B Oo⟩
  | b :: B, Oo, a :: as, ord', h => by
    rw [walkAll_base_cons] at h
    by_cases e : a = b
    · rw [if_pos e] at h
      subst e
      rcases walkAll_some B Oo as ord' h with ⟨h1, h2, h3, h4⟩ | ⟨opt, h1, h2, h3⟩
      · left
        refine ⟨by simpa using h1, ?_, by simpa using h3, h4⟩
        simp only [List.length_cons, List.take_succ_cons]
        rw [← h2]
      · right
        exact ⟨opt, by simp [h1], h2, h3⟩
    · rw [if_neg e] at h; simp at h

theorem walkAll_take : ∀ (B Oo : List Bytes) (k : Nat), walkAll (mk B Oo) (B.take k) = some (mk (B.drop k) Oo)
  | B, Oo, 0 => by simp
  | [], Oo, k + 1 => by simp
  | b :: B, Oo, k + 1 => by
    rw [List.take_succ_cons, walkAll_base_cons, if_pos rfl, walkAll_take B Oo k]; rfl

theorem walkAll_valid (B Oo opt : List Bytes) (h : opt.Sublist Oo) :
    ∃ ord', walkAll (mk B Oo) (B ++ opt) = some ord' ∧ ord'.any (·.1) = false := by
  rw [walkAll_append]
  have := walkAll_take B Oo B.length
  rw [List.take_length, List.drop_length] at this
  rw [this]
  simp only [Option.bind_some]
  have h2 := walkAll_opt_isSome Oo opt
  rw [(isSubseq_iff opt Oo).mpr h] at h2
  rcases walkAll_opt Oo opt with ⟨os', e⟩ | e
  · exact ⟨_, e, any_mk_nil os'⟩
  · rw [e] at h2; simp at h2

theorem walkAll_ok_iff (B Oo names : List Bytes) :
    (∃ ord', walkAll (mk B Oo) names = some ord' ∧ ord'.any (·.1) = false) ↔
    ∃ opt, opt.Sublist Oo ∧ names = B ++ opt := by
  constructor
  · rintro ⟨ord', h, hany⟩
    rcases walkAll_some B Oo names ord' h with ⟨_, _, _, h4⟩ | ⟨opt, h1, h2, _⟩
    · rw [h4] at hany; exact absurd hany (by simp)
    · exact ⟨opt, h2, h1⟩
  · rintro ⟨opt, h1, rfl⟩
    exact walkAll_valid B Oo opt h1

end Proofs.P4
