import Cvss.Proofs.Bits31
import Cvss.Proofs.Score3Util
/-!
# C03: from a well-formed object to codes, and from the strings `Get` returns to Spec weights

(e) `wf c →` every field code is in range (`Bits31.layout`); the Spec weight of the value string that the generated
`Get` returns for a code is the code-indexed weight; `mod base modified` is the code of the Spec's effective value
(case analysis on the codes the generated `Get_core` reads).
The `Get_core` of the v3.0 package is the same term (`V30.valOf_eq`), so everything here that speaks of strings serves
both versions; the field codes are those of a v3.1 object.
-/
namespace Proofs.Score3.V31
open Spec Spec.V3 GenV31

/-- the vector of an object with the given field codes, as the Spec sees it: metric ↦ value string of `Get` -/
def valOf (r0 r1 r2 r3 r4 r5 r6 r7 r8 r9 r10 r11 r12 r13 r14 r15 r16 r17 r18 r19 r20 r21 : Nat) : Bytes → Bytes := fun a =>
  (Get_core r0 r1 r2 r3 r4 r5 r6 r7 r8 r9 r10 r11 r12 r13 r14 r15 r16 r17 r18 r19 r20 r21 a).1

section strings
variable {r0 r1 r2 r3 r4 r5 r6 r7 r8 r9 r10 r11 r12 r13 r14 r15 r16 r17 r18 r19 r20 r21 : Nat}
local notation "V" => valOf r0 r1 r2 r3 r4 r5 r6 r7 r8 r9 r10 r11 r12 r13 r14 r15 r16 r17 r18 r19 r20 r21

theorem w_AV (h : r0 < 4) : wAV (V (b "AV")) = cAV r0 := by
  have : r0 = 0 ∨ r0 = 1 ∨ r0 = 2 ∨ r0 = 3 := by omega
  rcases this with rfl | rfl | rfl | rfl <;> rfl
theorem w_AC (h : r1 < 2) : wAC (V (b "AC")) = cAC r1 := by
  have : r1 = 0 ∨ r1 = 1 := by omega
  rcases this with rfl | rfl <;> rfl
theorem w_PR (h : r2 < 3) (ch : Bool) : wPR ch (V (b "PR")) = cPR r2 ch := by
  have : r2 = 0 ∨ r2 = 1 ∨ r2 = 2 := by omega
  rcases this with rfl | rfl | rfl <;> cases ch <;> rfl
theorem w_UI (h : r3 < 2) : wUI (V (b "UI")) = cUI r3 := by
  have : r3 = 0 ∨ r3 = 1 := by omega
  rcases this with rfl | rfl <;> rfl
theorem w_S (h : r4 < 2) : changed V = Nat.beq r4 1 := by
  have : r4 = 0 ∨ r4 = 1 := by omega
  rcases this with rfl | rfl <;> rfl
theorem w_C (h : r5 < 3) : wCIA (V (b "C")) = cCIA r5 := by
  have : r5 = 0 ∨ r5 = 1 ∨ r5 = 2 := by omega
  rcases this with rfl | rfl | rfl <;> rfl
theorem w_I (h : r6 < 3) : wCIA (V (b "I")) = cCIA r6 := by
  have : r6 = 0 ∨ r6 = 1 ∨ r6 = 2 := by omega
  rcases this with rfl | rfl | rfl <;> rfl
theorem w_A (h : r7 < 3) : wCIA (V (b "A")) = cCIA r7 := by
  have : r7 = 0 ∨ r7 = 1 ∨ r7 = 2 := by omega
  rcases this with rfl | rfl | rfl <;> rfl
theorem w_E (h : r8 < 5) : wE (V (b "E")) = cE r8 := by
  have : r8 = 0 ∨ r8 = 1 ∨ r8 = 2 ∨ r8 = 3 ∨ r8 = 4 := by omega
  rcases this with rfl | rfl | rfl | rfl | rfl <;> rfl
theorem w_RL (h : r9 < 5) : wRL (V (b "RL")) = cRL r9 := by
  have : r9 = 0 ∨ r9 = 1 ∨ r9 = 2 ∨ r9 = 3 ∨ r9 = 4 := by omega
  rcases this with rfl | rfl | rfl | rfl | rfl <;> rfl
theorem w_RC (h : r10 < 4) : wRC (V (b "RC")) = cRC r10 := by
  have : r10 = 0 ∨ r10 = 1 ∨ r10 = 2 ∨ r10 = 3 := by omega
  rcases this with rfl | rfl | rfl | rfl <;> rfl
theorem w_CR (h : r11 < 4) : wReq (V (b "CR")) = cReq r11 := by
  have : r11 = 0 ∨ r11 = 1 ∨ r11 = 2 ∨ r11 = 3 := by omega
  rcases this with rfl | rfl | rfl | rfl <;> rfl
theorem w_IR (h : r12 < 4) : wReq (V (b "IR")) = cReq r12 := by
  have : r12 = 0 ∨ r12 = 1 ∨ r12 = 2 ∨ r12 = 3 := by omega
  rcases this with rfl | rfl | rfl | rfl <;> rfl
theorem w_AR (h : r13 < 4) : wReq (V (b "AR")) = cReq r13 := by
  have : r13 = 0 ∨ r13 = 1 ∨ r13 = 2 ∨ r13 = 3 := by omega
  rcases this with rfl | rfl | rfl | rfl <;> rfl

/-! Modified metrics: the Spec's effective value (`X` ↦ Base metric's value) has the code `mod base modified` -/
theorem w_MAV (h : r0 < 4) (h' : r14 < 5) : wAV (modified V "MAV" "AV") = cAV (mod_ r0 r14) := by
  have : r0 = 0 ∨ r0 = 1 ∨ r0 = 2 ∨ r0 = 3 := by omega
  have : r14 = 0 ∨ r14 = 1 ∨ r14 = 2 ∨ r14 = 3 ∨ r14 = 4 := by omega
  rcases ‹r0 = 0 ∨ _› with rfl | rfl | rfl | rfl <;> rcases ‹r14 = 0 ∨ _› with rfl | rfl | rfl | rfl | rfl <;> rfl
theorem w_MAC (h : r1 < 2) (h' : r15 < 3) : wAC (modified V "MAC" "AC") = cAC (mod_ r1 r15) := by
  have : r1 = 0 ∨ r1 = 1 := by omega
  have : r15 = 0 ∨ r15 = 1 ∨ r15 = 2 := by omega
  rcases ‹r1 = 0 ∨ _› with rfl | rfl <;> rcases ‹r15 = 0 ∨ _› with rfl | rfl | rfl <;> rfl
theorem w_MPR (h : r2 < 3) (h' : r16 < 4) (ch : Bool) : wPR ch (modified V "MPR" "PR") = cPR (mod_ r2 r16) ch := by
  have : r2 = 0 ∨ r2 = 1 ∨ r2 = 2 := by omega
  have : r16 = 0 ∨ r16 = 1 ∨ r16 = 2 ∨ r16 = 3 := by omega
  rcases ‹r2 = 0 ∨ _› with rfl | rfl | rfl <;> rcases ‹r16 = 0 ∨ _› with rfl | rfl | rfl | rfl <;> cases ch <;> rfl
theorem w_MUI (h : r3 < 2) (h' : r17 < 3) : wUI (modified V "MUI" "UI") = cUI (mod_ r3 r17) := by
  have : r3 = 0 ∨ r3 = 1 := by omega
  have : r17 = 0 ∨ r17 = 1 ∨ r17 = 2 := by omega
  rcases ‹r3 = 0 ∨ _› with rfl | rfl <;> rcases ‹r17 = 0 ∨ _› with rfl | rfl | rfl <;> rfl
theorem w_MS (h : r4 < 2) (h' : r18 < 3) : modifiedChanged V = Nat.beq (mod_ r4 r18) 1 := by
  have : r4 = 0 ∨ r4 = 1 := by omega
  have : r18 = 0 ∨ r18 = 1 ∨ r18 = 2 := by omega
  rcases ‹r4 = 0 ∨ _› with rfl | rfl <;> rcases ‹r18 = 0 ∨ _› with rfl | rfl | rfl <;> rfl
theorem w_MC (h : r5 < 3) (h' : r19 < 4) : wCIA (modified V "MC" "C") = cCIA (mod_ r5 r19) := by
  have : r5 = 0 ∨ r5 = 1 ∨ r5 = 2 := by omega
  have : r19 = 0 ∨ r19 = 1 ∨ r19 = 2 ∨ r19 = 3 := by omega
  rcases ‹r5 = 0 ∨ _› with rfl | rfl | rfl <;> rcases ‹r19 = 0 ∨ _› with rfl | rfl | rfl | rfl <;> rfl
theorem w_MI (h : r6 < 3) (h' : r20 < 4) : wCIA (modified V "MI" "I") = cCIA (mod_ r6 r20) := by
  have : r6 = 0 ∨ r6 = 1 ∨ r6 = 2 := by omega
  have : r20 = 0 ∨ r20 = 1 ∨ r20 = 2 ∨ r20 = 3 := by omega
  rcases ‹r6 = 0 ∨ _› with rfl | rfl | rfl <;> rcases ‹r20 = 0 ∨ _› with rfl | rfl | rfl | rfl <;> rfl
theorem w_MA (h : r7 < 3) (h' : r21 < 4) : wCIA (modified V "MA" "A") = cCIA (mod_ r7 r21) := by
  have : r7 = 0 ∨ r7 = 1 ∨ r7 = 2 := by omega
  have : r21 = 0 ∨ r21 = 1 ∨ r21 = 2 ∨ r21 = 3 := by omega
  rcases ‹r7 = 0 ∨ _› with rfl | rfl | rfl <;> rcases ‹r21 = 0 ∨ _› with rfl | rfl | rfl | rfl <;> rfl

/-! the unrounded sub-scores on strings = on codes -/
theorem spec_impact (h4 : r4 < 2) (h5 : r5 < 3) (h6 : r6 < 3) (h7 : r7 < 3) : impactD V = specImpact r4 r5 r6 r7 := by
  simp only [impactD, specImpact, w_S h4, w_C h5, w_I h6, w_A h7]
theorem spec_expl (h0 : r0 < 4) (h1 : r1 < 2) (h2 : r2 < 3) (h3 : r3 < 2) (h4 : r4 < 2) :
    exploitabilityD V = specExpl r0 r1 r2 r3 r4 := by
  simp only [exploitabilityD, specExpl, w_S h4, w_AV h0, w_AC h1, w_PR h2, w_UI h3]
end strings

/-! ## Code vectors -/

/-- the vector with field codes `r 0 … r 21` (Spec table order), as the Spec sees it -/
abbrev vec (r : Nat → Nat) : Bytes → Bytes :=
  valOf (r 0) (r 1) (r 2) (r 3) (r 4) (r 5) (r 6) (r 7) (r 8) (r 9) (r 10) (r 11) (r 12) (r 13) (r 14) (r 15) (r 16)
    (r 17) (r 18) (r 19) (r 20) (r 21)

/-- every code is an index into its metric's value list -/
structure InRange (r : Nat → Nat) : Prop where
  h0 : r 0 < 4     -- AV
  h1 : r 1 < 2     -- AC
  h2 : r 2 < 3     -- PR
  h3 : r 3 < 2     -- UI
  h4 : r 4 < 2     -- S
  h5 : r 5 < 3     -- C
  h6 : r 6 < 3     -- I
  h7 : r 7 < 3     -- A
  h8 : r 8 < 5     -- E
  h9 : r 9 < 5     -- RL
  h10 : r 10 < 4   -- RC
  h11 : r 11 < 4   -- CR
  h12 : r 12 < 4   -- IR
  h13 : r 13 < 4   -- AR
  h14 : r 14 < 5   -- MAV
  h15 : r 15 < 3   -- MAC
  h16 : r 16 < 4   -- MPR
  h17 : r 17 < 3   -- MUI
  h18 : r 18 < 3   -- MS
  h19 : r 19 < 4   -- MC
  h20 : r 20 < 4   -- MI
  h21 : r 21 < 4   -- MA

/-- the bounds are the lengths of the value lists that `Bits31.vals` reads off `Get_core` -/
theorem InRange.of_vals {r : Nat → Nat} (W : ∀ j, j < 22 → r j < (Bits31.vals j).length) : InRange r :=
  ⟨W 0 (by decide), W 1 (by decide), W 2 (by decide), W 3 (by decide), W 4 (by decide), W 5 (by decide),
   W 6 (by decide), W 7 (by decide), W 8 (by decide), W 9 (by decide), W 10 (by decide), W 11 (by decide),
   W 12 (by decide), W 13 (by decide), W 14 (by decide), W 15 (by decide), W 16 (by decide), W 17 (by decide),
   W 18 (by decide), W 19 (by decide), W 20 (by decide), W 21 (by decide)⟩

/-- `Impact`/`BaseScore` read the scope field unshifted (`u0 & 2`) and only test it for zero: the same test as on the
    `S` code `(u0 & 2) >> 1` -/
theorem scope_beq (u : Nat) : Nat.beq (Nat.land u 2) 0 = Nat.beq (Nat.shiftRight (Nat.land u 2) 1) 0 := by
  rw [Bits.land_mod256 u 2 (by decide)]
  exact (by decide +kernel : ∀ w, w < 256 → Nat.beq (Nat.land w 2) 0 = Nat.beq (Nat.shiftRight (Nat.land w 2) 1) 0)
    _ (Nat.mod_lt _ (by decide))

/-! ## Field codes of an object -/
section codes
variable (c : Model.O31)
/-- field code `j`, in Spec table order -/
def cd (j : Nat) : Nat := (Bits31.codes c).getD j 0
/-- the scope field as `Impact`/`BaseScore` read it (not shifted) -/
def kS : Nat := Nat.land c.u0 (2 : Nat)

/-- the vector of `c` as the Spec sees it -/
def val : Bytes → Bytes := fun a => (c.get a).1

/-! hoisting: every generated method is its `_core` on these codes (definitional) -/
theorem val_eq : val c = vec (cd c) := rfl
theorem baseScore_eq : c.baseScore =
    BaseScore_core (cd c 5) (cd c 6) (cd c 7) (kS c) (cd c 0) (cd c 1) (cd c 2) (cd c 4) (cd c 3) := rfl
theorem temporalScore_eq : c.temporalScore =
    TemporalScore_core (cd c 8) (cd c 9) (cd c 10) (cd c 5) (cd c 6) (cd c 7) (kS c) (cd c 0) (cd c 1) (cd c 2) (cd c 4)
      (cd c 3) := rfl
theorem environmentalScore_eq : c.environmentalScore =
    EnvironmentalScore_core (cd c 0) (cd c 14) (cd c 1) (cd c 15) (cd c 2) (cd c 16) (cd c 3) (cd c 17) (cd c 4)
      (cd c 18) (cd c 5) (cd c 19) (cd c 6) (cd c 20) (cd c 7) (cd c 21) (cd c 11) (cd c 12) (cd c 13) (cd c 8) (cd c 9)
      (cd c 10) := rfl
theorem impact_eq : c.impact = Impact_core (cd c 5) (cd c 6) (cd c 7) (kS c) := rfl
theorem exploitability_eq : c.exploitability = Exploitability_core (cd c 0) (cd c 1) (cd c 2) (cd c 4) (cd c 3) := rfl
end codes

/-- all field codes of a well-formed object are in range -/
theorem inRange_of_wf (c : Model.O31) (h : c.wf = true) : InRange (cd c) :=
  .of_vals ((Bits31.layout.wf_iff Bits31.tableOK c).mp h).2.2

end Proofs.Score3.V31
