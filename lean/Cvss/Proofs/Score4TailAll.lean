import Cvss.Proofs.Score4Tail00
import Cvss.Proofs.Score4Tail01
import Cvss.Proofs.Score4Tail02
/-!
# v4.0 float tail and the primitive form of the Spec's score: all 270 MacroVectors (52,650 points)
-/
namespace Proofs.Score4

theorem tailChunk_all : ∀ {q1 q2 q5 : Nat}, q1 < 3 → q2 < 2 → q5 < 3 → tailChunk q1 q2 q5 = true
  | 0, 0, 0, _, _, _ => tail_000
  | 0, 0, 1, _, _, _ => tail_001
  | 0, 0, 2, _, _, _ => tail_002
  | 0, 1, 0, _, _, _ => tail_010
  | 0, 1, 1, _, _, _ => tail_011
  | 0, 1, 2, _, _, _ => tail_012
  | 1, 0, 0, _, _, _ => tail_100
  | 1, 0, 1, _, _, _ => tail_101
  | 1, 0, 2, _, _, _ => tail_102
  | 1, 1, 0, _, _, _ => tail_110
  | 1, 1, 1, _, _, _ => tail_111
  | 1, 1, 2, _, _, _ => tail_112
  | 2, 0, 0, _, _, _ => tail_200
  | 2, 0, 1, _, _, _ => tail_201
  | 2, 0, 2, _, _, _ => tail_202
  | 2, 1, 0, _, _, _ => tail_210
  | 2, 1, 1, _, _, _ => tail_211
  | 2, 1, 2, _, _, _ => tail_212
  | _ + 3, _, _, h, _, _ => absurd h (by omega)
  | _, _ + 2, _, _, h, _ => absurd h (by omega)
  | _, _, _ + 3, _, _, h => absurd h (by omega)

/-- **float tail and Spec bridge**: for every MacroVector and every distance tuple within its depths, the generated
    tail returns the bits of `F64.tenth` of the Spec's score, which is `Mono4.scoreP` and at least one tenth -/
theorem point_all {q1 q2 q3 q4 q5 q6 d1 d2 d36 d4 : Nat} (h1 : q1 < 3) (h2 : q2 < 2) (h3 : q3 < 3) (h4 : q4 < 3)
    (h5 : q5 < 3) (h6 : q6 < 2) (h : ¬(q3 = 2 ∧ q6 = 0)) (hd1 : d1 < Spec.V4.depth1P1 q1)
    (hd2 : d2 < Spec.V4.depth2P1 q2) (hd36 : d36 < Spec.V4.depth36P1 q3 q6) (hd4 : d4 < Spec.V4.depth4P1 q4) :
    tailF q1 q2 q3 q4 q5 q6 d1 d2 d36 d4 = F64.tenth (Spec.V4.scoreOf (q1, q2, q3, q4, q5, q6) d1 d2 d36 d4 0) ∧
    Spec.V4.scoreOf (q1, q2, q3, q4, q5, q6) d1 d2 d36 d4 0 = Mono4.scoreP q1 q2 q3 q4 q5 q6 d1 d2 d36 d4 ∧
    1 ≤ Mono4.scoreP q1 q2 q3 q4 q5 q6 d1 d2 d36 d4 :=
  point_of_chunk (tailChunk_all h1 h2 h5) h3 h4 h6 h hd1 hd2 hd36 hd4

end Proofs.Score4
