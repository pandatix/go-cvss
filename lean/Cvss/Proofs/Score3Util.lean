import Cvss.Model.WF
import Cvss.Proofs.Score3Spec
import Cvss.Proofs.Range
/-!
# C03 helpers shared by both versions: forcing combinator, outcome predicates
-/
namespace Proofs.Score3
open Spec Spec.V3

theorem flet_eq {α : Sort u} (x : Nat) (k : Nat → α) : F64.flet x k = k x := by cases x <;> rfl

/-- the model value `bits` is exactly the double nearest `k/10` for the Spec value `k` (a number of tenths),
    and `0 ≤ k ≤ 100` -/
def isTenth (bits : Nat) (k : Int) : Bool :=
  match k with
  | Int.ofNat K => Nat.beq bits (F64.tenth K) && Nat.ble K 100
  | Int.negSucc _ => false

theorem isTenth_elim {bits : Nat} {k : Int} (h : isTenth bits k = true) :
    ∃ K : Nat, k = Int.ofNat K ∧ bits = F64.tenth K ∧ K ≤ 100 := by
  cases k with
  | ofNat K =>
    simp only [isTenth, Bool.and_eq_true] at h
    exact ⟨K, rfl, Nat.eq_of_beq_eq_true h.1, Nat.le_of_ble_eq_true h.2⟩
  | negSucc n => exact absurd h Bool.false_ne_true

/-- `x·100000` is not half-way between two integers, so every reading of Appendix A's `round_to_nearest_integer`
    (ties up, down, to even, away from zero) gives the same `int_input` -/
def noTie (x : Dec) : Bool :=
  !((x.num * 200000) % (2 * ((10 ^ x.exp : Nat) : Int)) == ((10 ^ x.exp : Nat) : Int))
/-- real-number `Roundup` and Appendix-A `Roundup` agree on `x`, and Appendix A's rounding step has no tie -/
def agreeA (x : Dec) : Bool := decide (Roundup x = RoundupA x) && noTie x

/-- every tenth `k/10`, `k ≤ 100`, is a finite double, IEEE-equal to itself (so bit equality gives `F64.eq`) -/
theorem tenth_fin : ∀ k, k < 101 → (F64.eq (F64.tenth k) (F64.tenth k) && F64.isFin (F64.tenth k)
    && !(Nat.beq (F64.tenth k) 0x7FF8DEAD00000000)) = true := by decide +kernel

end Proofs.Score3
