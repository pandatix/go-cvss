import Cvss.Gen.V30
/-!
# State tie, package 30 — what every property about this package silently assumes

The translator turns each Go function into a pure Lean function of its arguments and reads tables and constants from their
initialisers. That is only the program's behaviour if nothing else can change them: no `init` function, no assignment to (or
address taken of) a package-level variable anywhere in the package, no method call on a package-level variable except v2's
`splitPool.Get/Put`, and no source file that a differently tagged build would add or drop (the checks run a `-tags verif`
build; the hooks files `zz_verif*.go` only add exported accessors). These facts are regenerated from the source on every run
(`pkg_*` lists at the end of `Gen/V30.lean`) and compared here with the expected lists; every property of this package
builds this module as a tie.
-/
namespace StateTie
theorem v30 : GenV30.pkg_inits = [] ∧ GenV30.pkg_build_tags = [] ∧ GenV30.pkg_writes = [] ∧
    GenV30.pkg_calls = [] := ⟨rfl, rfl, rfl, rfl⟩
/-- … and the set of package-level variables is exactly the documented one (error sentinels, immutable tables, v2's pool) -/
theorem vars30 : GenV30.pkg_vars =
    ["ErrInvalidCVSSHeader:error", "ErrInvalidMetricValue:error", "ErrOutOfBoundsScore:error", "ErrTooShortVector:error"] := rfl
/-- the object is exactly its packed bytes: 6 `uint8` fields and nothing else (so Go's `==` on objects is equality of the
    bytes the model works on — no cached or hidden state takes part in it), and only these methods have a pointer receiver
    (every other method works on a copy and cannot change the object) -/
theorem obj30 : GenV30.obj_fields = ["u0:uint8", "u1:uint8", "u2:uint8", "u3:uint8", "u4:uint8", "u5:uint8"] ∧ GenV30.obj_ptr_methods = ["Set"] := ⟨rfl, rfl⟩
/-- what the pointer-receiver methods do with their receiver: only `Set` assigns through it; none takes an address inside the
    object, hands the pointer on, or keeps an alias -/
theorem effects30 : GenV30.obj_ptr_effects = ["Set:writes"] := rfl
/-- `sync.Pool`s of the package: none -/
theorem pool30 : GenV30.pool_new = [] ∧ GenV30.pool_uses = [] := ⟨rfl, rfl⟩
/-- the package imports exactly these standard packages (no `os`, `time`, `runtime`, `reflect`, `C`, no module-internal package:
    nothing through which the environment, the clock, the scheduler or foreign code could reach the translated functions) -/
theorem imports30 : GenV30.pkg_imports = ["errors", "fmt", "math", "strings", "unsafe"] := rfl
/-- files and initialisers outside what the translator reads: the hooks file declares only the `Verif…` accessors (no `init`, no
    variable, no import), no file of the directory belongs to another platform's or another tag's build, and the only package-level
    initialisers that run code are the `errors.New` sentinels -/
theorem files30 : GenV30.hook_decls = ["zz_verif_hooks.go:func VerifBytes", "zz_verif_hooks.go:func VerifFromBytes", "zz_verif_hooks.go:func VerifLenVec", "zz_verif_hooks.go:func VerifRoundup"] ∧
    GenV30.pkg_other_files = [] ∧
    GenV30.pkg_var_inits = ["ErrInvalidCVSSHeader:call errors.New", "ErrInvalidMetricValue:call errors.New", "ErrOutOfBoundsScore:call errors.New", "ErrTooShortVector:call errors.New"] := ⟨rfl, rfl, rfl⟩
/-- which function mentions which package-level table or pool (the `error` sentinels aside): nothing else in the package —
    no `Error()` method, initialiser or untranslated helper — can read or write them, whatever aliasing it might use -/
theorem uses30 : GenV30.pkg_var_uses = [] := rfl
/-- the only pre-sized buffer is `Vector`'s (its capacity is `lenVec()`, `C17.cap_eq_lenVec30`; a run-time capacity anywhere else
    would be an unmodelled panic source), the only mention of package `unsafe` is `Vector`'s string conversion, and the hooks file is
    byte for byte the committed one -/
theorem buffers30 : GenV30.pkg_presized = ["CVSS30.Vector"] ∧ GenV30.pkg_unsafe_all = ["CVSS30.Vector:unsafe.Pointer"] ∧
    GenV30.hook_sha = ["zz_verif_hooks.go:6fcc9fa640673df6"] := ⟨rfl, rfl, rfl⟩
end StateTie
