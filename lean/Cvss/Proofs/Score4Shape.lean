import Cvss.Gen.V40
import Cvss.Base.F64
/-!
# v4.0 `Score`: the generated core, re-read in separable form

`ScoreH` below is the text of the generated `GenV40.Score_core` cut into named pieces
(`pre`: lookups of the MacroVector and of its next-lower MacroVectors; `loops`: the four nested
loops over the highest severity vectors; `post`: proportions, mean and rounding). The pieces are
copies of the generated text; `Score_core_eq_ScoreH` ties them to the generated definition **by
definitional unfolding** (`rfl`), so any change of the Go source that changes the generated
`Score_core` makes that theorem fail unless the pieces are changed in the same way. The tables and
the functions called (`lookupMV`, `macroVector_core`, `mod_`, `severityDistance`, `getDepth*`, `roundup`)
are the generated definitions, referenced by name.
-/
set_option linter.unusedVariables false
namespace Proofs.Score4
open GenV40

/-- state of the loop nest: the five severity distances -/
abbrev S := Nat × Nat × Nat × Nat × Nat

def DEAD : Nat := 0x7FF8DEAD00000000

/-- lookups: value of the MacroVector, number of existing lower MacroVectors, the five available distances -/
def pre (eq1 eq2 eq3 eq4 eq5 eq6 : Nat) (k : Nat → Nat → Nat → Nat → Nat → Nat → Nat → Nat) : Nat :=
  F64.flet (GenV40.lookupMV eq1 eq2 eq3 eq4 eq5 eq6) fun eqsv =>
  F64.flet (0 : Nat) fun lower =>
  F64.flet F64.NAN fun eq1nlm =>
  match (cond (Nat.blt eq1 (2 : Nat))
    (F64.flet (GenV40.lookupMV (Nat.add eq1 (1 : Nat)) eq2 eq3 eq4 eq5 eq6) fun eq1nlm =>
    F64.flet (Nat.add lower (1 : Nat)) fun lower =>
    (eq1nlm, lower))
    ((eq1nlm, lower))) with
  | (eq1nlm, lower) =>
  F64.flet F64.NAN fun eq2nlm =>
  match (cond (Nat.blt eq2 (1 : Nat))
    (F64.flet (GenV40.lookupMV eq1 (Nat.add eq2 (1 : Nat)) eq3 eq4 eq5 eq6) fun eq2nlm =>
    F64.flet (Nat.add lower (1 : Nat)) fun lower =>
    (eq2nlm, lower))
    ((eq2nlm, lower))) with
  | (eq2nlm, lower) =>
  F64.flet F64.NAN fun eq4nlm =>
  match (cond (Nat.blt eq4 (2 : Nat))
    (F64.flet (GenV40.lookupMV eq1 eq2 eq3 (Nat.add eq4 (1 : Nat)) eq5 eq6) fun eq4nlm =>
    F64.flet (Nat.add lower (1 : Nat)) fun lower =>
    (eq4nlm, lower))
    ((eq4nlm, lower))) with
  | (eq4nlm, lower) =>
  F64.flet F64.NAN fun eq5nlm =>
  match (cond (Nat.blt eq5 (2 : Nat))
    (F64.flet (GenV40.lookupMV eq1 eq2 eq3 eq4 (Nat.add eq5 (1 : Nat)) eq6) fun eq5nlm =>
    F64.flet (Nat.add lower (1 : Nat)) fun lower =>
    (eq5nlm, lower))
    ((eq5nlm, lower))) with
  | (eq5nlm, lower) =>
  F64.flet F64.NAN fun eq3eq6nlm =>
  match (cond ((Nat.beq eq3 (1 : Nat)) && (Nat.beq eq6 (1 : Nat)))
    (F64.flet (GenV40.lookupMV eq1 eq2 (Nat.add eq3 (1 : Nat)) eq4 eq5 eq6) fun eq3eq6nlm =>
    F64.flet (Nat.add lower (1 : Nat)) fun lower =>
    (eq3eq6nlm, lower))
    (match (cond ((Nat.beq eq3 (0 : Nat)) && (Nat.beq eq6 (1 : Nat)))
      (F64.flet (GenV40.lookupMV eq1 eq2 (Nat.add eq3 (1 : Nat)) eq4 eq5 eq6) fun eq3eq6nlm =>
      F64.flet (Nat.add lower (1 : Nat)) fun lower =>
      (eq3eq6nlm, lower))
      (match (cond ((Nat.beq eq3 (1 : Nat)) && (Nat.beq eq6 (0 : Nat)))
        (F64.flet (GenV40.lookupMV eq1 eq2 eq3 eq4 eq5 (Nat.add eq6 (1 : Nat))) fun eq3eq6nlm =>
        F64.flet (Nat.add lower (1 : Nat)) fun lower =>
        (eq3eq6nlm, lower))
        (match (cond ((Nat.beq eq3 (0 : Nat)) && (Nat.beq eq6 (0 : Nat)))
          (F64.flet (GenV40.lookupMV eq1 eq2 (Nat.add eq3 (1 : Nat)) eq4 eq5 eq6) fun eq3eq6nlm =>
          F64.flet (GenV40.lookupMV eq1 eq2 eq3 eq4 eq5 (Nat.add eq6 (1 : Nat))) fun eq6nlm =>
          match (cond (F64.lt eq3eq6nlm eq6nlm)
            (F64.flet eq6nlm fun eq3eq6nlm =>
            eq3eq6nlm)
            (eq3eq6nlm)) with
          | eq3eq6nlm =>
          F64.flet (Nat.add lower (1 : Nat)) fun lower =>
          (eq3eq6nlm, lower))
          ((eq3eq6nlm, lower))) with
        | (eq3eq6nlm, lower) =>
        (eq3eq6nlm, lower))) with
      | (eq3eq6nlm, lower) =>
      (eq3eq6nlm, lower))) with
    | (eq3eq6nlm, lower) =>
    (eq3eq6nlm, lower))) with
  | (eq3eq6nlm, lower) =>
  F64.flet (GenV40.abs_ (F64.sub eq1nlm eqsv)) fun eq1msd =>
  match (cond (F64.isNaN eq1msd)
    (F64.flet (0x0000000000000000 : Nat) fun eq1msd =>
    eq1msd)
    (eq1msd)) with
  | eq1msd =>
  F64.flet (GenV40.abs_ (F64.sub eq2nlm eqsv)) fun eq2msd =>
  match (cond (F64.isNaN eq2msd)
    (F64.flet (0x0000000000000000 : Nat) fun eq2msd =>
    eq2msd)
    (eq2msd)) with
  | eq2msd =>
  F64.flet (GenV40.abs_ (F64.sub eq3eq6nlm eqsv)) fun eq3eq6msd =>
  match (cond (F64.isNaN eq3eq6msd)
    (F64.flet (0x0000000000000000 : Nat) fun eq3eq6msd =>
    eq3eq6msd)
    (eq3eq6msd)) with
  | eq3eq6msd =>
  F64.flet (GenV40.abs_ (F64.sub eq4nlm eqsv)) fun eq4msd =>
  match (cond (F64.isNaN eq4msd)
    (F64.flet (0x0000000000000000 : Nat) fun eq4msd =>
    eq4msd)
    (eq4msd)) with
  | eq4msd =>
  F64.flet (GenV40.abs_ (F64.sub eq5nlm eqsv)) fun eq5msd =>
  match (cond (F64.isNaN eq5msd)
    (F64.flet (0x0000000000000000 : Nat) fun eq5msd =>
    eq5msd)
    (eq5msd)) with
  | eq5msd =>
  k eqsv lower eq1msd eq2msd eq3eq6msd eq4msd eq5msd

def body (avVal acVal atVal prVal uiVal vcVal viVal vaVal scVal siVal saVal crVal irVal arVal : Nat) (eq1mx eq2mx eq3eq6mx eq4mx : Nat) : S → Go.Ctl S Nat :=
  fun (eq1svdst, eq2svdst, eq3eq6svdst, eq4svdst, eq5svdst) =>
    F64.flet (Nat.mod (Nat.div (Nat.mod eq1mx (1000 : Nat)) (100 : Nat)) 256) fun avmx =>
    F64.flet (Nat.mod (Nat.div (Nat.mod eq1mx (100 : Nat)) (10 : Nat)) 256) fun prmx =>
    F64.flet (Nat.mod (Nat.div (Nat.mod eq1mx (10 : Nat)) (1 : Nat)) 256) fun uimx =>
    F64.flet (Nat.mod (Nat.div (Nat.mod eq2mx (100 : Nat)) (10 : Nat)) 256) fun acmx =>
    F64.flet (Nat.mod (Nat.div (Nat.mod eq2mx (10 : Nat)) (1 : Nat)) 256) fun atmx =>
    F64.flet (Nat.mod (Nat.div (Nat.mod eq3eq6mx (1000000 : Nat)) (100000 : Nat)) 256) fun vcmx =>
    F64.flet (Nat.mod (Nat.div (Nat.mod eq3eq6mx (100000 : Nat)) (10000 : Nat)) 256) fun vimx =>
    F64.flet (Nat.mod (Nat.div (Nat.mod eq3eq6mx (10000 : Nat)) (1000 : Nat)) 256) fun vamx =>
    F64.flet (Nat.mod (Nat.div (Nat.mod eq3eq6mx (1000 : Nat)) (100 : Nat)) 256) fun crmx =>
    F64.flet (Nat.mod (Nat.div (Nat.mod eq3eq6mx (100 : Nat)) (10 : Nat)) 256) fun irmx =>
    F64.flet (Nat.mod (Nat.div (Nat.mod eq3eq6mx (10 : Nat)) (1 : Nat)) 256) fun armx =>
    F64.flet (Nat.mod (Nat.div (Nat.mod eq4mx (1000 : Nat)) (100 : Nat)) 256) fun scmx =>
    F64.flet (Nat.mod (Nat.div (Nat.mod eq4mx (100 : Nat)) (10 : Nat)) 256) fun simx =>
    F64.flet (Nat.mod (Nat.div (Nat.mod eq4mx (10 : Nat)) (1 : Nat)) 256) fun samx =>
    F64.flet (GenV40.severityDistance (0 : Nat) avVal avmx) fun avsvdst =>
    F64.flet (GenV40.severityDistance (1 : Nat) acVal acmx) fun acsvdst =>
    F64.flet (GenV40.severityDistance (2 : Nat) atVal atmx) fun atsvdst =>
    F64.flet (GenV40.severityDistance (3 : Nat) prVal prmx) fun prsvdst =>
    F64.flet (GenV40.severityDistance (4 : Nat) uiVal uimx) fun uisvdst =>
    F64.flet (GenV40.severityDistance (5 : Nat) vcVal vcmx) fun vcsvdst =>
    F64.flet (GenV40.severityDistance (6 : Nat) viVal vimx) fun visvdst =>
    F64.flet (GenV40.severityDistance (7 : Nat) vaVal vamx) fun vasvdst =>
    F64.flet (GenV40.severityDistance (8 : Nat) scVal scmx) fun scsvdst =>
    F64.flet (GenV40.severityDistance (9 : Nat) siVal simx) fun sisvdst =>
    F64.flet (GenV40.severityDistance (10 : Nat) saVal samx) fun sasvdst =>
    F64.flet (GenV40.severityDistance (12 : Nat) crVal crmx) fun crsvdst =>
    F64.flet (GenV40.severityDistance (13 : Nat) irVal irmx) fun irsvdst =>
    F64.flet (GenV40.severityDistance (14 : Nat) arVal armx) fun arsvdst =>
    cond ((((((((((((((F64.lt avsvdst (0x0000000000000000 : Nat)) || (F64.lt prsvdst (0x0000000000000000 : Nat))) || (F64.lt uisvdst (0x0000000000000000 : Nat))) || (F64.lt acsvdst (0x0000000000000000 : Nat))) || (F64.lt atsvdst (0x0000000000000000 : Nat))) || (F64.lt vcsvdst (0x0000000000000000 : Nat))) || (F64.lt visvdst (0x0000000000000000 : Nat))) || (F64.lt vasvdst (0x0000000000000000 : Nat))) || (F64.lt scsvdst (0x0000000000000000 : Nat))) || (F64.lt sisvdst (0x0000000000000000 : Nat))) || (F64.lt sasvdst (0x0000000000000000 : Nat))) || (F64.lt crsvdst (0x0000000000000000 : Nat))) || (F64.lt irsvdst (0x0000000000000000 : Nat))) || (F64.lt arsvdst (0x0000000000000000 : Nat)))
      (Go.Ctl.next (eq1svdst, eq2svdst, eq3eq6svdst, eq4svdst, eq5svdst))
      (F64.flet (F64.add (F64.add avsvdst prsvdst) uisvdst) fun eq1svdst =>
      F64.flet (F64.add acsvdst atsvdst) fun eq2svdst =>
      F64.flet (F64.add (F64.add (F64.add (F64.add (F64.add vcsvdst visvdst) vasvdst) crsvdst) irsvdst) arsvdst) fun eq3eq6svdst =>
      F64.flet (F64.add (F64.add scsvdst sisvdst) sasvdst) fun eq4svdst =>
      F64.flet (0x0000000000000000 : Nat) fun eq5svdst =>
      Go.Ctl.brk (eq1svdst, eq2svdst, eq3eq6svdst, eq4svdst, eq5svdst))

/-- what the generated code does with the result of an inner loop -/
def wrap : Go.Ctl S Nat → Go.Ctl S Nat
  | Go.Ctl.ret r => Go.Ctl.ret r
  | Go.Ctl.brk (eq1svdst, eq2svdst, eq3eq6svdst, eq4svdst, eq5svdst) => Go.Ctl.ret (0x7FF8DEAD00000000 : Nat)
  | Go.Ctl.next (eq1svdst, eq2svdst, eq3eq6svdst, eq4svdst, eq5svdst) =>
    Go.Ctl.next (eq1svdst, eq2svdst, eq3eq6svdst, eq4svdst, eq5svdst)

/-- the loop nest over the highest severity vectors `L1 … L4` of the four EQ groups -/
def nest (f : Nat → Nat → Nat → Nat → S → Go.Ctl S Nat) (L1 L2 L3 L4 : List Nat) (st : S) : Go.Ctl S Nat :=
  Go.forRange L1 st (fun eq1mx (eq1svdst, eq2svdst, eq3eq6svdst, eq4svdst, eq5svdst) =>
    wrap (Go.forRange L2 (eq1svdst, eq2svdst, eq3eq6svdst, eq4svdst, eq5svdst) (fun eq2mx (eq1svdst, eq2svdst, eq3eq6svdst, eq4svdst, eq5svdst) =>
      wrap (Go.forRange L3 (eq1svdst, eq2svdst, eq3eq6svdst, eq4svdst, eq5svdst) (fun eq3eq6mx (eq1svdst, eq2svdst, eq3eq6svdst, eq4svdst, eq5svdst) =>
        wrap (Go.forRange L4 (eq1svdst, eq2svdst, eq3eq6svdst, eq4svdst, eq5svdst) (fun eq4mx (eq1svdst, eq2svdst, eq3eq6svdst, eq4svdst, eq5svdst) =>
          f eq1mx eq2mx eq3eq6mx eq4mx (eq1svdst, eq2svdst, eq3eq6svdst, eq4svdst, eq5svdst))))))))

def loops (avVal acVal atVal prVal uiVal vcVal viVal vaVal scVal siVal saVal crVal irVal arVal : Nat) (eq1 eq2 eq3 eq4 eq6 : Nat) : Go.Ctl S Nat :=
  nest (body avVal acVal atVal prVal uiVal vcVal viVal vaVal scVal siVal saVal crVal irVal arVal)
    (Go.idx (Go.idx GenV40.tbl_highestSeverityVectors (1 : Nat)) eq1)
    (Go.idx (Go.idx GenV40.tbl_highestSeverityVectors (2 : Nat)) eq2)
    (Go.idx (Go.idx GenV40.tbl_highestSeverityVectorsEQ3EQ6 eq3) eq6)
    (Go.idx (Go.idx GenV40.tbl_highestSeverityVectors (4 : Nat)) eq4)
    (0, 0, 0, 0, 0)

def post (eqsv lower eq1msd eq2msd eq3eq6msd eq4msd eq5msd eq1 eq2 eq3 eq4 eq5 eq6 : Nat) (eq1svdst eq2svdst eq3eq6svdst eq4svdst eq5svdst : Nat) : Nat :=
  F64.flet (F64.div eq1svdst (F64.add (GenV40.getDepth (1 : Nat) eq1) (0x3ff0000000000000 : Nat))) fun eq1prop =>
  F64.flet (F64.div eq2svdst (F64.add (GenV40.getDepth (2 : Nat) eq2) (0x3ff0000000000000 : Nat))) fun eq2prop =>
  F64.flet (F64.div eq3eq6svdst (F64.add (GenV40.getDepthEQ3EQ6 eq3 eq6) (0x3ff0000000000000 : Nat))) fun eq3eq6prop =>
  F64.flet (F64.div eq4svdst (F64.add (GenV40.getDepth (4 : Nat) eq4) (0x3ff0000000000000 : Nat))) fun eq4prop =>
  F64.flet (F64.div eq5svdst (F64.add (GenV40.getDepth (5 : Nat) eq5) (0x3ff0000000000000 : Nat))) fun eq5prop =>
  F64.flet (F64.mul eq1msd eq1prop) fun eq1msd =>
  F64.flet (F64.mul eq2msd eq2prop) fun eq2msd =>
  F64.flet (F64.mul eq3eq6msd eq3eq6prop) fun eq3eq6msd =>
  F64.flet (F64.mul eq4msd eq4prop) fun eq4msd =>
  F64.flet (F64.mul eq5msd eq5prop) fun eq5msd =>
  F64.flet (0x0000000000000000 : Nat) fun mean =>
  match (cond (!(Nat.beq lower (0 : Nat)))
    (F64.flet (F64.div (F64.add (F64.add (F64.add (F64.add eq1msd eq2msd) eq3eq6msd) eq4msd) eq5msd) (F64.ofNat lower)) fun mean =>
    mean)
    (mean)) with
  | mean =>
  (GenV40.roundup (F64.sub eqsv mean))

/-- end of `Score`: the loops never `return`, so the result is `post` on the final state -/
def fin (eqsv lower eq1msd eq2msd eq3eq6msd eq4msd eq5msd eq1 eq2 eq3 eq4 eq5 eq6 : Nat) : Go.Ctl S Nat → Nat
  | Go.Ctl.ret r => r
  | Go.Ctl.brk (eq1svdst, eq2svdst, eq3eq6svdst, eq4svdst, eq5svdst) => (0x7FF8DEAD00000000 : Nat)
  | Go.Ctl.next (eq1svdst, eq2svdst, eq3eq6svdst, eq4svdst, eq5svdst) =>
    post eqsv lower eq1msd eq2msd eq3eq6msd eq4msd eq5msd eq1 eq2 eq3 eq4 eq5 eq6 eq1svdst eq2svdst eq3eq6svdst eq4svdst eq5svdst

/-- `X` (not defined) is scored as `H` -/
def reqFix (v : Nat) : Nat := cond (Nat.beq v (0 : Nat)) (1 : Nat) v

/-- everything after the no-impact shortcut and the MacroVector computation -/
def scoreTail (avVal acVal atVal prVal uiVal vcVal viVal vaVal scVal siVal saVal crVal irVal arVal : Nat) (eq1 eq2 eq3 eq4 eq5 eq6 : Nat) : Nat :=
  pre eq1 eq2 eq3 eq4 eq5 eq6 fun eqsv lower eq1msd eq2msd eq3eq6msd eq4msd eq5msd =>
    fin eqsv lower eq1msd eq2msd eq3eq6msd eq4msd eq5msd eq1 eq2 eq3 eq4 eq5 eq6
      (loops avVal acVal atVal prVal uiVal vcVal viVal vaVal scVal siVal saVal crVal irVal arVal eq1 eq2 eq3 eq4 eq6)

/-- `Score_core`, re-read: effective codes, no-impact shortcut, requirement defaults, MacroVector, then `scoreTail` -/
def ScoreH (r0 r1 r2 r3 r4 r5 r6 r7 r8 r9 r10 r11 r12 r13 r14 r15 r16 r17 r18 r19 r20 r21 r22 r23 r24 r25 : Nat) : Nat :=
  F64.flet (GenV40.mod_ r0 r1) fun avVal =>
  F64.flet (GenV40.mod_ r2 r3) fun acVal =>
  F64.flet (GenV40.mod_ r4 r5) fun atVal =>
  F64.flet (GenV40.mod_ r6 r7) fun prVal =>
  F64.flet (GenV40.mod_ r8 r9) fun uiVal =>
  F64.flet (GenV40.mod_ r10 r11) fun vcVal =>
  F64.flet (GenV40.mod_ r12 r13) fun scVal =>
  F64.flet (GenV40.mod_ r14 r15) fun viVal =>
  F64.flet (GenV40.mod_ r16 r17) fun siVal =>
  F64.flet (GenV40.mod_ r18 r19) fun vaVal =>
  F64.flet (GenV40.mod_ r20 r21) fun saVal =>
  cond ((((((Nat.beq vcVal (2 : Nat)) && (Nat.beq viVal (2 : Nat))) && (Nat.beq vaVal (2 : Nat))) && (Nat.beq scVal (2 : Nat))) && (Nat.beq siVal (2 : Nat))) && (Nat.beq saVal (2 : Nat)))
    ((0x0000000000000000 : Nat))
    (F64.flet r22 fun crVal =>
    match (cond (Nat.beq crVal (0 : Nat))
      (F64.flet (1 : Nat) fun crVal =>
      crVal)
      (crVal)) with
    | crVal =>
    F64.flet r23 fun irVal =>
    match (cond (Nat.beq irVal (0 : Nat))
      (F64.flet (1 : Nat) fun irVal =>
      irVal)
      (irVal)) with
    | irVal =>
    F64.flet r24 fun arVal =>
    match (cond (Nat.beq arVal (0 : Nat))
      (F64.flet (1 : Nat) fun arVal =>
      arVal)
      (arVal)) with
    | arVal =>
    match (GenV40.macroVector_core r0 r1 r2 r3 r4 r5 r6 r7 r8 r9 r10 r11 r12 r13 r14 r15 r17 r16 r18 r19 r21 r20 r25 r22 r23 r24) with
    | (eq1, eq2, eq3, eq4, eq5, eq6) =>
    scoreTail avVal acVal atVal prVal uiVal vcVal viVal vaVal scVal siVal saVal crVal irVal arVal eq1 eq2 eq3 eq4 eq5 eq6)

theorem Score_core_eq_ScoreH (r0 r1 r2 r3 r4 r5 r6 r7 r8 r9 r10 r11 r12 r13 r14 r15 r16 r17 r18 r19 r20 r21 r22 r23 r24 r25 : Nat) :
    GenV40.Score_core r0 r1 r2 r3 r4 r5 r6 r7 r8 r9 r10 r11 r12 r13 r14 r15 r16 r17 r18 r19 r20 r21 r22 r23 r24 r25 =
      ScoreH r0 r1 r2 r3 r4 r5 r6 r7 r8 r9 r10 r11 r12 r13 r14 r15 r16 r17 r18 r19 r20 r21 r22 r23 r24 r25 := by
  rfl

end Proofs.Score4
