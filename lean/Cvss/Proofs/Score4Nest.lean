import Cvss.Proofs.Score4Shape
import Cvss.Proofs.Score4Basic
/-!
# The loop nest of v4.0 `Score`, generically

`nest f L1 L2 L3 L4 st` (the shape of the generated four nested `range` loops) with a body that
`continue`s when one of four per-loop-variable conditions holds and otherwise overwrites the state with a
state-independent payload and `break`s (out of the innermost loop only): the final state is the payload at
the **last** good element of each of the three outer lists and the **first** good element of the innermost.
-/
namespace Proofs.Score4
open Go

def lastSat (p : Nat → Bool) : List Nat → Option Nat
  | [] => none
  | x :: xs => match lastSat p xs with
    | some y => some y
    | none => cond (p x) (some x) none

variable {σ ρ : Type}

theorem forRange_filter_brk (xs : List Nat) (st : σ) (f : Nat → σ → Ctl σ ρ) (bad : Nat → Bool) (g : Nat → σ)
    (hf : ∀ x s, f x s = cond (bad x) (Ctl.next s) (Ctl.brk (g x))) :
    forRange xs st f = Ctl.next (match xs.find? (fun x => !bad x) with | some x => g x | none => st) := by
  induction xs generalizing st with
  | nil => rfl
  | cons x xs ih =>
    unfold forRange
    rw [hf]
    cases h : bad x
    · simp [List.find?, h]
    · simp only [cond_true]
      rw [ih]
      simp [List.find?, h]

theorem forRange_next (xs : List Nat) (st : σ) (f : Nat → σ → Ctl σ ρ) (T : Nat → σ → σ)
    (hf : ∀ x s, f x s = Ctl.next (T x s)) :
    forRange xs st f = Ctl.next (xs.foldl (fun s x => T x s) st) := by
  induction xs generalizing st with
  | nil => rfl
  | cons x xs ih =>
    unfold forRange
    rw [hf]
    exact ih _

theorem foldl_id (xs : List Nat) (st : σ) (T : Nat → σ → σ) (h : ∀ x s, T x s = s) :
    xs.foldl (fun s x => T x s) st = st := by
  induction xs generalizing st with
  | nil => rfl
  | cons x xs ih => rw [List.foldl_cons, h]; exact ih st

theorem foldl_overwrite (xs : List Nat) (st : σ) (T : Nat → σ → σ) (good : Nat → Bool) (v : Nat → σ)
    (hbad : ∀ x s, good x = false → T x s = s) (hgood : ∀ x s, good x = true → T x s = v x)
    (x0 : Nat) (h0 : lastSat good xs = some x0) :
    xs.foldl (fun s x => T x s) st = v x0 := by
  induction xs generalizing st with
  | nil => simp [lastSat] at h0
  | cons x xs ih =>
    simp only [List.foldl_cons]
    unfold lastSat at h0
    cases hl : lastSat good xs with
    | some y =>
      rw [hl] at h0
      simp only [Option.some.injEq] at h0
      subst h0
      exact ih _ hl
    | none =>
      rw [hl] at h0
      cases hg : good x
      · rw [hg] at h0; simp at h0
      · rw [hg] at h0
        simp only [cond_true, Option.some.injEq] at h0
        subst h0
        rw [hgood x st hg]
        -- no later element is good: the rest of the fold is the identity
        have hrest : ∀ (ys : List Nat) (s : σ), lastSat good ys = none → ys.foldl (fun s x => T x s) s = s := by
          intro ys
          induction ys with
          | nil => intro s _; rfl
          | cons y ys ihy =>
            intro s hn
            unfold lastSat at hn
            cases hy : lastSat good ys with
            | some z => rw [hy] at hn; simp at hn
            | none =>
              rw [hy] at hn
              cases hgy : good y
              · simp only [List.foldl_cons, hbad y s hgy]; exact ihy s hy
              · rw [hgy] at hn; simp at hn
        exact hrest xs _ hl

theorem wrap_next (s : S) : wrap (Ctl.next s) = Ctl.next s := by
  obtain ⟨a, b, c, d, e⟩ := s; rfl

theorem find_or (c : Bool) (b : Nat → Bool) (xs : List Nat) :
    xs.find? (fun x => !(c || b x)) = cond c none (xs.find? (fun x => !b x)) := by
  cases c
  · simp
  · simp

theorem nest_eq (f : Nat → Nat → Nat → Nat → S → Ctl S Nat) (b1 b2 b3 b4 : Nat → Bool)
    (P : Nat → Nat → Nat → Nat → S)
    (hf : ∀ x1 x2 x3 x4 st, f x1 x2 x3 x4 st =
      cond (b1 x1 || b2 x2 || b3 x3 || b4 x4) (Ctl.next st) (Ctl.brk (P x1 x2 x3 x4)))
    (L1 L2 L3 L4 : List Nat) (x1 x2 x3 x4 : Nat)
    (h1 : lastSat (fun x => !b1 x) L1 = some x1) (h2 : lastSat (fun x => !b2 x) L2 = some x2)
    (h3 : lastSat (fun x => !b3 x) L3 = some x3) (h4 : L4.find? (fun x => !b4 x) = some x4) (st : S) :
    nest f L1 L2 L3 L4 st = Ctl.next (P x1 x2 x3 x4) := by
  have lev4 : ∀ y1 y2 y3 (s : S),
      wrap (forRange L4 s (fun eq4mx (st : S) => match st with
        | (a, b, c, d, e) => f y1 y2 y3 eq4mx (a, b, c, d, e))) =
      Ctl.next (cond (b1 y1 || b2 y2 || b3 y3) s (P y1 y2 y3 x4)) := by
    intro y1 y2 y3 s
    rw [forRange_filter_brk L4 s _ (fun x => b1 y1 || b2 y2 || b3 y3 || b4 x) (P y1 y2 y3)
      (by intro x ⟨a, b, c, d, e⟩; exact hf y1 y2 y3 x _)]
    rw [find_or, h4, wrap_next]
    cases (b1 y1 || b2 y2 || b3 y3) <;> rfl
  have lev3 : ∀ y1 y2 (s : S),
      wrap (forRange L3 s (fun eq3mx (st : S) => match st with
        | (a, b, c, d, e) => wrap (forRange L4 (a, b, c, d, e) (fun eq4mx (st : S) => match st with
          | (a, b, c, d, e) => f y1 y2 eq3mx eq4mx (a, b, c, d, e))))) =
      Ctl.next (cond (b1 y1 || b2 y2) s (P y1 y2 x3 x4)) := by
    intro y1 y2 s
    rw [forRange_next L3 s _ (fun y3 s => cond (b1 y1 || b2 y2 || b3 y3) s (P y1 y2 y3 x4))
      (by intro x ⟨a, b, c, d, e⟩; exact lev4 y1 y2 x _)]
    rw [wrap_next]
    cases hc : (b1 y1 || b2 y2)
    · rw [foldl_overwrite L3 s _ (fun x => !b3 x) (fun y3 => P y1 y2 y3 x4)
        (by intro x s hx; simp only [Bool.false_or]; simp at hx; rw [hx]; rfl)
        (by intro x s hx; simp only [Bool.false_or]; simp at hx; rw [hx]; rfl) x3 h3]
      rfl
    · rw [foldl_id L3 s _ (by intro x s; simp only [Bool.true_or]; rfl)]
      rfl
  have lev2 : ∀ y1 (s : S),
      wrap (forRange L2 s (fun eq2mx (st : S) => match st with
        | (a, b, c, d, e) => wrap (forRange L3 (a, b, c, d, e) (fun eq3mx (st : S) => match st with
          | (a, b, c, d, e) => wrap (forRange L4 (a, b, c, d, e) (fun eq4mx (st : S) => match st with
            | (a, b, c, d, e) => f y1 eq2mx eq3mx eq4mx (a, b, c, d, e))))))) =
      Ctl.next (cond (b1 y1) s (P y1 x2 x3 x4)) := by
    intro y1 s
    rw [forRange_next L2 s _ (fun y2 s => cond (b1 y1 || b2 y2) s (P y1 y2 x3 x4))
      (by intro x ⟨a, b, c, d, e⟩; exact lev3 y1 x _)]
    rw [wrap_next]
    cases hc : b1 y1
    · rw [foldl_overwrite L2 s _ (fun x => !b2 x) (fun y2 => P y1 y2 x3 x4)
        (by intro x s hx; simp only [Bool.false_or]; simp at hx; rw [hx]; rfl)
        (by intro x s hx; simp only [Bool.false_or]; simp at hx; rw [hx]; rfl) x2 h2]
      rfl
    · rw [foldl_id L2 s _ (by intro x s; simp only [Bool.true_or]; rfl)]
      rfl
  unfold nest
  rw [forRange_next L1 st _ (fun y1 s => cond (b1 y1) s (P y1 x2 x3 x4))
    (by intro x ⟨a, b, c, d, e⟩; exact lev2 x _)]
  rw [foldl_overwrite L1 st _ (fun x => !b1 x) (fun y1 => P y1 x2 x3 x4)
    (by intro x s hx; simp at hx; rw [hx]; rfl)
    (by intro x s hx; simp at hx; rw [hx]; rfl) x1 h1]

end Proofs.Score4
