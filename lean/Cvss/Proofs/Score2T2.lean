import Cvss.Proofs.Score2Nd
import Cvss.Proofs.F64Eval
/-! C05 table: temporal step, inputs -2..100 tenths and -0.0 × 48 weight codes -/
namespace Proofs.Score2

theorem t2_table : t2Table = true := by
  simp only [t2Table, t2Codes, okT2, T2f, GenV20.roundTo1Decimal, ← F64.divK_eq]
  decide +kernel

theorem t2_neg0 : t2Codes NEG0 0 = true := by decide +kernel

end Proofs.Score2
