import Cvss.Proofs.Bits40
/-!
# CVSS v4.0 `Nomenclature` (C16), from the generated code

`nomenclature_eq`: for **every byte state** `c` (well formed or not)

  `c.nomenclature = "CVSS-B" ++ (if Get("E") ≠ "X" then "T") ++ (if ∃ m ∈ environmental, Get(m) ≠ "X" then "E")`

with the groups taken from the Spec tables. It holds on non-well-formed bytes as well: there an out-of-range
code makes `Get` answer `""`, which is `≠ "X"`, and `Nomenclature` (which tests raw bits `≠ 0`) agrees —
"defined" is "code ≠ 0" on both sides (`get_ne_X`). The hypothesis `IsBytes` cannot be dropped for the
`Nat`-valued model (`nomenclature_needs_bytes`: `u3 = 256` reads as all-`X` but is `≠ 0`); Go's `uint8`
fields always satisfy it.
-/
namespace Proofs.B40
open Spec (isMetric)
open Model (O40)

/-! ## "not defined" is code 0 for the threat and environmental metrics (Spec rows 11 … 25) -/

theorem threat_row : Spec.V4.threat = [met 11] := by decide +kernel
theorem env_rows : Spec.V4.environmental =
    [met 12, met 13, met 14, met 15, met 16, met 17, met 18, met 19, met 20, met 21, met 22, met 23, met 24, met 25] := by
  decide +kernel
theorem abv_E : (met 11).abv = Spec.b "E" := by decide +kernel

theorem gval_X : ∀ k, k < 26 → 11 ≤ k → 0 < nv k ∧ ∀ i, i < nv k → ((gvals k).getD i [] = Spec.b "X" ↔ i = 0) := by
  decide +kernel

theorem get_ne_X (c : O40) {k : Nat} (h1 : 11 ≤ k) (h2 : k < 26) :
    (c.get (met k).abv).1 ≠ Spec.b "X" ↔ code k c ≠ 0 := by
  have hk : k < 32 := by omega
  show (c.get (abv k)).1 ≠ _ ↔ _
  rw [get_idx c k hk]
  obtain ⟨hpos, hx⟩ := gval_X k h2 h1
  by_cases hi : code k c < nv k
  · exact not_congr (hx _ hi)
  · have : (gvals k).getD (code k c) [] = [] := Bits.getD_ge _ _ _ (by rw [gvals_length k]; omega)
    show (gvals k).getD (code k c) [] ≠ _ ↔ _
    rw [this]
    constructor
    · intro _; omega
    · intro _; decide

/-! ## the bit tests of `Nomenclature`, one byte at a time -/

theorem N2t : ∀ u, u < 256 → (Nat.land u 12 ≠ 0 ↔ (D2 u).getD 2 0 ≠ 0) := by decide +kernel
theorem N2e : ∀ u, u < 256 → (Nat.land u 3 ≠ 0 ↔ (D2 u).getD 3 0 ≠ 0) := by decide +kernel
theorem N3 : ∀ u, u < 256 → (u ≠ 0 ↔
    ((D3 u).getD 0 0 ≠ 0 ∨ (D3 u).getD 1 0 ≠ 0 ∨ (D3 u).getD 2 0 ≠ 0 ∨ (D3 u).getD 3 0 ≠ 0)) := by decide +kernel
theorem N4 : ∀ u, u < 256 → (u ≠ 0 ↔
    ((D4 u).getD 0 0 ≠ 0 ∨ (D4 u).getD 1 0 ≠ 0 ∨ (D4 u).getD 2 0 ≠ 0 ∨ (D4 u).getD 3 0 ≠ 0 ∨ (D4 u).getD 4 0 ≠ 0)) := by
  decide +kernel
theorem N5 : ∀ u, u < 256 → (u ≠ 0 ↔
    ((D5 u).getD 0 0 ≠ 0 ∨ (D5 u).getD 1 0 ≠ 0 ∨ (D5 u).getD 2 0 ≠ 0 ∨ (D5 u).getD 3 0 ≠ 0 ∨ (D5 u).getD 4 0 ≠ 0)) := by
  decide +kernel
theorem N6 : ∀ u, u < 256 → (Nat.land u 248 ≠ 0 ↔ ((D6 u).getD 0 0 ≠ 0 ∨ (D6 u).getD 1 0 ≠ 0)) := by decide +kernel

/-- the four-way choice at the end of `Nomenclature` -/
def nomB (t e : Bool) : List Nat :=
  cond t (cond e (Spec.b "CVSS-BTE") (Spec.b "CVSS-BT")) (cond e (Spec.b "CVSS-BE") (Spec.b "CVSS-B"))

theorem lor_eq_zero (a b : Nat) : Nat.lor a b = 0 ↔ a = 0 ∧ b = 0 := Nat.or_eq_zero_iff

theorem nb (r : Nat) : (!(Nat.beq r 0)) = true ↔ r ≠ 0 := by cases r <;> simp [Nat.beq]

theorem nomenclature_core (r0 r1 r2 r3 r4 r5 : Nat) :
    GenV40.Nomenclature_core r0 r1 r2 r3 r4 r5 =
      nomB (!(Nat.beq r0 0))
        (((((!(Nat.beq r1 0)) || (!(Nat.beq r2 0))) || (!(Nat.beq r3 0))) || (!(Nat.beq r4 0))) || (!(Nat.beq r5 0))) := by
  unfold GenV40.Nomenclature_core nomB
  cases (!(Nat.beq r0 0)) <;>
    cases (((((!(Nat.beq r1 0)) || (!(Nat.beq r2 0))) || (!(Nat.beq r3 0))) || (!(Nat.beq r4 0))) || (!(Nat.beq r5 0))) <;>
    decide

theorem nomB_eq (t e : Bool) (P Q : Prop) [Decidable P] [Decidable Q] (hT : t = true ↔ P) (hE : e = true ↔ Q) :
    nomB t e = Spec.b "CVSS-B" ++ (if P then Spec.b "T" else []) ++ (if Q then Spec.b "E" else []) := by
  cases t <;> cases e
  · rw [if_neg (fun p => absurd (hT.2 p) (by decide)), if_neg (fun q => absurd (hE.2 q) (by decide))]; decide
  · rw [if_neg (fun p => absurd (hT.2 p) (by decide)), if_pos (hE.1 rfl)]; decide
  · rw [if_pos (hT.1 rfl), if_neg (fun q => absurd (hE.2 q) (by decide))]; decide
  · rw [if_pos (hT.1 rfl), if_pos (hE.1 rfl)]; decide

/-- **C16.** `Nomenclature` in terms of the Spec groups, for every byte state. -/
theorem nomenclature_eq (c : O40) (hc : c.IsBytes) :
    c.nomenclature = Spec.b "CVSS-B"
      ++ (if (c.get (Spec.b "E")).1 ≠ Spec.b "X" then Spec.b "T" else [])
      ++ (if ∃ m ∈ Spec.V4.environmental, (c.get m.abv).1 ≠ Spec.b "X" then Spec.b "E" else []) := by
  obtain ⟨_, _, h2, h3, h4, h5, h6, _, _⟩ := hc
  show GenV40.Nomenclature_core (Nat.land c.u2 12) (Nat.land c.u2 3) c.u3 c.u4 c.u5 (Nat.land c.u6 248) = _
  rw [nomenclature_core]
  apply nomB_eq
  · rw [nb, ← abv_E, get_ne_X c (by decide) (by decide)]
    exact N2t _ h2
  · simp (disch := decide) only [Bool.or_eq_true, nb, env_rows, List.mem_cons, List.not_mem_nil, or_false,
      exists_eq_or_imp, exists_eq_left, get_ne_X c, code, codes, List.getD_cons_zero, List.getD_cons_succ,
      N2e _ h2, N3 _ h3, N4 _ h4, N5 _ h5, N6 _ h6, ne_eq, lor_eq_zero]
    omega

theorem base_supp_not_threat_env : ∀ m ∈ Spec.V4.base ++ Spec.V4.supplemental,
    m.abv ≠ Spec.b "E" ∧ ∀ m' ∈ Spec.V4.environmental, m'.abv ≠ m.abv := by decide +kernel
theorem base_supp_metrics : ∀ m ∈ Spec.V4.base ++ Spec.V4.supplemental, m ∈ Spec.V4.metrics := by decide +kernel
theorem env_metrics : ∀ m ∈ Spec.V4.environmental, isMetric Spec.V4.metrics m.abv = true := by decide +kernel

/-- the byte hypothesis matters only for the `Nat` model: a "byte" of 256 is `≠ 0` but reads as all-`X` -/
theorem nomenclature_needs_bytes :
    let c : O40 := ⟨0, 0, 0, 256, 0, 0, 0, 0, 0⟩
    c.nomenclature = Spec.b "CVSS-BE" ∧ ∀ m ∈ Spec.V4.environmental, (c.get m.abv).1 = Spec.b "X" := by
  decide +kernel

end Proofs.B40
