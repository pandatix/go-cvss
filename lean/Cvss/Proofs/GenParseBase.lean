import Cvss.Base.Go
import Cvss.Model.Parse
/-!
# Shared lemmas for the parser ties (`GenPxx.ParseVector = Model.parseXX`)

Facts about the combinators of `Cvss/Base/Go.lean` that the generated parsers use (`Go.forN`, `Go.index`,
`Go.slice…`, `Go.cut`, `Go.hasPrefix`) and list bookkeeping for index-based scans. Core only.
-/
namespace GenParse
open Model

theorem ble_true {a b : Nat} (h : a ≤ b) : Nat.ble a b = true := Nat.ble_eq_true_of_le h
theorem ble_false {a b : Nat} (h : b < a) : Nat.ble a b = false := by
  cases e : Nat.ble a b with
  | false => rfl
  | true => exact absurd (Nat.le_of_ble_eq_true e) (by omega)
theorem blt_true {a b : Nat} (h : a < b) : Nat.blt a b = true := ble_true h
theorem blt_false {a b : Nat} (h : b ≤ a) : Nat.blt a b = false := ble_false (by omega)
theorem beq_false {a b : Nat} (h : a ≠ b) : Nat.beq a b = false := by
  cases e : Nat.beq a b with
  | false => rfl
  | true => exact absurd (Nat.eq_of_beq_eq_true e) h
theorem beq_true {a b : Nat} (h : a = b) : Nat.beq a b = true := by subst h; exact Nat.beq_refl a

theorem strEq_eq (a b : Bytes) : Go.strEq a b = decide (a = b) := rfl
theorem errBeq_eq (e : Go.Err) : Go.Err.beq e Go.errNil = decide (e = Go.errNil) := rfl

theorem index_some {α ρ : Type} {s : List α} {i : Nat} {x : α} (h : s[i]? = some x) (p : ρ) (k : α → ρ) :
    Go.index s i p k = k x := by simp [Go.index, h]

theorem index_none {α ρ : Type} {s : List α} {i : Nat} (h : s.length ≤ i) (p : ρ) (k : α → ρ) :
    Go.index s i p k = p := by
  have : s[i]? = none := List.getElem?_eq_none h
  simp [Go.index, this]

theorem slice_ok {α ρ : Type} (s : List α) {lo hi : Nat} (h1 : lo ≤ hi) (h2 : hi ≤ s.length) (p : ρ)
    (k : List α → ρ) : Go.slice s lo hi p k = k ((s.take hi).drop lo) := by
  have a : Nat.ble lo hi = true := Nat.ble_eq_true_of_le h1
  have b : Nat.ble hi s.length = true := Nat.ble_eq_true_of_le h2
  simp [Go.slice, a, b]

theorem sliceFrom_ok {α ρ : Type} (s : List α) {lo : Nat} (h : lo ≤ s.length) (p : ρ) (k : List α → ρ) :
    Go.sliceFrom s lo p k = k (s.drop lo) := by
  have a : Nat.ble lo s.length = true := Nat.ble_eq_true_of_le h
  simp [Go.sliceFrom, a]

theorem sliceTo_ok {α ρ : Type} (s : List α) {hi : Nat} (h : hi ≤ s.length) (p : ρ) (k : List α → ρ) :
    Go.sliceTo s hi p k = k (s.take hi) := by
  have a : Nat.ble hi s.length = true := Nat.ble_eq_true_of_le h
  simp [Go.sliceTo, a]

theorem setIndex_ok {α ρ : Type} (s : List α) {i : Nat} (v : α) (h : i < s.length) (p : ρ) (k : List α → ρ) :
    Go.setIndex s i v p k = k (s.set i v) := by
  have a : Nat.blt i s.length = true := blt_true h
  simp [Go.setIndex, a]

theorem forN_zero {σ ρ : Type} (st : σ) (cnd : σ → Bool) (post : σ → σ) (body : σ → Go.Ctl σ ρ) :
    Go.forN 0 st cnd post body = .fuel := rfl

theorem forN_stop {σ ρ : Type} (n : Nat) (st : σ) (cnd : σ → Bool) (post : σ → σ) (body : σ → Go.Ctl σ ρ)
    (h : cnd st = false) : Go.forN (n + 1) st cnd post body = .done st := by
  simp [Go.forN, h]

theorem forN_next {σ ρ : Type} (n : Nat) (st s' : σ) (cnd : σ → Bool) (post : σ → σ) (body : σ → Go.Ctl σ ρ)
    (h : cnd st = true) (hb : body st = .next s') :
    Go.forN (n + 1) st cnd post body = Go.forN n (post s') cnd post body := by
  simp [Go.forN, h, hb]

theorem forN_brk {σ ρ : Type} (n : Nat) (st s' : σ) (cnd : σ → Bool) (post : σ → σ) (body : σ → Go.Ctl σ ρ)
    (h : cnd st = true) (hb : body st = .brk s') : Go.forN (n + 1) st cnd post body = .done s' := by
  simp [Go.forN, h, hb]

theorem forN_ret {σ ρ : Type} (n : Nat) (st : σ) (r : ρ) (cnd : σ → Bool) (post : σ → σ) (body : σ → Go.Ctl σ ρ)
    (h : cnd st = true) (hb : body st = .ret r) : Go.forN (n + 1) st cnd post body = .ret r := by
  simp [Go.forN, h, hb]

/-! ## list bookkeeping for scans: `v = pre ++ seg ++ rest`, position `pre.length + seg.length` -/

theorem getElem?_at {α : Type} (pre seg : List α) (x : α) (rest : List α) :
    (pre ++ seg ++ x :: rest)[pre.length + seg.length]? = some x := by
  rw [← List.length_append]
  simp

theorem take_drop_seg {α : Type} (pre seg rest : List α) :
    ((pre ++ seg ++ rest).take (pre.length + seg.length)).drop pre.length = seg := by
  rw [← List.length_append, List.take_left' rfl]
  simp

theorem drop_seg {α : Type} (pre rest : List α) : (pre ++ rest).drop pre.length = rest := by simp

theorem cutAux_colon (s : Bytes) :
    Go.cutAux [58] s = if 58 ∈ s then some (cutColon s) else none := by
  induction s with
  | nil => simp [Go.cutAux]
  | cons c cs ih =>
    by_cases hc : c = 58
    · subst hc
      simp [Go.cutAux, cutColon, COLON, List.isPrefixOf]
    · have h1 : (58 == c) = false := by simpa using fun h => hc h.symm
      have h2 : ([58] : List Nat).isPrefixOf (c :: cs) = false := by
        simp [List.isPrefixOf, h1]
      by_cases hm : 58 ∈ cs
      · simp [Go.cutAux, h2, ih, hm, cutColon, COLON, hc]
      · have h3 : ¬ 58 = c := fun h => hc h.symm
        simp [Go.cutAux, h2, ih, hm, h3]

theorem cutColon_no_colon (s : Bytes) (h : 58 ∉ s) : cutColon s = (s, []) := by
  induction s with
  | nil => simp [cutColon]
  | cons c cs ih =>
    have hc : c ≠ 58 := fun e => h (by simp [e])
    have hcs : 58 ∉ cs := fun e => h (by simp [e])
    simp [cutColon, COLON, hc, ih hcs]

/-- `strings.Cut(pt, ":")` is `Model.cutColon` (plus the `found` flag) -/
theorem cut_colon (s : Bytes) : Go.cut s [58] = ((cutColon s).1, (cutColon s).2, decide (58 ∈ s)) := by
  unfold Go.cut
  rw [cutAux_colon]
  by_cases h : 58 ∈ s
  · simp [h]
  · simp [h, cutColon_no_colon s h]

theorem hasPrefix_eq (s p : Bytes) : Go.hasPrefix s p = Model.hasPrefix s p := rfl

theorem length_le_of_hasPrefix {s p : Bytes} (h : Go.hasPrefix s p = true) : p.length ≤ s.length := by
  have : p <+: s := List.isPrefixOf_iff_prefix.mp h
  exact this.length_le

/-! ## `Model.splitSlash` on a segment without `/` -/

theorem splitSlash_ne_nil (s : Bytes) : splitSlash s ≠ [] := by
  cases s with
  | nil => simp [splitSlash]
  | cons c cs =>
    unfold splitSlash
    split
    · simp
    · split <;> simp

theorem splitSlash_seg_nil (seg : Bytes) (h : 47 ∉ seg) : splitSlash seg = [seg] := by
  induction seg with
  | nil => simp [splitSlash]
  | cons c cs ih =>
    have hc : c ≠ 47 := fun e => h (by simp [e])
    have hcs : 47 ∉ cs := fun e => h (by simp [e])
    simp [splitSlash, SLASH, hc, ih hcs]

theorem splitSlash_seg_slash (seg rest : Bytes) (h : 47 ∉ seg) :
    splitSlash (seg ++ 47 :: rest) = seg :: splitSlash rest := by
  induction seg with
  | nil => simp [splitSlash, SLASH]
  | cons c cs ih =>
    have hc : c ≠ 47 := fun e => h (by simp [e])
    have hcs : 47 ∉ cs := fun e => h (by simp [e])
    simp [splitSlash, SLASH, hc, ih hcs]

/-- a generated result (`Go.Res` of the byte tuple) as a `Model.Res` of the object -/
def ofGo {α β : Type} (f : α → β) : Go.Res α → Model.Res β
  | .ok c => .ok (f c)
  | .err e => .err e
  | .panic => .panic

def mapRes {α β : Type} (f : α → β) : Model.Res α → Model.Res β
  | .ok c => .ok (f c)
  | .err e => .err e
  | .panic => .panic

theorem mapRes_id {α : Type} (r : Model.Res α) : mapRes id r = r := by cases r <;> rfl

end GenParse
