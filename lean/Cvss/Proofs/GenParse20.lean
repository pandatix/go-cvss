import Cvss.Proofs.GenParseBase
import Cvss.Proofs.Pool
import Cvss.Gen.P20
/-!
# The regenerated v2.0 parser equals the hand-written model, whatever the pooled buffer holds

`GenP20.ParseVector buf s` (translated from `/repo/20/cvss20.go` by `tools/gen`, parser mode; `buf` is what
`splitPool.Get()` returns) is proved equal to `Model.parse20 s` for **every** byte string `s` (any `List Nat`) and
**every** buffer of 14 strings. The generated `split` / `ParseVector` are `Go.forN` / `Go.forRange` over the
generated bodies, followed by the tails `splitK`, `pvK`, `rangeK` (`split_unfold`, `pv_unfold`); these pieces carry
the namespace of `Proofs/PoolSim.lean`, which runs the same loops one iteration at a time. The generated scan,
started in any state of the loop, finishes as `Model.splitGo` does (`Model/Pool.lean`) and never panics on a 14-slot
buffer; with `Model.split14With_spec` (`Proofs/Pool.lean`) the slots `0..ei` are `Model.splitN 13 s` whatever the
buffer held. One iteration of `for _, pt := range pts` is `Model.step2` (including the out-of-range `order[slci][i]`
panic, which `step2` models and `Parse2*` proves unreachable), so the range loop, started in any state, is
`Model.loop2`.
-/
namespace GenParse20
open Model

abbrev StS := List Bytes × Nat × Nat × Nat
abbrev RS := Option (List Bytes × Nat)

def dec20 : Nat × Nat × Nat × Nat → O20 | (a, b, c, d) => ⟨a, b, c, d⟩

/-- a `step2` outcome as the control result of one range iteration; state `(slci, u0, u1, u2, u3, i)` -/
def next2 : Res (Nat × Nat × O20) → Go.Ctl (Nat × Nat × Nat × Nat × Nat × Nat) (Go.Res (Nat × Nat × Nat × Nat))
  | .ok (slci', i', c') => .next (slci', c'.u0, c'.u1, c'.u2, c'.u3, i')
  | .err e => .ret (.err e)
  | .panic => .ret .panic

end GenParse20

namespace PoolSim
open Model GenParse20

abbrev T4 := Nat × Nat × Nat × Nat
abbrev S6 := Nat × Nat × Nat × Nat × Nat × Nat

/-- loop condition of `split`'s `for ; i < l; i++` -/
def cnd (v : Bytes) : StS → Bool := fun (_, _, _, i) => Nat.blt i v.length
/-- its post statement `i++` -/
def post : StS → StS := fun (dst, start, curr, i) => (dst, start, curr, i + 1)
/-- what `split` does with the value of its loop: `dst[curr] = vector[start:]; return curr` -/
def splitK (v : Bytes) : Go.Loop StS RS → RS
  | .ret r => r
  | .fuel => none
  | .done (dst, start, curr, _) =>
    Go.sliceFrom v start none fun t2 => Go.setIndex dst curr t2 none fun dst => some (dst, curr)

/-- **the generated `split` is `Go.forN` over the generated body `split_for1`, then `splitK`** (by `rfl`:
    a change of the loop header or of the tail in the Go source breaks this) -/
theorem split_unfold (dst : Buf) (v : Bytes) :
    GenP20.split dst v = splitK v (Go.forN (v.length + 2) (dst, 0, 0, 0) (cnd v) post (GenP20.split_for1 v)) := rfl

/-- what `ParseVector` does with the value of its range loop: `return` inside the loop, or `if i != 0 { … }` -/
def rangeK : Go.Ctl S6 (Go.Res T4) → Go.Res T4
  | .ret r => r
  | .brk _ => .panic
  | .next (_, u0, u1, u2, u3, i) => cond (!(Nat.beq i 0)) (.err ⟨2, []⟩) (.ok (u0, u1, u2, u3))

/-- what `ParseVector` does with the result of `split`: `pts = pts[:ei+1]`, the range loop, `rangeK` -/
def pvK : RS → Go.Res T4
  | none => .panic
  | some (pts, ei) => Go.sliceTo pts (ei + 1) .panic fun pts =>
      rangeK (Go.forRange pts (0, 0, 0, 0, 0, 0) GenP20.ParseVector_range1)

/-- **the generated `ParseVector` is the generated `split`, then `Go.forRange` over the generated body
    `ParseVector_range1`, then `rangeK`** -/
theorem pv_unfold (buf : Buf) (s : Bytes) : GenP20.ParseVector buf s = pvK (GenP20.split buf s) := by
  unfold GenP20.ParseVector
  simp only []
  cases GenP20.split buf s with
  | none => rfl
  | some r =>
    obtain ⟨pts, ei⟩ := r
    simp only [pvK]
    unfold Go.sliceTo
    cases Nat.ble (ei + 1) pts.length with
    | false => rfl
    | true =>
      simp only [Nat.add_eq]
      cases Go.forRange (List.take (ei + 1) pts) ((0:Nat), (0:Nat), (0:Nat), (0:Nat), (0:Nat), (0:Nat))
          GenP20.ParseVector_range1 with
      | ret r => rfl
      | brk s => rfl
      | next s => rfl

/-- the state of the generated scan that a thread in phase `split a inp curr seg rest` with
    `inp = pre ++ seg ++ rest` is in: `dst` = its buffer, `start = |pre|`, `i = |pre| + |seg|` -/
def gst (buf : Buf) (pre seg : Bytes) (curr : Nat) : StS := (buf, pre.length, curr, pre.length + seg.length)

/-- the state `(slci, u0, u1, u2, u3, i)` of the generated range loop for the machine's `(slci, i, object)` -/
def enc (slci i : Nat) (c : O20) : S6 := (slci, c.u0, c.u1, c.u2, c.u3, i)

end PoolSim

namespace GenParse20
open Model GenParse PoolSim

theorem drop_after {inp pre seg : Bytes} {c : Nat} {cs : Bytes} (hv : inp = pre ++ seg ++ c :: cs) :
    inp.drop (pre.length + seg.length + 1) = cs := by
  have hv' : inp = (pre ++ seg ++ [c]) ++ cs := by simp [hv]
  have hl : pre.length + seg.length + 1 = (pre ++ seg ++ [c]).length := by
    simp only [List.length_append, List.length_singleton]
  rw [hl, hv']; exact drop_seg _ _

/-- **one round of the generated scan**, in a state with `start = |pre|`, `i = |pre| + |seg|`, `vector[i] = c`:
    a `/` writes `dst[curr] = vector[start:i]` and leaves the loop when `curr` reaches 13 -/
theorem split_for1_eval {inp pre seg : Bytes} {c : Nat} {cs : Bytes} {buf : Buf} {curr : Nat}
    (hv : inp = pre ++ seg ++ c :: cs) (hcl : curr < buf.length) :
    GenP20.split_for1 inp (gst buf pre seg curr) =
      if c = 47 then
        if curr + 1 = 13 then
          .brk (buf.set curr seg, pre.length + seg.length + 1, curr + 1, pre.length + seg.length)
        else .next (buf.set curr seg, pre.length + seg.length + 1, curr + 1, pre.length + seg.length)
      else .next (gst buf pre seg curr) := by
  have hlt : pre.length + seg.length < inp.length := by simp [hv]
  have hix : inp[pre.length + seg.length]? = some c := by rw [hv]; exact getElem?_at pre seg c cs
  simp only [GenP20.split_for1, gst]
  rw [index_some hix]
  by_cases hs : c = 47
  · subst hs
    simp only [Nat.beq_refl, cond_true, if_true]
    rw [slice_ok inp (by omega) (by omega), hv, take_drop_seg, setIndex_ok _ _ hcl]
    by_cases h13 : curr + 1 = 13
    · simp [h13]
    · simp [h13, beq_false h13]
  · simp [hs, beq_false hs]

/-- **the generated scan finishes as `Model.splitGo` does**, from every state of the loop (and from the state
    `curr = 13` after the `break`, where only the tail `dst[curr] = vector[start:]` is left) -/
theorem splitK_forN {inp : Bytes} (rest : Bytes) : ∀ (pre seg : Bytes) (buf : Buf) (curr fuel : Nat),
    inp = pre ++ seg ++ rest → buf.length = 14 → (curr ≤ 12 ∨ (curr = 13 ∧ rest = [])) → rest.length + 1 ≤ fuel →
    splitK inp (Go.forN fuel (gst buf pre seg curr) (cnd inp) post (GenP20.split_for1 inp))
      = some (splitGo buf curr seg rest) := by
  induction rest with
  | nil =>
    intro pre seg buf curr fuel hv hl hc hf
    obtain ⟨n, rfl⟩ : ∃ n, fuel = n + 1 := ⟨fuel - 1, by omega⟩
    have hv' : inp = pre ++ seg := by simpa using hv
    rw [forN_stop (h := show cnd inp (gst buf pre seg curr) = false from blt_false (by simp [hv']))]
    simp only [splitK, gst]
    rw [sliceFrom_ok _ (by simp [hv']), setIndex_ok _ _ (by omega)]
    simp [splitGo, hv']
  | cons c cs ih =>
    intro pre seg buf curr fuel hv hl hc hf
    obtain ⟨n, rfl⟩ : ∃ n, fuel = n + 1 := ⟨fuel - 1, by omega⟩
    have hc' : curr ≤ 12 := by
      rcases hc with h | ⟨_, h⟩
      · exact h
      · cases h
    have hcnd : cnd inp (gst buf pre seg curr) = true := blt_true (by simp [hv])
    have hb := split_for1_eval hv (show curr < buf.length by omega)
    by_cases hs : c = 47
    · by_cases h13 : curr + 1 = 13
      · rw [if_pos hs, if_pos h13] at hb
        rw [forN_brk (h := hcnd) (hb := hb)]
        simp only [splitK]
        rw [sliceFrom_ok _ (by simp [hv]; omega), setIndex_ok _ _ (by simp [hl]; omega), drop_after hv]
        simp [splitGo, SLASH, hs, h13]
      · rw [if_pos hs, if_neg h13] at hb
        rw [forN_next (h := hcnd) (hb := hb)]
        have := ih (pre ++ seg ++ [47]) [] (buf.set curr seg) (curr + 1) n (by simp [hv, hs]) (by simp [hl])
          (.inl (by omega)) (by simp at hf; omega)
        simp only [gst, List.length_append, List.length_singleton, List.length_nil, Nat.add_zero] at this
        simp only [splitGo, SLASH, hs, if_true, h13, if_false]
        exact this
    · rw [if_neg hs] at hb
      rw [forN_next (h := hcnd) (hb := hb)]
      have := ih pre (seg ++ [c]) buf curr n (by simp [hv]) hl (.inl hc') (by simp at hf; omega)
      simp only [gst, List.length_append, List.length_singleton, ← Nat.add_assoc] at this
      simp only [splitGo, SLASH, hs, if_false]
      exact this

/-- **`split` into any 14-slot buffer**: no panic, and buffer and `ei` are those of `Model.split14With` -/
theorem split_spec (buf : List Bytes) (s : Bytes) (hl : buf.length = 14) :
    GenP20.split buf s = some (split14With buf s) := by
  rw [split_unfold]
  exact splitK_forN s [] [] buf 0 _ rfl hl (.inl (by omega)) (by omega)

theorem beq_decide (a b : Nat) : Nat.beq a b = decide (a = b) := by
  by_cases h : a = b
  · simp [h]
  · simp [h, GenParse.beq_false]

theorem index_none' {α ρ : Type} {s : List α} {i : Nat} (h : s[i]? = none) (p : ρ) (k : α → ρ) :
    Go.index s i p k = p := by simp [Go.index, h]
theorem strEq_eq (a b : Bytes) : Go.strEq a b = decide (a = b) := rfl
theorem errBeq_eq (e : Go.Err) : Go.Err.beq e Go.errNil = decide (e = Go.errNil) := rfl

/-- The end of the loop body, once the `switch` has fixed the group `g` and the expected abbreviation `tgt`:
    compare, `Set`, `i++`, and move to the next group at the end of this one. The translator emits this text
    once per path through the `switch` (`range1_eq`). -/
def tail20 (abv v : Bytes) (g i u0 u1 u2 u3 : Nat) (tgt : Bytes) : Go.Ctl S6 (Go.Res T4) :=
  cond (!(Go.strEq abv tgt)) (.ret (.err ⟨3, []⟩))
    (match GenV20.Set u0 u1 u2 u3 abv v with
    | (u0, u1, u2, u3, err) =>
      cond (!(Go.Err.beq err Go.errNil)) (.ret (.err err))
        (Go.index GenV20.tbl_order g (.ret .panic) fun grp =>
          match cond (Nat.beq (i + 1) grp.length) (g + 1, 0) (g, i + 1) with
          | (g, i) => .next (g, u0, u1, u2, u3, i)))

theorem range1_eq (pt : Bytes) (slci u0 u1 u2 u3 i : Nat) :
    GenP20.ParseVector_range1 pt (slci, u0, u1, u2, u3, i) =
      match Go.cut pt [58] with
      | (abv, v, _) =>
        cond (Nat.beq slci 0 || Nat.beq slci 2)
          (Go.index GenV20.tbl_order slci (.ret .panic) fun grp => Go.index grp i (.ret .panic) fun tgt =>
            tail20 abv v slci i u0 u1 u2 u3 tgt)
          (cond (Nat.beq slci 1)
            (Go.index GenV20.tbl_order 1 (.ret .panic) fun grp => Go.index grp i (.ret .panic) fun tgt =>
              cond (Nat.beq i 0 && !(Go.strEq tgt abv))
                (Go.index GenV20.tbl_order 2 (.ret .panic) fun grp => Go.index grp 0 (.ret .panic) fun tgt =>
                  tail20 abv v (slci + 1) i u0 u1 u2 u3 tgt)
                (tail20 abv v slci i u0 u1 u2 u3 tgt))
            (.ret (.err ⟨4, []⟩))) := rfl

/-- the tail is the end of `Model.step2` -/
theorem tail20_eq (abv v : Bytes) (g i : Nat) (c : O20) (tgt : Bytes)
    (hg : GenV20.tbl_order[g]? = some (GenV20.tbl_order.getD g [])) :
    tail20 abv v g i c.u0 c.u1 c.u2 c.u3 tgt = next2 (
      if abv ≠ tgt then .err eOrder else
      match c.set abv v with
      | (c', e) =>
        if e ≠ Go.errNil then .err e else
        if i + 1 = (GenV20.tbl_order.getD g []).length then .ok (g + 1, 0, c') else .ok (g, i + 1, c')) := by
  obtain ⟨u0, u1, u2, u3⟩ := c
  have hS : GenV20.Set u0 u1 u2 u3 abv v =
      ((O20.set ⟨u0, u1, u2, u3⟩ abv v).1.u0, (O20.set ⟨u0, u1, u2, u3⟩ abv v).1.u1,
       (O20.set ⟨u0, u1, u2, u3⟩ abv v).1.u2, (O20.set ⟨u0, u1, u2, u3⟩ abv v).1.u3,
       (O20.set ⟨u0, u1, u2, u3⟩ abv v).2) := by simp only [O20.set]
  simp only [tail20, hS]
  generalize O20.set ⟨u0, u1, u2, u3⟩ abv v = r
  obtain ⟨⟨a0, a1, a2, a3⟩, e⟩ := r
  rw [index_some hg]
  -- the same three tests on both sides; the last one sits inside the tuple on the left
  simp only [strEq_eq, errBeq_eq, beq_decide, Bool.cond_not, Bool.cond_decide, ne_eq, ite_not, apply_ite next2]
  by_cases h3 : i + 1 = (GenV20.tbl_order.getD g []).length
  · simp only [h3, if_true, next2]; rfl
  · simp only [h3, if_false, next2]; rfl

theorem tbl_some {g : Nat} (h : g = 0 ∨ g = 1 ∨ g = 2) :
    GenV20.tbl_order[g]? = some (GenV20.tbl_order.getD g []) := by
  rcases h with rfl | rfl | rfl <;> rfl

/-- **one iteration of `for _, pt := range pts` is `Model.step2`** (for every state, reachable or not) -/
theorem range_step (pt : Bytes) (slci i : Nat) (c : O20) :
    GenP20.ParseVector_range1 pt (enc slci i c) = next2 (step2 GenV20.tbl_order slci i c pt) := by
  have hidx : ∀ g j, (GenV20.tbl_order.getD g [])[j]? = idx2 GenV20.tbl_order g j := fun _ _ => rfl
  simp only [enc, range1_eq, cut_colon, step2]
  generalize (cutColon pt).1 = abv
  generalize (cutColon pt).2 = v
  by_cases h02 : slci = 0 ∨ slci = 2
  · have hg := tbl_some (g := slci) (by omega)
    have hb : (Nat.beq slci 0 || Nat.beq slci 2) = true := by rcases h02 with rfl | rfl <;> rfl
    simp only [hb, cond_true, h02, if_true]
    rw [index_some hg]
    cases hgi : idx2 GenV20.tbl_order slci i with
    | none => rw [index_none' ((hidx slci i).trans hgi)]; rfl
    | some tgt => rw [index_some ((hidx slci i).trans hgi)]; exact tail20_eq abv v slci i c tgt hg
  · have hb : (Nat.beq slci 0 || Nat.beq slci 2) = false := by
      simp only [beq_decide, Bool.or_eq_false_iff, decide_eq_false_iff_not]; omega
    simp only [hb, cond_false, h02, if_false]
    by_cases h1 : slci = 1
    · subst h1
      simp only [Nat.beq_refl, cond_true, if_true]
      rw [index_some (tbl_some (.inr (.inl rfl)))]
      cases hgi : idx2 GenV20.tbl_order 1 i with
      | none =>
        rw [index_none' ((hidx 1 i).trans hgi)]
        -- `order[1][0]` exists, so the missing index is not 0 and the model does not jump either
        have hi : i ≠ 0 := by intro h; subst h; cases hgi
        simp [hi, next2]
      | some tgt =>
        rw [index_some ((hidx 1 i).trans hgi)]
        by_cases hsw : i = 0 ∧ tgt ≠ abv
        · -- the jump to group 2: `order[2][0]` is compared instead
          obtain ⟨rfl, hne⟩ := hsw
          have hne2 : some tgt ≠ some abv := fun h => hne (Option.some.inj h)
          simp only [Nat.beq_refl, Bool.true_and, strEq_eq, hne, decide_false, Bool.not_false, cond_true,
            true_and, hne2, ne_eq, not_false_eq_true, if_true]
          rw [index_some (tbl_some (.inr (.inr rfl)))]
          cases hg2 : idx2 GenV20.tbl_order 2 0 with
          | none => cases hg2
          | some tgt' =>
            rw [index_some ((hidx 2 0).trans hg2)]
            exact tail20_eq abv v 2 0 c tgt' (tbl_some (.inr (.inr rfl)))
        · have hc : (Nat.beq i 0 && !Go.strEq tgt abv) = false := by
            simp only [beq_decide, strEq_eq, Bool.and_eq_false_imp, decide_eq_true_eq, Bool.not_eq_false',
              decide_eq_true_eq]
            exact fun hi => Classical.byContradiction fun ht => hsw ⟨hi, ht⟩
          have hm : ¬ (i = 0 ∧ some tgt ≠ some abv) := fun ⟨hi, hne⟩ => hsw ⟨hi, fun h => hne (by rw [h])⟩
          simp only [hc, cond_false, hm, if_false]
          exact tail20_eq abv v 1 i c tgt (tbl_some (.inr (.inl rfl)))
    · simp [beq_false h1, h1, next2, eValue]

/-- **the range loop is `Model.loop2`**, `rangeK` being what `ParseVector` makes of the value of the loop -/
theorem range_spec (els : List Bytes) : ∀ (slci i : Nat) (c : O20),
    ofGo dec20 (rangeK (Go.forRange els (enc slci i c) GenP20.ParseVector_range1))
      = loop2 GenV20.tbl_order els slci i c := by
  induction els with
  | nil =>
    intro slci i c
    obtain ⟨u0, u1, u2, u3⟩ := c
    by_cases hi : i = 0
    · simp [Go.forRange, rangeK, enc, loop2, ofGo, dec20, hi]
    · simp [Go.forRange, rangeK, enc, loop2, ofGo, hi, beq_false hi, eTooShort]
  | cons pt rest ih =>
    intro slci i c
    simp only [Go.forRange, loop2, range_step]
    cases step2 GenV20.tbl_order slci i c pt with
    | ok r =>
      obtain ⟨slci', i', c'⟩ := r
      exact ih slci' i' c'
    | err e => rfl
    | panic => rfl

/-- **v2.0**: with any 14 stale strings in the pooled buffer, on every byte string, the regenerated parser returns
    the same object / the same error as the hand-written (pool-free) model, and panics exactly where the model
    does (nowhere: `Proofs/Parse2*`) -/
theorem genParse20 (buf : List Bytes) (hl : buf.length = 14) (s : Bytes) :
    ofGo dec20 (GenP20.ParseVector buf s) = parse20 s := by
  obtain ⟨h1, h2, h3⟩ := split14With_spec buf s hl
  rw [pv_unfold, split_spec buf s hl]
  simp only [pvK]
  rw [sliceTo_ok _ (by omega), h3]
  exact range_spec (splitN 13 s) 0 0 O20.zero

end GenParse20
