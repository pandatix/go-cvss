import Cvss.Proofs.Score2Mono
/-!
# C12 (v2.0 part) — Base and Temporal scores are monotone

Changing one metric of a well-formed v2.0 object to a more severe value (order of `Spec/OrderV2.lean`:
AV L<A<N; AC H<M<L; Au M<S<N; C/I/A N<P<C; E U<POC<F<H with ND as H; RL OF<TF<W<U with ND as U; RC UC<UR<C with
ND as C) never decreases `BaseScore` (Base metrics) nor `TemporalScore` (Base and Temporal metrics), as IEEE `≤`
(`F64.le`) on the generated float model. Metrics are identified by their abbreviation strings and compared
through `Get`, so the statement does not mention codes or bits.

Proof: `Proofs/Score2Mono.lean`. Base: kernel evaluation of the float model on the 729 base tuples × more severe
values. Temporal: the step returns a tenth nearest to the exact product of the BaseScore and the three weights
(C05), the product is monotone in every factor, and so are nearest tenths and their doubles.
-/
namespace Props.C12v2
open Model Spec.V2 Proofs.Score2
open Spec (b)

theorem baseAbvs : Spec.V2.base.map (·.abv) = [b "AV", b "AC", b "Au", b "C", b "I", b "A"] := by decide
theorem tempAbvs : Spec.V2.temporal.map (·.abv) = [b "E", b "RL", b "RC"] := by decide

/-- metric number `j < 6` is a Base metric, `6 ≤ j < 9` a Temporal one -/
theorem abv_base : ∀ j, j < 6 → (Bits.mAt Bits20.ms j).abv ∈ Spec.V2.base.map (·.abv) := by decide
theorem abv_temp : ∀ j, j < 9 → (Bits.mAt Bits20.ms j).abv ∈ (Spec.V2.base ++ Spec.V2.temporal).map (·.abv) := by
  decide

/-- raising one Base metric (all other Base metrics unchanged) never lowers BaseScore -/
theorem base_monotone (c c' : O20) (h : c.wf = true) (h' : c'.wf = true) (a : Spec.Bytes)
    (ha : a ∈ Spec.V2.base.map (·.abv))
    (same : ∀ a' ∈ Spec.V2.base.map (·.abv), a' ≠ a → c.get a' = c'.get a')
    (sev : sevLE a (c.get a).1 (c'.get a).1 = true) :
    F64.le c.baseScore c'.baseScore = true := by
  have r := wf_inRange c h
  have r' := wf_inRange c' h'
  have mt := monoBase_elim (monoBase_tbl r.hC r.hI r.hA r.hAV r.hAC r.hAu)
  -- the code of every other Base metric `j` is the same in `c` and `c'`
  have e := fun j (hj : j < 6) hne => code_congr c c' h h' (j := j) (by omega) (same _ (abv_base j hj) hne)
  have eAV : b "AV" ≠ a → cAV c = cAV c' := e 0 (by decide)
  have eAC : b "AC" ≠ a → cAC c = cAC c' := e 1 (by decide)
  have eAu : b "Au" ≠ a → cAu c = cAu c' := e 2 (by decide)
  have eC : b "C" ≠ a → cC c = cC c' := e 3 (by decide)
  have eI : b "I" ≠ a → cI c = cI c' := e 4 (by decide)
  have eA : b "A" ≠ a → cA c = cA c' := e 5 (by decide)
  rw [baseScore_codes, baseScore_codes]
  rw [baseAbvs] at ha
  simp only [List.mem_cons, List.not_mem_nil, or_false] at ha
  rcases ha with rfl | rfl | rfl | rfl | rfl | rfl
  · rw [← eAC (by decide), ← eAu (by decide), ← eC (by decide), ← eI (by decide), ← eA (by decide)]
    exact (mt (cAV c') r'.hAV).2.2.2.1 sev
  · rw [← eAV (by decide), ← eAu (by decide), ← eC (by decide), ← eI (by decide), ← eA (by decide)]
    exact (mt (cAC c') r'.hAC).2.2.2.2.1 sev
  · rw [← eAV (by decide), ← eAC (by decide), ← eC (by decide), ← eI (by decide), ← eA (by decide)]
    exact (mt (cAu c') r'.hAu).2.2.2.2.2 sev
  · rw [← eAV (by decide), ← eAC (by decide), ← eAu (by decide), ← eI (by decide), ← eA (by decide)]
    exact (mt (cC c') r'.hC).1 sev
  · rw [← eAV (by decide), ← eAC (by decide), ← eAu (by decide), ← eC (by decide), ← eA (by decide)]
    exact (mt (cI c') r'.hI).2.1 sev
  · rw [← eAV (by decide), ← eAC (by decide), ← eAu (by decide), ← eC (by decide), ← eI (by decide)]
    exact (mt (cA c') r'.hA).2.2.1 sev

theorem baseScore_congr (c c' : O20) (h : c.wf = true) (h' : c'.wf = true)
    (e : ∀ a ∈ Spec.V2.base.map (·.abv), c.get a = c'.get a) : c.baseScore = c'.baseScore := by
  have g := fun j (hj : j < 6) => code_congr c c' h h' (j := j) (by omega) (e _ (abv_base j hj))
  have eAV : cAV c = cAV c' := g 0 (by decide)
  have eAC : cAC c = cAC c' := g 1 (by decide)
  have eAu : cAu c = cAu c' := g 2 (by decide)
  have eC : cC c = cC c' := g 3 (by decide)
  have eI : cI c = cI c' := g 4 (by decide)
  have eA : cA c = cA c' := g 5 (by decide)
  rw [baseScore_codes, baseScore_codes, eAV, eAC, eAu, eC, eI, eA]

theorem base_not_temp : ∀ t ∈ Spec.V2.base.map (·.abv), t ∉ Spec.V2.temporal.map (·.abv) := by decide

/-- raising one Base or Temporal metric (all other Base and Temporal metrics unchanged) never lowers TemporalScore -/
theorem temporal_monotone (c c' : O20) (h : c.wf = true) (h' : c'.wf = true) (a : Spec.Bytes)
    (ha : a ∈ (Spec.V2.base ++ Spec.V2.temporal).map (·.abv))
    (same : ∀ a' ∈ (Spec.V2.base ++ Spec.V2.temporal).map (·.abv), a' ≠ a → c.get a' = c'.get a')
    (sev : sevLE a (c.get a).1 (c'.get a).1 = true) :
    F64.le c.temporalScore c'.temporalScore = true := by
  have r := wf_inRange c h
  have r' := wf_inRange c' h'
  obtain ⟨k, _, bk, l, u⟩ := base_main c h
  obtain ⟨k', _, bk', l', u'⟩ := base_main c' h'
  have e := fun j (hj : j < 9) hne => code_congr c c' h h' (j := j) (by omega) (same _ (abv_temp j hj) hne)
  have eE : b "E" ≠ a → cE c = cE c' := e 6 (by decide)
  have eRL : b "RL" ≠ a → cRL c = cRL c' := e 7 (by decide)
  have eRC : b "RC" ≠ a → cRC c = cRC c' := e 8 (by decide)
  rw [temporalScore_shape, temporalScore_shape]
  rw [List.map_append, List.mem_append] at ha
  rcases ha with hb | ht
  · -- a Base metric: the temporal codes agree, BaseScore does not decrease
    have ne : ∀ t ∈ Spec.V2.temporal.map (·.abv), t ≠ a := fun t ht e => base_not_temp a hb (e ▸ ht)
    have hle := base_monotone c c' h h' a hb
      (fun a' ha' => same a' (by rw [List.map_append]; exact List.mem_append_left _ ha')) sev
    rw [← eE (ne _ (by decide)), ← eRL (ne _ (by decide)), ← eRC (ne _ (by decide))]
    exact t2_mono_in bk l (by omega) r.hE r.hRL r.hRC bk' ((le_bitsOK bk bk' l u l' u').1 hle) u'
  · -- a Temporal metric: every Base code agrees, so BaseScore is unchanged; one weight code is raised
    rw [← baseScore_congr c c' h h' fun t hb =>
      same t (by rw [List.map_append]; exact List.mem_append_left _ hb) fun e => base_not_temp t hb (e ▸ ht)]
    rw [tempAbvs] at ht
    simp only [List.mem_cons, List.not_mem_nil, or_false] at ht
    rcases ht with rfl | rfl | rfl
    · rw [← eRL (by decide), ← eRC (by decide)]
      exact t2_mono_E bk l u r.hE r.hRL r.hRC r'.hE sev
    · rw [← eE (by decide), ← eRC (by decide)]
      exact t2_mono_RL bk l u r.hE r.hRL r.hRC r'.hRL sev
    · rw [← eE (by decide), ← eRL (by decide)]
      exact t2_mono_RC bk l u r.hE r.hRL r.hRC r'.hRC sev

/-! the hypotheses are satisfiable: `AV:L/…` raised to `AV:N`, everything else equal -/
example : (⟨9, 80, 0, 0⟩ : O20).wf = true ∧ (⟨137, 80, 0, 0⟩ : O20).wf = true ∧
    sevLE (b "AV") ((⟨9, 80, 0, 0⟩ : O20).get (b "AV")).1 ((⟨137, 80, 0, 0⟩ : O20).get (b "AV")).1 = true := by decide +kernel

end Props.C12v2
