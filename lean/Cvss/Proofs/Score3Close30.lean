import Cvss.Proofs.Score3Close31
import Cvss.Proofs.Score3Codes30
import Cvss.Proofs.Score3M30
/-!
# C03, v3.0: `Impact` and `Exploitability` (unrounded) are within 10⁻¹² of the exact Spec value

Kernel enumeration of this version's `Impact_core`; `Exploitability_core` is v3.1's term, and so is its table.
-/
namespace Proofs.Score3.V30
open Spec Spec.V3 GenV30

theorem imp_all : allImpOn Impact_core = true := by decide +kernel

theorem impact_obj (c : Model.O30) (h : c.wf = true) : within12 c.impact (Spec.V3.impact (val c)) = true := by
  rw [impact_eq, val_eq]
  exact impact_codes (inRange_of_wf c h) imp_all impact_scope (V31.scope_beq c.u0)

theorem exploitability_obj (c : Model.O30) (h : c.wf = true) :
    within12 c.exploitability (Spec.V3.exploitability (val c)) = true := by
  rw [exploitability_eq, val_eq]
  exact exploitability_codes (inRange_of_wf c h)

end Proofs.Score3.V30
