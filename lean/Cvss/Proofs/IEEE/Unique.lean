import Cvss.Proofs.IEEE.Spec
/-!
# Sanity of the specification: `IsRNE` determines its result
-/
namespace IEEE
open Spec F64Order

theorem IsRNE.sv_eq {n : Int} {d r : Nat} (h : IsRNE n d r) : n = sv (signBit r) n.natAbs := by
  have := h.sign; have := signBit_le r
  unfold sv; split <;> omega

theorem IsRNE.mag {n : Int} {d r : Nat} (hd : 0 < d) (h : IsRNE n d r) : IsRNEMag n.natAbs d (r % P63) := by
  have hr := split r h.bits
  have hs := signBit_le r
  have hovd : 0 < ovf * d := Nat.mul_pos ovf_pos hd
  have hnan : ¬ PINF < r % P63 := fun hh => h.notNaN ((ofBits_nan_iff_mod r).mpr hh)
  have hpos := h.posInf
  have hneg := h.negInf
  rw [ofBits_posInf_iff, h.sv_eq, ← Int.natCast_mul, le_sv_iff _ _ _ hovd] at hpos
  rw [ofBits_negInf_iff, h.sv_eq, ← Int.natCast_mul, sv_le_neg_iff _ _ _ hovd hs] at hneg
  have hinf : r % P63 = PINF ↔ ovf * d ≤ n.natAbs := by omega
  have hnear := h.nearest
  have heven := h.even
  rw [h.sv_eq] at hnear heven
  generalize n.natAbs = a at *
  generalize signBit r = s at *
  generalize r % P63 = p at *
  have hmid := ovf_mid_mul d
  have hs1 := wpd_strict d hd (show PINF - 1 < PINF by decide)
  have hdp := den_pos
  have hcmp : (ovf * d ≤ a → (ovf * d) * den ≤ a * den) ∧ (a < ovf * d → a * den < (ovf * d) * den) :=
    ⟨fun h => Nat.mul_le_mul_right _ h, fun h => Nat.mul_lt_mul_of_pos_right h hdp⟩
  by_cases hlt : p < PINF
  · -- finite result: compare with the finite patterns of the same sign, then with `PINF` through `PINF - 1`
    have hob := ofBits_pack_fin s p hs hlt
    rw [← hr] at hob
    have hsame : ∀ q, q < PINF → adist (wp p * d) (a * den) ≤ adist (wp q * d) (a * den) ∧
        (q ≠ p → adist (wp p * d) (a * den) = adist (wp q * d) (a * den) → p % 2 = 0) := by
      intro q hq
      have h1 := hnear _ hob (s * P63 + q) _ (ofBits_pack_fin s q hs hq)
      have h2 := heven _ hob (s * P63 + q) _ (ofBits_pack_fin s q hs hq)
      rw [dist_same, dist_same] at h1 h2
      refine ⟨h1, fun hne heq => ?_⟩
      have hw : wp q ≠ wp p := fun hw => by
        rcases Nat.lt_or_gt_of_ne hne with h | h <;> have := wp_strict h <;> omega
      have hr2 : r % 2 = 0 := h2 (fun e => hw (by simpa [sv_natAbs] using congrArg Int.natAbs e)) heq
      have := p63_even
      rw [hr] at hr2
      generalize P63 = X at *
      rcases (by omega : s = 0 ∨ s = 1) with rfl | rfl <;> omega
    have hnov : a < ovf * d := by omega
    have hmax := (hsame (PINF - 1) (by decide)).1
    -- `PINF` is strictly farther: the value is below the midpoint `ovf` of `PINF - 1` and `PINF`
    have hfar : adist (wp p * d) (a * den) < adist (wp PINF * d) (a * den) := by
      have := hcmp.2 hnov
      clear hpos hneg hinf hnear heven hob hnan hr hovd hs hsame
      generalize ovf * d = OD at *
      unfold adist at hmax ⊢
      omega
    refine ⟨by omega, fun q hq => ?_, fun q hq hne => ?_⟩
    · by_cases hqp : q = PINF
      · rw [hqp]; exact Nat.le_of_lt hfar
      · exact (hsame q (by omega)).1
    · by_cases hqp : q = PINF
      · rw [hqp]; exact fun heq => absurd heq (Nat.ne_of_lt hfar)
      · exact (hsame q (by omega)).2 hne
  · -- infinite result
    have heq : p = PINF := by omega
    subst heq
    have := hcmp.1 (hinf.mp rfl)
    refine ⟨Nat.le_refl _, fun q hq => ?_, fun _ _ _ _ => pinf_even⟩
    by_cases hqp : q = PINF
    · subst hqp; exact Nat.le_refl _
    · have := wpd_mono d (show q ≤ PINF - 1 by omega)
      generalize ovf * d = OD at *
      unfold adist
      omega

/-- **uniqueness of the correctly rounded result**: the value is determined, and so is the bit pattern
    unless the exact value is zero (where `+0` and `−0` both qualify) -/
theorem IsRNE.unique {n : Int} {d r r' : Nat} (hd : 0 < d) (h : IsRNE n d r) (h' : IsRNE n d r') :
    F64Val.ofBits r = F64Val.ofBits r' ∧ (n ≠ 0 → r = r') ∧ r % 2^63 = r' % 2^63 := by
  have hp : r % P63 = r' % P63 := (h.mag hd).unique hd (h'.mag hd)
  have e1 := split r h.bits
  have e2 := split r' h'.bits
  have hne : n ≠ 0 → r = r' := by
    intro hn
    have : signBit r = signBit r' := by
      rcases Int.lt_or_gt_of_ne hn with hh | hh
      · rw [h.sign.1 hh, h'.sign.1 hh]
      · rw [h.sign.2 hh, h'.sign.2 hh]
    rw [e1, e2, this, hp]
  refine ⟨?_, hne, hp⟩
  by_cases hn : n = 0
  · -- both are zeros
    subst hn
    have z1 : r % P63 = 0 := (h.mag hd).unique hd (IsRNEMag.zero d hd)
    rw [ofBits_eq, ofBits_eq r', ← hp, z1, if_pos (by decide), if_pos (by decide), wp_zero, sv_zero, sv_zero]
  · rw [hne hn]

end IEEE
