import Cvss.Proofs.Reach40
/-!
# C09 (CVSS v4.0, Get/Set part) — recognised abbreviations and values; well-formedness of reachable objects

"Get and Set recognise exactly the version's metric abbreviations (case-sensitive) and Set accepts exactly the
metric's specified values; anything else is refused with an error. Consequently every reachable object, including
the zero value, is well formed: every Get returns a legal non-empty value."

The abbreviations and value lists are the Spec table `Spec.V4.metrics`; the functions are the generated
`GenV40.Get` / `GenV40.Set`. The recognition statements hold for every object, reachable or not.
-/
namespace C09.V40
open Model (O40)
open Spec (b legal isMetric)
open Proofs.B40

/-- `isMetric` is membership in the Spec abbreviation list (byte-wise, hence case-sensitive, equality) -/
theorem isMetric_iff_mem (a : List Nat) : isMetric Spec.V4.metrics a = true ↔ a ∈ Spec.V4.metrics.map (·.abv) :=
  Bits.isMetric_iff a _

/-- `Get` succeeds exactly on the 32 abbreviations … -/
theorem get_recognises (c : O40) (a : List Nat) : (c.get a).2 = Go.errNil ↔ isMetric Spec.V4.metrics a = true :=
  layout40.get_ok_iff c a
/-- … and refuses anything else with `*ErrInvalidMetric{abv}` and the empty string -/
theorem get_refuses (c : O40) (a : List Nat) (h : isMetric Spec.V4.metrics a = false) :
    c.get a = ([], Model.eInvalidMetric a) := contract40.get_unknown c a h

/-- `Set` succeeds exactly on (Spec abbreviation, one of that metric's Spec values) … -/
theorem set_accepts (c : O40) (a v : List Nat) : (c.set a v).2 = Go.errNil ↔ legal Spec.V4.metrics a v = true :=
  Bits.set_ok_iff contract40 c a v
/-- … refuses an unknown abbreviation with `*ErrInvalidMetric{abv}` … -/
theorem set_refuses_unknown (c : O40) (a v : List Nat) (h : isMetric Spec.V4.metrics a = false) :
    c.set a v = (c, Model.eInvalidMetric a) := contract40.set_unknown c a v h
/-- … and an illegal value of a known metric with `ErrInvalidMetricValue`; both leave the object alone -/
theorem set_refuses_illegal (c : O40) (a v : List Nat) (h : isMetric Spec.V4.metrics a = true)
    (h' : legal Spec.V4.metrics a v = false) : c.set a v = (c, Model.eValue) := contract40.set_illegal c a v h h'

/-- every reachable object (the zero value included) is well formed … -/
theorem reachable_wf (c : O40) (hr : O40.Reachable c) : c.wf = true := (reachable_iff_wf c).1 hr
theorem zero_wf : O40.zero.wf = true := wf_zero
/-- … and nothing else is reachable -/
theorem wf_reachable (c : O40) (h : c.wf = true) : O40.Reachable c := (reachable_iff_wf c).2 h

/-- on a reachable object every `Get` of a Spec metric returns, without error, one of the metric's legal values,
    which is a non-empty string -/
theorem reachable_get_legal (c : O40) (hr : O40.Reachable c) (m : Spec.Metric) (hm : m ∈ Spec.V4.metrics) :
    (c.get m.abv).2 = Go.errNil ∧ (c.get m.abv).1 ∈ m.values ∧ (c.get m.abv).1 ≠ [] :=
  Bits.wf_get_ne_nil contract40 tableOK c (reachable_wf c hr) m hm

/-- the zero value holds `X` in every optional metric (and the first-coded value in the mandatory ones) -/
theorem zero_optional (m : Spec.Metric) (hm : m ∈ Spec.V4.metrics) (u : List Nat) (hu : m.undef = some u) :
    O40.zero.get m.abv = (u, Go.errNil) := contract40.get_zero_opt m hm u hu

/-! Case sensitivity and the v4-specific values, on concrete inputs. -/
example : isMetric Spec.V4.metrics (b "AV") = true ∧ isMetric Spec.V4.metrics (b "av") = false
    ∧ isMetric Spec.V4.metrics (b "Av") = false ∧ isMetric Spec.V4.metrics (b "RL") = false
    ∧ isMetric Spec.V4.metrics (b "") = false := by decide +kernel
example : legal Spec.V4.metrics (b "MSI") (b "S") = true ∧ legal Spec.V4.metrics (b "MSC") (b "S") = false
    ∧ legal Spec.V4.metrics (b "U") (b "Clear") = true ∧ legal Spec.V4.metrics (b "U") (b "clear") = false
    ∧ legal Spec.V4.metrics (b "AV") (b "X") = false ∧ legal Spec.V4.metrics (b "MAV") (b "X") = true := by decide +kernel
example : O40.zero.set (b "av") (b "N") = (O40.zero, Model.eInvalidMetric (b "av")) :=
  set_refuses_unknown _ _ _ (by decide +kernel)
example : O40.zero.set (b "U") (b "red") = (O40.zero, Model.eValue) :=
  set_refuses_illegal _ _ _ (by decide +kernel) (by decide +kernel)
/-- a byte state that is *not* well formed (code 5 in the 3-bit field of MAV reads as the empty string) is
    not reachable -/
example : ¬ O40.Reachable ⟨0, 0, 0, 10, 0, 0, 0, 0, 0⟩ := fun h => by
  have := reachable_wf _ h; revert this; decide +kernel

end C09.V40
