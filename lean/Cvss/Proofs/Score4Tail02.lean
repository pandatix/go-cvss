import Cvss.Proofs.Score4TailDef
/-! The v4.0 float tail and the primitive form of the Spec's score, checked by the kernel on the six chunks with
EQ5 = 2: 90 MacroVectors, 17,550 (MacroVector, distances) points. `tail_abc` is EQ1 = a, EQ2 = b, EQ5 = c. -/
namespace Proofs.Score4
theorem tail_002 : tailChunk 0 0 2 = true := by decide +kernel
theorem tail_012 : tailChunk 0 1 2 = true := by decide +kernel
theorem tail_102 : tailChunk 1 0 2 = true := by decide +kernel
theorem tail_112 : tailChunk 1 1 2 = true := by decide +kernel
theorem tail_202 : tailChunk 2 0 2 = true := by decide +kernel
theorem tail_212 : tailChunk 2 1 2 = true := by decide +kernel
end Proofs.Score4
