import Cvss.Props.C18v2
import Cvss.Props.C18v3
import Cvss.Props.C18v4
import Cvss.Findings.C18v2
import Cvss.Props.C07
import Cvss.Props.C09
import Cvss.Props.C09v4
import Cvss.Proofs.Bits20
import Cvss.Proofs.Bits30
import Cvss.Proofs.Bits31
import Cvss.Proofs.Bits40
import Cvss.Props.C13v3
import Cvss.Props.C13v4
import Cvss.Proofs.HeaderErr
/-!
# C18 — failures are reported with the documented error values (assembled)

**Header (v3.0, v3.1, v4.0) — unconditional, for every byte string** (`header30`, `header31`, `header40`; no witness,
no generator). The specification's reading (`Spec/Errors.lean`): the header of a vector string is the part before its
first `/` (`Spec.headOf`), and it is wrong or missing iff that part is not exactly `CVSS:3.0` / `CVSS:3.1` / `CVSS:4.0`.
* v3.0 / v3.1: ErrInvalidCVSSHeader ⇔ the string does not begin with `CVSS:3.0/` resp. `CVSS:3.1/` — *including the
  slash* (`header30_iff`, `header31_iff`). So the empty string, another version's header, a lower-case header and
  `CVSS:3.1X/AV:…` (header followed by junk) are all header errors (`header30_spec`, `header31_spec`: every string whose
  `headOf` is not the header), and so is the bare `CVSS:3.1` (right header, nothing behind it: `…_iff_spec`);
* v4.0: ErrInvalidCVSSHeader ⇔ the string is neither exactly `CVSS:4.0` nor begins with `CVSS:4.0/` (`header40_iff`)
  ⇔ its `headOf` is not `CVSS:4.0` (`header40_spec`). `CVSS:4.0` followed directly by junk IS a header error:
  `CVSS:4.0X…`, `CVSS:4.01/…`, `CVSS:4.0AV:N/…` (any byte other than `/` behind the header) yield ErrInvalidCVSSHeader
  whatever follows (`v40_header_then_junk`); the bare `CVSS:4.0` yields ErrTooShortVector (`v40_header_only`), and
  `CVSS:4.0/…` continues with the element loop (order / value / too-short errors, never the header error).
  (Finding F4: the unrepaired v4.0 parser reports header-then-junk as ErrInvalidMetricValue; these theorems fail to
  compile against that source.)
`Spec.Defect.header p` generates, for v3 and v4 alike, every string `p ++ rest` whose `headOf` is not the header.

**Single defects.** For every grammatical vector (witness list `w`), every defect of `Spec/Errors.lean` and every
position, the parser model returns exactly the promised error value (`Spec.Defect.apply`), with the abbreviation
payload for the typed errors. "Misplaced" is `swap i` (two neighbours) and, in general, `move i j` (any element taken
out and put back at any other position); the side conditions under which a defect promises nothing are listed at
the top of `Spec/Errors.lean`. v3.0/v3.1/v4.0: full statement. v2.0: the full statement is FALSE (known finding F3,
`Findings.C18.V2.v2_misplaced_after_env`); `v20_partial` proves it for every defect that is not an insertion after
a complete environmental group, and `C18.V2.v2_errors_afterEnv` shows that in exactly that case the code returns
ErrInvalidMetricValue. A `move` is never in that situation (`v20_move`: no side condition), and the exact form of
"cut short inside a started group" is `C18.V2.truncated_inside_group`. Get/Set on an unknown abbreviation and Set
with an illegal value: the contract fields `get_unknown`, `set_unknown`, `set_illegal` of
`Bits20.contract20 … Proofs.B40.contract40` (theorems of C07/C09).
-/
namespace C18
open Model Proofs

theorem v30 (w : List Spec.Pair) (d : Spec.Defect) (s : Bytes) (e : Spec.ErrVal)
    (hw : ∃ s0, Spec.V3.Witness Spec.V3.header30 s0 w) (hd : d.apply .v30 w = some (s, e)) : parse30 s = .err ⟨e.1, e.2⟩ :=
  C18.V3.errors_parse30 Bits30.contract30 rfl rfl w d s e hw hd
theorem v31 (w : List Spec.Pair) (d : Spec.Defect) (s : Bytes) (e : Spec.ErrVal)
    (hw : ∃ s0, Spec.V3.Witness Spec.V3.header31 s0 w) (hd : d.apply .v31 w = some (s, e)) : parse31 s = .err ⟨e.1, e.2⟩ :=
  C18.V3.errors_parse31 Bits31.contract31 rfl rfl w d s e hw hd
theorem v40 (w : List Spec.Pair) (d : Spec.Defect) (s : Bytes) (e : Spec.ErrVal)
    (hw : ∃ s0, Spec.V4.Witness s0 w) (hd : d.apply .v40 w = some (s, e)) : parse40 s = .err ⟨e.1, e.2⟩ :=
  C18.V4.errors_model Proofs.B40.contract40 rfl rfl w d s e hw hd
/-- v2.0, partial: every defect except an insertion after a complete environmental group (finding F3) -/
theorem v20_partial (w : List Spec.Pair) (d : Spec.Defect) (s : Bytes) (e : Spec.ErrVal)
    (hw : ∃ s0, Spec.V2.Witness s0 w) (hd : d.apply .v20 w = some (s, e)) (hna : C18.V2.afterEnv w d = false) :
    parse20 s = .err ⟨e.1, e.2⟩ :=
  C18.V2.model_v2_errors_partial Bits20.contract20 rfl rfl w d s e hw hd hna

/-- v2.0, misplaced in general (`move`): full strength, F3 cannot occur -/
theorem v20_move (w : List Spec.Pair) (i j : Nat) (s : Bytes) (e : Spec.ErrVal)
    (hw : ∃ s0, Spec.V2.Witness s0 w) (hd : (Spec.Defect.move i j).apply .v20 w = some (s, e)) :
    parse20 s = .err eOrder ∧ e = (3, []) := by
  have h := v20_partial w _ s e hw hd rfl
  obtain ⟨_, _, _, _, _, _, he⟩ := Proofs.Defect.move_eq_some hd
  subst he
  exact ⟨h, rfl⟩
/-- v4.0, misplaced in general (`move`), spelled out (it is an instance of `v40`) -/
theorem v40_move (w : List Spec.Pair) (i j : Nat) (p : Spec.Pair) (hw : ∃ s0, Spec.V4.Witness s0 w)
    (hp : w[i]? = some p) (hji : j ≠ i) (hj : j < w.length) :
    parse40 (Spec.V4.header ++ Proofs.P4.body (Spec.insertAt (w.eraseIdx i) j p)) = .err eOrder := by
  rw [Proofs.P4.parse40_eq_parseK Proofs.B40.contract40 rfl rfl]
  exact C18.V4.moved_metric _ hw hp hji hj
/-- v2.0, the same -/
theorem v20_move' (w : List Spec.Pair) (i j : Nat) (p : Spec.Pair) (hw : ∃ s0, Spec.V2.Witness s0 w)
    (hp : w[i]? = some p) (hji : j ≠ i) (hj : j < w.length) :
    parse20 (Spec.joinSlash ((Spec.insertAt (w.eraseIdx i) j p).map Spec.render)) = .err eOrder := by
  rw [Proofs.Parse2.parse20_eq_parseK Bits20.contract20 rfl rfl]
  exact C18.V2.moved_metric _ w hw hp hji hj

/-- **v3.0**: every string that does not begin with `CVSS:3.0/` -/
theorem header30 (s : Bytes) (h : ¬ (Spec.V3.header30 ++ [47]) <+: s) : parse30 s = .err eHeader := by
  unfold Model.parse30; rw [Proofs.Parse3.const_header30]; exact Proofs.Parse3.parse3_of_not_prefix h
/-- **v3.1**: every string that does not begin with `CVSS:3.1/` -/
theorem header31 (s : Bytes) (h : ¬ (Spec.V3.header31 ++ [47]) <+: s) : parse31 s = .err eHeader := by
  unfold Model.parse31; rw [Proofs.Parse3.const_header31]; exact Proofs.Parse3.parse3_of_not_prefix h
/-- **v4.0**: every string that is neither exactly `CVSS:4.0` nor begins with `CVSS:4.0/` -/
theorem header40 (s : Bytes) (h : ¬ (s = Spec.V4.header ∨ (Spec.V4.header ++ [47]) <+: s)) :
    parse40 s = .err eHeader := by
  rw [Proofs.P4.parse40_eq_parseK Proofs.B40.contract40 rfl rfl]; exact (Proofs.HeaderErr.parseK_header_iff _ s).mpr h
/-- in particular every string that does not begin with `CVSS:4.0` at all -/
theorem header40_no_prefix (s : Bytes) (h : ¬ Spec.V4.header <+: s) : parse40 s = .err eHeader := by
  rw [Proofs.P4.parse40_eq_parseK Proofs.B40.contract40 rfl rfl]; exact C13.V4.no_header _ h

/-- and only those: ErrInvalidCVSSHeader ⇔ the prefix is missing -/
theorem header30_iff (s : Bytes) : parse30 s = .err eHeader ↔ ¬ (Spec.V3.header30 ++ [47]) <+: s := by
  rw [Proofs.Parse3.parse30_eq_K Bits30.contract30 rfl rfl]; exact Proofs.HeaderErr.parse3_header_iff _ _ s
theorem header31_iff (s : Bytes) : parse31 s = .err eHeader ↔ ¬ (Spec.V3.header31 ++ [47]) <+: s := by
  rw [Proofs.Parse3.parse31_eq_K Bits31.contract31 rfl rfl]; exact Proofs.HeaderErr.parse3_header_iff _ _ s
/-- v4.0, for EVERY byte string: ErrInvalidCVSSHeader ⇔ ¬ (the string is exactly the header, or continues with `/`) -/
theorem header40_iff (s : Bytes) :
    parse40 s = .err eHeader ↔ ¬ (s = Spec.V4.header ∨ (Spec.V4.header ++ [47]) <+: s) := by
  rw [Proofs.P4.parse40_eq_parseK Proofs.B40.contract40 rfl rfl]; exact Proofs.HeaderErr.parseK_header_iff _ s
/-- the same, spelled "starts with the header and (is exactly the header or continues with `/`)" -/
theorem header40_iff' (s : Bytes) :
    parse40 s = .err eHeader ↔
      ¬ (Spec.V4.header <+: s ∧ (s = Spec.V4.header ∨ ∃ r, s = Spec.V4.header ++ 47 :: r)) := by
  rw [header40_iff]
  refine not_congr ⟨?_, ?_⟩
  · rintro (rfl | ⟨r, rfl⟩)
    · exact ⟨List.prefix_refl _, Or.inl rfl⟩
    · exact ⟨⟨47 :: r, by simp⟩, Or.inr ⟨r, by simp⟩⟩
  · rintro ⟨_, rfl | ⟨r, rfl⟩⟩
    · exact Or.inl rfl
    · exact Or.inr ⟨r, by simp⟩

/-! ### the same in the specification's terms: the header is the part before the first `/` (`Spec.headOf`) -/

/-- **v4.0**, every byte string: ErrInvalidCVSSHeader ⇔ the part before the first `/` is not `CVSS:4.0` -/
theorem header40_spec (s : Bytes) : parse40 s = .err eHeader ↔ Spec.headOf s ≠ Spec.V4.header := by
  rw [header40_iff]; exact not_congr (Spec.headOf_eq_iff s _ (by decide)).symm
/-- **v3.x**, every byte string: the part before the first `/` is not `CVSS:3.x` ⇒ ErrInvalidCVSSHeader … -/
theorem header30_spec (s : Bytes) (h : Spec.headOf s ≠ Spec.V3.header30) : parse30 s = .err eHeader :=
  header30 s (fun hp => h ((Spec.headOf_eq_iff s _ (by decide)).mpr (Or.inr hp)))
theorem header31_spec (s : Bytes) (h : Spec.headOf s ≠ Spec.V3.header31) : parse31 s = .err eHeader :=
  header31 s (fun hp => h ((Spec.headOf_eq_iff s _ (by decide)).mpr (Or.inr hp)))
/-- … and the only other string with that error is the bare header (right header, nothing behind it) -/
theorem header30_iff_spec (s : Bytes) :
    parse30 s = .err eHeader ↔ Spec.headOf s ≠ Spec.V3.header30 ∨ s = Spec.V3.header30 := by
  rw [Proofs.Parse3.parse30_eq_K Bits30.contract30 rfl rfl]
  exact Proofs.HeaderErr.parse3_header_iff_spec _ _ (by decide) s
theorem header31_iff_spec (s : Bytes) :
    parse31 s = .err eHeader ↔ Spec.headOf s ≠ Spec.V3.header31 ∨ s = Spec.V3.header31 := by
  rw [Proofs.Parse3.parse31_eq_K Bits31.contract31 rfl rfl]
  exact Proofs.HeaderErr.parse3_header_iff_spec _ _ (by decide) s

/-- v4.0: the header followed directly by a byte other than `/` is ErrInvalidCVSSHeader, whatever follows -/
theorem v40_header_then_junk (c : Nat) (r : Bytes) (hc : c ≠ 47) :
    parse40 (Spec.V4.header ++ c :: r) = .err eHeader := by
  rw [Proofs.P4.parse40_eq_parseK Proofs.B40.contract40 rfl rfl, Proofs.P4.parseK_header_append]
  exact if_neg hc
/-- v4.0: the bare header is ErrTooShortVector -/
theorem v40_header_only : parse40 Spec.V4.header = .err eTooShort := by decide +kernel

/-- the headers, as bytes -/
example : Spec.V3.header30 ++ [47] = Spec.b "CVSS:3.0/" ∧ Spec.V3.header31 ++ [47] = Spec.b "CVSS:3.1/" ∧
    Spec.V4.header = Spec.b "CVSS:4.0" ∧ Spec.V4.header ++ [47] = Spec.b "CVSS:4.0/" := by decide +kernel
example : Spec.headOf (Spec.b "CVSS:4.01/AV:N") = Spec.b "CVSS:4.01" ∧ Spec.headOf (Spec.b "CVSS:4.0") = Spec.b "CVSS:4.0" ∧
    Spec.headOf (Spec.b "/AV:N") = [] ∧ Spec.headOf (Spec.b "CVSS:4.0/AV:N/AC:L") = Spec.b "CVSS:4.0" := by decide +kernel
/-- header followed by junk: a header error in v3, and the generator `Defect.header` produces it … -/
example : parse31 (Spec.b "CVSS:3.1X/AV:N/AC:L/PR:N/UI:N/S:U/C:H/I:H/A:H") = .err eHeader := by decide +kernel
example : (Spec.Defect.header (Spec.b "CVSS:3.1X")).apply .v31 C18.V3.w₀ =
    some (Spec.b "CVSS:3.1X/AV:N/AC:L/PR:N/UI:N/S:U/C:H/I:H/A:H/E:F", (1, [])) := by decide +kernel
/-- … the bare header and the missing header too … -/
example : parse31 (Spec.b "CVSS:3.1") = .err eHeader := by decide +kernel
example : parse30 [] = .err eHeader := by decide +kernel
example : parse30 (Spec.b "CVSS:3.1/AV:N/AC:L/PR:N/UI:N/S:U/C:H/I:H/A:H") = .err eHeader := by decide +kernel
/-- … and in v4.0 as well (finding F4, repaired): junk byte, a longer version number, a missing separator -/
example : parse40 (Spec.b "CVSS:4.0X/AV:N/AC:L/AT:N/PR:N/UI:N/VC:H/VI:H/VA:H/SC:N/SI:N/SA:N") = .err eHeader := by decide +kernel
example : parse40 (Spec.b "CVSS:4.01/AV:N/AC:L/AT:N/PR:N/UI:N/VC:H/VI:H/VA:H/SC:N/SI:N/SA:N") = .err eHeader := by decide +kernel
example : parse40 (Spec.b "CVSS:4.0AV:N/AC:L/AT:N/PR:N/UI:N/VC:H/VI:H/VA:H/SC:N/SI:N/SA:N") = .err eHeader := by decide +kernel
example : (Spec.Defect.header (Spec.b "CVSS:4.0X")).apply .v40 C18.V4.w0 =
    some (Spec.b "CVSS:4.0X/AV:N/AC:L/AT:N/PR:N/UI:N/VC:H/VI:H/VA:H/SC:N/SI:N/SA:N/E:A/CR:H/U:Red", (1, [])) := by decide +kernel
/-- the right header put back is no defect; the right header plus a complete element is not a *header* defect -/
example : (Spec.Defect.header (Spec.b "CVSS:4.0")).apply .v40 C18.V4.w0 = none ∧
    (Spec.Defect.header (Spec.b "CVSS:4.0/XX:Y")).apply .v40 C18.V4.w0 = none ∧
    (Spec.Defect.header (Spec.b "CVSS:3.1")).apply .v31 C18.V3.w₀ = none := by decide +kernel
example : parse40 (Spec.b "CVSS:4.1/AV:N/AC:L/AT:N/PR:N/UI:N/VC:H/VI:H/VA:H/SC:N/SI:N/SA:N") = .err eHeader := by decide +kernel
example : parse40 (Spec.b "CVSS:4.0/AV:N/AC:L/AT:N/PR:N/UI:N/VC:H/VI:H/VA:H/SC:N/SI:N/SA:N") ≠ .err eHeader :=
  fun h => (header40_iff _).mp h (Or.inr (by rw [← List.isPrefixOf_iff_prefix]; decide +kernel))

/-- Get/Set on an unknown abbreviation return `*ErrInvalidMetric{abv}`; Set with an illegal value
    `ErrInvalidMetricValue`; the object is unchanged (all versions, every byte state). -/
theorem getset_errors31 (c : O31) (a v : Bytes) :
    (Spec.isMetric Spec.V3.metrics a = false → c.get a = ([], eInvalidMetric a) ∧ c.set a v = (c, eInvalidMetric a)) ∧
    (Spec.isMetric Spec.V3.metrics a = true → Spec.legal Spec.V3.metrics a v = false → c.set a v = (c, eValue)) :=
  ⟨fun h => ⟨Bits31.contract31.get_unknown c a h, Bits31.contract31.set_unknown c a v h⟩, fun h h' => Bits31.contract31.set_illegal c a v h h'⟩
theorem getset_errors30 (c : O30) (a v : Bytes) :
    (Spec.isMetric Spec.V3.metrics a = false → c.get a = ([], eInvalidMetric a) ∧ c.set a v = (c, eInvalidMetric a)) ∧
    (Spec.isMetric Spec.V3.metrics a = true → Spec.legal Spec.V3.metrics a v = false → c.set a v = (c, eValue)) :=
  ⟨fun h => ⟨Bits30.contract30.get_unknown c a h, Bits30.contract30.set_unknown c a v h⟩, fun h h' => Bits30.contract30.set_illegal c a v h h'⟩
theorem getset_errors20 (c : O20) (a v : Bytes) :
    (Spec.isMetric Spec.V2.metrics a = false → c.get a = ([], eInvalidMetric a) ∧ c.set a v = (c, eInvalidMetric a)) ∧
    (Spec.isMetric Spec.V2.metrics a = true → Spec.legal Spec.V2.metrics a v = false → c.set a v = (c, eValue)) :=
  ⟨fun h => ⟨Bits20.contract20.get_unknown c a h, Bits20.contract20.set_unknown c a v h⟩, fun h h' => Bits20.contract20.set_illegal c a v h h'⟩
theorem getset_errors40 (c : O40) (a v : Bytes) :
    (Spec.isMetric Spec.V4.metrics a = false → c.get a = ([], eInvalidMetric a) ∧ c.set a v = (c, eInvalidMetric a)) ∧
    (Spec.isMetric Spec.V4.metrics a = true → Spec.legal Spec.V4.metrics a v = false → c.set a v = (c, eValue)) :=
  ⟨fun h => ⟨Proofs.B40.contract40.get_unknown c a h, Proofs.B40.contract40.set_unknown c a v h⟩, fun h h' => Proofs.B40.contract40.set_illegal c a v h h'⟩

end C18
