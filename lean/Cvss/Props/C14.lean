import Cvss.Proofs.PoolSim
/-!
# C14 — independence from history, interleaving, aliasing   (the provable part)

Property: *the result of every exported function (and, for `Set`, the new value of its receiver) is
determined by its arguments and the receiver's current value alone: it is the same whatever was called
before and whatever other goroutines are doing; a string returned by `Vector()` never changes afterwards, and
a copy of an object is independent of the original.*

## What is proved here

1. **Shared-state facts** (`C14.v30_no_shared_state` … `C14.pkg_vars`): the regenerated lists of package-level
   variables, of writes to / address-of them, of method calls on them, of goroutine starts and of uses of
   package `unsafe` are exactly what the models assume: packages 3.0, 3.1, 4.0 have **no** shared mutable state
   (only error sentinels and tables that no function assigns to, indexes-and-assigns, or takes the address of);
   package 2.0 has exactly one: `splitPool`, touched only by `ParseVector` through `Get` and `Put`; each package
   uses `unsafe` exactly once, in `Vector`. That the pool model describes `ParseVector` and `split` of v2.0 as they are
   in `/repo` is `Props/C14b.lean` (simulation of the regenerated loop bodies).
2. **The pool is invisible to one call** (`C14.split14With_spec`, `C14.parse20With_indep`,
   `C14.parse20With_eq_parse20`, `C14.stale_slots_untouched`): `split` writes slots `0..ei` only, `ei ≤ 13`, the
   parser reads slots `0..ei` only; with any 14 stale strings in the buffer the result is `Model.parse20 s`.
3. **The pool is invisible under every interleaving** (`C14.schedule_independent`): in the ownership machine
   `Model.Pool` (heap of buffers, pool = multiset of free buffers, any number of threads, each call cut into
   single buffer accesses, `Get` from the pool or fresh with arbitrary content, GC drops) every finished call
   of every schedule returned `Model.parse20` of its input; no buffer access is ever out of range; two threads
   never hold the same buffer. `C14.progress`: a thread inside a call can always take its next step (the pool
   never blocks). `C14.aliasing_breaks`: if the pool *violated* its contract the model *does* show a wrong
   result — the theorem is not true for trivial reasons.
4. **Determinism by construction** (`C14.obj20_determined` …, `C14.set_local`, `C14.copy_independent`,
   `C14.set_history_free`): spelled out, and trivial in the model — see the remarks there.

## What the model cannot exhibit (covered by testing only: 16 goroutines under `-race` with poisoned pools)

* Go's memory model (visibility/ordering of the writes of different goroutines; that `Get`/`Put` synchronise),
* `sync.Pool`'s implementation — its contract "a buffer obtained by `Get` is handed to nobody else until `Put`" is
  the step rule of the machine (`getPool` removes the buffer, `getNew` needs a fresh one), i.e. **assumed**,
* what `unsafe` aliasing would do: `Vector` converts its byte buffer to a string without copying; that the
  buffer is created by `make` inside the call, only passed to `app`, and never retained is visible in the
  source (and is the only shape the translator accepts: `GenVxx.Vector` is a pure function returning the
  bytes), but "the string never changes afterwards" is a statement about Go memory, not about this model,
* that the strings left in a pooled buffer alias the *input* strings of earlier calls (this keeps them
  reachable until overwritten or dropped — a memory-retention effect, not a functional one),
* the race detector's verdict,
* mutation of a package table through an alias (`x := order[0]; x[0] = …`, `copy(order[0], …)`, passing the
  slice to a callee that writes through it): `pkg_writes` records assignments, increments/decrements and `&` whose operand is
  rooted at a package variable, not data flow. (No such code exists in `/repo`; the tables are only indexed,
  ranged over, `len`-ed, and — `sevIdx[metric]` in `40/severity.go:33` — passed to a read-only `index`.)
-/
namespace C14
open Model Model.Pool

/-! ## 1. regenerated shared-state facts -/

/-- v3.0: no function assigns to, or takes the address of, a package-level variable; none calls a method on
    one; no goroutine is started -/
theorem v30_no_shared_state : GenV30.pkg_writes = [] ∧ GenV30.pkg_calls = [] := ⟨rfl, rfl⟩
theorem v31_no_shared_state : GenV31.pkg_writes = [] ∧ GenV31.pkg_calls = [] := ⟨rfl, rfl⟩
theorem v40_no_shared_state : GenV40.pkg_writes = [] ∧ GenV40.pkg_calls = [] := ⟨rfl, rfl⟩

/-- v2.0: no writes; the only method calls on package state are `ParseVector`'s `splitPool.Get` and the
    (deferred) `splitPool.Put` — the two pool actions of the machine `Model.Pool` -/
theorem v20_shared_state :
    GenV20.pkg_writes = [] ∧
    GenV20.pkg_calls = ["ParseVector:splitPool.Get", "ParseVector:splitPool.Put"] := ⟨rfl, rfl⟩

/-- exactly one use of package `unsafe` per version: the `[]byte → string` conversion at the end of `Vector` -/
theorem unsafe_uses :
    GenV20.pkg_unsafe = ["CVSS20.Vector:unsafe.Pointer"] ∧
    GenV30.pkg_unsafe = ["CVSS30.Vector:unsafe.Pointer"] ∧
    GenV31.pkg_unsafe = ["CVSS31.Vector:unsafe.Pointer"] ∧
    GenV40.pkg_unsafe = ["CVSS40.Vector:unsafe.Pointer"] := ⟨rfl, rfl, rfl, rfl⟩

/-- all package-level variables: error sentinels, the tables `order`, `sevIdx`, `highestSeverityVectors*`
    (never written, by the theorems above: immutable after package initialisation), and `splitPool` -/
theorem pkg_vars :
    GenV20.pkg_vars = ["ErrInvalidMetricOrder:error", "ErrInvalidMetricValue:error", "ErrTooShortVector:error",
      "order:[][]string", "splitPool:sync.Pool"] ∧
    GenV30.pkg_vars = ["ErrInvalidCVSSHeader:error", "ErrInvalidMetricValue:error", "ErrOutOfBoundsScore:error",
      "ErrTooShortVector:error"] ∧
    GenV31.pkg_vars = ["ErrInvalidCVSSHeader:error", "ErrInvalidMetricValue:error", "ErrOutOfBoundsScore:error",
      "ErrTooShortVector:error"] ∧
    GenV40.pkg_vars = ["ErrInvalidCVSSHeader:error", "ErrInvalidMetricOrder:error", "ErrInvalidMetricValue:error",
      "ErrOutOfBoundsScore:error", "ErrTooShortVector:error", "highestSeverityVectors:[][][]int",
      "highestSeverityVectorsEQ3EQ6:[][][]int", "order:[][]string", "sevIdx:[][]uint8"] := ⟨rfl, rfl, rfl, rfl⟩

/-! ## 2. one call: stale slots are never read, `split` never writes past slot 13 -/

/-- `split` into a buffer with arbitrary old content: still 14 slots, `ei ≤ 13` (so `dst[curr]` is never out
    of range and `pts[:ei+1]` is a legal reslice), and slots `0..ei` hold exactly the pool-free `splitN 13 s` -/
theorem split14With_spec (buf : Buf) (s : Bytes) (hl : buf.length = 14) :
    (split14With buf s).1.length = 14 ∧ (split14With buf s).2 ≤ 13 ∧
    (split14With buf s).1.take ((split14With buf s).2 + 1) = splitN 13 s :=
  Model.split14With_spec buf s hl

/-- slots beyond `ei` keep their stale content (they are not written; `parse20With` does not read them) -/
theorem stale_slots_untouched (buf : Buf) (s : Bytes) (j : Nat) (hj : (split14With buf s).2 < j) :
    (split14With buf s).1[j]? = buf[j]? :=
  Model.splitGo_untouched buf 0 [] s j hj

/-- **the pool is invisible to a single call**: with any 14 stale strings in the buffer the result is that of
    the pool-free model `Model.parse20` (the one C01 … C13 talk about) -/
theorem parse20With_eq_parse20 (buf : Buf) (s : Bytes) (h : buf.length = 14) :
    (parse20With buf s).1 = parse20 s := by
  unfold parse20With parse20
  simp only [(Model.split14With_spec buf s h).2.2]

/-- … so **the result does not depend on the content of the buffer the pool hands out** -/
theorem parse20With_indep (buf buf' : Buf) (s : Bytes) (h : buf.length = 14) (h' : buf'.length = 14) :
    (parse20With buf s).1 = (parse20With buf' s).1 := by
  rw [parse20With_eq_parse20 buf s h, parse20With_eq_parse20 buf' s h']

/-- the buffer put back has 14 slots again, so the hypothesis of the two theorems above holds for the next
    call that gets it -/
theorem parse20With_returns_14 (buf : Buf) (s : Bytes) (h : buf.length = 14) :
    (parse20With buf s).2.length = 14 := (Model.split14With_spec buf s h).1

/-- a buffer of stale `"stale/AR:H"` strings, the 16-element input `…/AR:L/X/Y`: slot 13 gets the whole tail
    `AR:L/X/Y`, `ei = 13` -/
example :
    let stale : Buf := List.replicate 14 [115, 116, 97, 108, 101, 47, 65, 82, 58, 72]
    let s : Bytes := [65, 86, 58, 78, 47, 65, 67, 58, 76, 47, 65, 117, 58, 78, 47, 67, 58, 80, 47, 73, 58, 80, 47,
      65, 58, 80, 47, 69, 58, 85, 47, 82, 76, 58, 79, 70, 47, 82, 67, 58, 67, 47, 67, 68, 80, 58, 78, 47, 84, 68,
      58, 78, 47, 67, 82, 58, 76, 47, 73, 82, 58, 76, 47, 65, 82, 58, 76, 47, 88, 47, 89]
    (split14With stale s).2 = 13 ∧ (split14With stale s).1[13]? = some [65, 82, 58, 76, 47, 88, 47, 89] ∧
    (parse20With stale s).1 = .err eValue := by decide +kernel

/-- the same stale buffer, input `AV:N`: only slot 0 is written, slot 1 still holds `stale/AR:H`, and the
    result is `ErrTooShortVector` as without a pool -/
example :
    let stale : Buf := List.replicate 14 [115, 116, 97, 108, 101, 47, 65, 82, 58, 72]
    (split14With stale [65, 86, 58, 78]).2 = 0 ∧
    (split14With stale [65, 86, 58, 78]).1[1]? = some [115, 116, 97, 108, 101, 47, 65, 82, 58, 72] ∧
    (parse20With stale [65, 86, 58, 78]).1 = .err eTooShort := by decide +kernel

/-! ## 3. every schedule -/

/-- **Main theorem.** Start with any number of idle threads and any pool of distinct 14-slot buffers with any
    content; run any schedule of legal actions (calls with any inputs by any threads, `Get` served from the pool
    or by a fresh buffer with arbitrary content, single buffer accesses of the running calls interleaved in any
    order, `Put`s, GC drops). Then
    * every finished call `(t, inp, r)` returned `r = Model.parse20 inp`;
    * every call whose body has returned (deferred `Put` pending) has that result too;
    * no thread ever hit an index out of range on its buffer;
    * a buffer is never held by two threads, and a held buffer is never in the pool. -/
theorem schedule_independent (σ₀ σ : St) (acts : List Act) (h0 : Init σ₀)
    (hlegal : ∀ x ∈ acts, x.legal = true) (hrun : run σ₀ acts = some σ) :
    (∀ (t : Nat) (inp : Bytes) (r : Res O20), (t, inp, r) ∈ σ.log → r = parse20 inp) ∧
    (∀ (t : Nat) (a : Addr) (inp : Bytes) (r : Res O20), σ.thr[t]? = some (Phase.ret a inp r) → r = parse20 inp) ∧
    (∀ t : Nat, σ.thr[t]? ≠ some Phase.crashed) ∧
    (∀ (t t' : Nat) (ph ph' : Phase) (a : Addr), σ.thr[t]? = some ph → σ.thr[t']? = some ph' →
        ph.owner = some a → ph'.owner = some a → t = t') ∧
    (∀ (t : Nat) (ph : Phase) (a : Addr), σ.thr[t]? = some ph → ph.owner = some a → a ∉ σ.pool) := by
  have hI := (PoolSim.ginv_run acts (PoolSim.init_ginv h0) hlegal hrun).inv
  refine ⟨fun t inp r h => hI.logOK _ h, fun t a inp r h => (hI.phaseOK t (.ret a inp r) h).2,
    fun t h => hI.phaseOK t .crashed h, hI.heldDistinct, hI.heldNotFree⟩

/-- the pool never blocks a call and no call gets stuck: a thread inside a call has an enabled step -/
theorem progress (σ : St) (t : Nat) (ph : Phase) (a : Addr) (ht : σ.thr[t]? = some ph)
    (ho : ph.owner = some a) :
    (∃ σ', apply σ (.tick t) = some σ') ∧ (∀ inp r, ph = .ret a inp r → ∃ σ', apply σ (.put t) = some σ') := by
  refine ⟨?_, ?_⟩
  · simp [apply, ht, ho]
  · rintro inp r rfl; simp [apply, ht]

/-! ### the hypotheses are satisfiable, and the machine can show interference -/

/-- `AV:L/AC:L/Au:N/C:N/I:N/A:C` -/
def inpA : Bytes := [65, 86, 58, 76, 47, 65, 67, 58, 76, 47, 65, 117, 58, 78, 47, 67, 58, 78, 47, 73, 58, 78, 47, 65, 58, 67]
/-- `AV:N/AC:L/Au:N/C:P/I:P/A:P` -/
def inpB : Bytes := [65, 86, 58, 78, 47, 65, 67, 58, 76, 47, 65, 117, 58, 78, 47, 67, 58, 80, 47, 73, 58, 80, 47, 65, 58, 80]
/-- `AV:N/AC:L/Au:N/C:P/I:P/A:P/E:U/RL:OF/RC:C/CDP:N/TD:N/CR:L/IR:L/AR:L` (14 metrics) -/
def inpC : Bytes := [65, 86, 58, 78, 47, 65, 67, 58, 76, 47, 65, 117, 58, 78, 47, 67, 58, 80, 47, 73, 58, 80, 47, 65, 58,
  80, 47, 69, 58, 85, 47, 82, 76, 58, 79, 70, 47, 82, 67, 58, 67, 47, 67, 68, 80, 58, 78, 47, 84, 68, 58, 78, 47, 67,
  82, 58, 76, 47, 73, 82, 58, 76, 47, 65, 82, 58, 76]
/-- `AV:N` -/
def inpD : Bytes := [65, 86, 58, 78]

/-- every buffer in memory holds 14 copies of `stale/AR:H`; one of them (address 0) is in the pool; 2 threads -/
def σex : St :=
  { heap := fun _ => List.replicate 14 [115, 116, 97, 108, 101, 47, 65, 82, 58, 72],
    pool := [0], thr := [.idle, .idle], log := [] }

theorem σex_init : Init σex :=
  ⟨by intro ph h; simp [σex] at h; rcases h with rfl | rfl <;> rfl, rfl, by decide, by intro a _; rfl⟩

/-- thread 0 parses `inpA` with the pooled buffer, thread 1 parses the 14-metric `inpC` with a fresh buffer
    (of arbitrary content), their buffer accesses alternate strictly; both `Put`; then thread 1 parses the short
    `inpD` and thread 0 the 6-metric `inpB`, each **with the buffer the other one used before** -/
def schedEx : List Act :=
  [.getPool 0 inpA 0, .getNew 1 inpC 7 (List.replicate 14 [88])] ++
  (List.replicate 90 [Act.tick 0, Act.tick 1]).flatten ++
  [.put 1, .put 0, .getPool 1 inpD 0, .getPool 0 inpB 7] ++
  (List.replicate 40 [Act.tick 1, Act.tick 0]).flatten ++ [.put 0, .gc 7, .put 1]

/-- a concrete legal schedule on a concrete initial state runs to the end, and its log is the four sequential
    results (two successes, `ErrTooShortVector`, a success) -/
theorem example_schedule :
    (∀ x ∈ schedEx, x.legal = true) ∧
    (run σex schedEx).map (·.log) =
      some [(1, inpD, parse20 inpD), (0, inpB, parse20 inpB), (0, inpA, parse20 inpA), (1, inpC, parse20 inpC)] ∧
    (run σex schedEx).map (·.pool) = some [0] ∧
    parse20 inpA = .ok ⟨8, 32, 0, 0⟩ ∧ parse20 inpB = .ok ⟨137, 80, 0, 0⟩ ∧
    parse20 inpC = .ok ⟨137, 82, 114, 85⟩ ∧ parse20 inpD = .err eTooShort := by
  decide +kernel

/-- **If the pool broke its contract** (`getAliased`: buffer 0 handed to thread 1 while thread 0 holds it):
    thread 0 splits `inpA`, thread 1 splits `inpB` into the same buffer, thread 0 then reads thread 1's parts
    and returns the object of `inpB`. So the machine is able to show interference; `schedule_independent` holds
    because of the ownership discipline, not because buffers are values. -/
theorem aliasing_breaks :
    let sched : List Act :=
      [.getAliased 1 inpB 0, .getPool 0 inpA 0] ++ List.replicate 27 (.tick 0) ++
      List.replicate 27 (.tick 1) ++ List.replicate 7 (.tick 0) ++ [.put 0]
    (run σex sched).map (·.log) = some [(0, inpA, parse20 inpB)] ∧
    parse20 inpB ≠ parse20 inpA := by
  decide +kernel

/-! ## 4. determinism by construction

Everything below is **trivial in the model**, and is written down only so that the reader sees what "by
construction" means. The translator turns each Go function of the four packages into a Lean *function* of
the receiver's bytes `u0 … uN` and the arguments; a Lean function has no other input, so its value cannot
depend on earlier calls or on other threads. That the Go functions really are such functions is what part 1
(no shared state except the pool) and parts 2–3 (the pool is invisible) establish, plus the assumptions listed
in the header. The object types are structs of `uint8` fields only (no pointers, slices or maps inside), which
is why the translator can represent a receiver by its bytes and why a Go assignment `c2 := *c1` copies
everything. -/

theorem O20.eq_of_bytes {c c' : O20} (h : c.bytes = c'.bytes) : c = c' := by
  cases c; cases c'; cases h; rfl
theorem O30.eq_of_bytes {c c' : O30} (h : c.bytes = c'.bytes) : c = c' := by
  cases c; cases c'; cases h; rfl
theorem O31.eq_of_bytes {c c' : O31} (h : c.bytes = c'.bytes) : c = c' := by
  cases c; cases c'; cases h; rfl
theorem O40.eq_of_bytes {c c' : O40} (h : c.bytes = c'.bytes) : c = c' := by
  cases c; cases c'; cases h; rfl

/-- Anything computed from a v2.0 object — `get`, `set` (new receiver value and error), `vector`, the scores —
    is determined by the object's 4 bytes (and the other arguments). Instances: `f := fun c => c.set a v`,
    `fun c => c.get a`, `O20.vector`, `O20.baseScore`, … -/
theorem obj20_determined {β : Type} (f : O20 → β) (c c' : O20) (h : c.bytes = c'.bytes) : f c = f c' :=
  O20.eq_of_bytes h ▸ rfl
theorem obj30_determined {β : Type} (f : O30 → β) (c c' : O30) (h : c.bytes = c'.bytes) : f c = f c' :=
  O30.eq_of_bytes h ▸ rfl
theorem obj31_determined {β : Type} (f : O31 → β) (c c' : O31) (h : c.bytes = c'.bytes) : f c = f c' :=
  O31.eq_of_bytes h ▸ rfl
theorem obj40_determined {β : Type} (f : O40 → β) (c c' : O40) (h : c.bytes = c'.bytes) : f c = f c' :=
  O40.eq_of_bytes h ▸ rfl

/-- spelled out for `Set`: same receiver bytes, same arguments ⇒ same new receiver and same error -/
theorem set_determined :
    (∀ (c c' : O20) a v, c.bytes = c'.bytes → c.set a v = c'.set a v) ∧
    (∀ (c c' : O30) a v, c.bytes = c'.bytes → c.set a v = c'.set a v) ∧
    (∀ (c c' : O31) a v, c.bytes = c'.bytes → c.set a v = c'.set a v) ∧
    (∀ (c c' : O40) a v, c.bytes = c'.bytes → c.set a v = c'.set a v) :=
  ⟨fun c c' a v h => obj20_determined (·.set a v) c c' h, fun c c' a v h => obj30_determined (·.set a v) c c' h,
   fun c c' a v h => obj31_determined (·.set a v) c c' h, fun c c' a v h => obj40_determined (·.set a v) c c' h⟩

/-- A program's object variables under value semantics: variable `x` holds the object `st x`. -/
abbrev Store (O : Type) := Nat → O

/-- `x.Set(a, v)`: only variable `x` changes -/
def Store.setOp {O : Type} (set : O → Bytes → Bytes → O × Go.Err) (st : Store O) (x : Nat) (a v : Bytes) :
    Store O × Go.Err :=
  (fun y => if y = x then (set (st x) a v).1 else st y, (set (st x) a v).2)

/-- `dst := src` (Go: `c2 := *c1`, or passing/returning by value) -/
def Store.copy {O : Type} (st : Store O) (dst src : Nat) : Store O := fun y => if y = dst then st src else st y

/-- `Set` on one object changes no other object (distinct objects can be used concurrently) -/
theorem set_local {O : Type} (set : O → Bytes → Bytes → O × Go.Err) (st : Store O) (x y : Nat) (a v : Bytes)
    (h : y ≠ x) : (st.setOp set x a v).1 y = st y := by simp [Store.setOp, h]

/-- **a copy is independent of the original**: `c' := c; c'.Set(a, v)` leaves `c` as it was (and the copy gets
    what `Set` on the original would have produced) -/
theorem copy_independent {O : Type} (set : O → Bytes → Bytes → O × Go.Err) (st : Store O) (dst src : Nat)
    (a v : Bytes) (h : src ≠ dst) :
    ((st.copy dst src).setOp set dst a v).1 src = st src ∧
    ((st.copy dst src).setOp set dst a v).1 dst = (set (st src) a v).1 := by
  simp [Store.setOp, Store.copy, h]

/-- **history does not matter**: two program states that agree on the object `x` (however they were reached)
    give the same new value of `x` and the same error -/
theorem set_history_free {O : Type} (set : O → Bytes → Bytes → O × Go.Err) (st st' : Store O) (x : Nat)
    (a v : Bytes) (h : st x = st' x) :
    (st.setOp set x a v).1 x = (st'.setOp set x a v).1 x ∧ (st.setOp set x a v).2 = (st'.setOp set x a v).2 := by
  simp [Store.setOp, h]

/-- the four real `Set`s plugged in: after `c' := c; c'.Set("AV","N")` the original v2.0 object is unchanged and
    the copy differs from it -/
example :
    let st : Store O20 := fun _ => ⟨8, 32, 0, 0⟩
    let st' := ((st.copy 1 0).setOp O20.set 1 [65, 86] [78]).1
    st' 0 = ⟨8, 32, 0, 0⟩ ∧ st' 1 = ⟨136, 32, 0, 0⟩ := by decide

end C14
