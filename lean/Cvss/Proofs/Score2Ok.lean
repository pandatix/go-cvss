import Cvss.Proofs.Score2Defs
import Cvss.Spec.OrderV2
/-!
# C05/C11/C12 (v2.0): the Boolean predicates that the enumeration chunks evaluate

Every predicate takes metric *codes* (and, for the two later phases, an input score given as bit pattern `fl`
together with its number of tenths), runs the generated float code and the exact Spec equation side by side,
and compares. The table theorems (`Score2Base`, `Score2RB*`, `Score2T2`, `Score2F`) are `decide +kernel`
evaluations of these predicates; for the later phases `Score2Nd` shows that codes of equal weight need be
evaluated once, and states the tables accordingly (the drivers `rbChunk`, `t2Chunk`, `fChunk` below range over
all codes).
-/
namespace Proofs.Score2
open Spec (b Bytes)
open Spec.V2

/-- Base: the generated `BaseScore_core` is a nearest tenth in `[0, 10]` of the exact base equation, and it is `-0.0`
    exactly when Impact = 0 and 0.4·Exploitability < 1.5 (finding O1) -/
def okBase (c i a av ac au : Nat) : Bool :=
  F64.flet (GenV20.BaseScore_core c i a av ac au) fun fl =>
  forceRat (XI c i a) fun xi => forceRat (XE av ac au) fun xe =>
  okStep (baseEq xi xe) fl 0 100 &&
  (Nat.beq fl NEG0 == (decide (xi = 0) && decide (0.4 * xe < 1.5)))

/-- recomputed base of the environmental score: a nearest tenth in `[-0.2, 10]` of the exact equation -/
def okRB (c i a cr ir ar av ac au : Nat) : Bool :=
  F64.flet (RBf c i a cr ir ar av ac au) fun fl =>
  forceRat (XAI c i a cr ir ar) fun xai => forceRat (XE av ac au) fun xe =>
  okStep (baseEq xai xe) fl (-2) 100

/-- bounds of the temporal step's result for an input of `kb` tenths: the sign is kept -/
def loT (kb : Int) : Int := cond (decide (kb < 0)) (-2) 0
def hiT (kb : Int) : Int := cond (decide (kb < 0)) (-1) 100

/-- temporal step on input `fl` (= `kb` tenths): nearest tenth of the exact product, sign kept, `-0.0` only from `-0.0` -/
def okT2 (fl : Nat) (kb : Int) (e rl rc : Nat) : Bool :=
  F64.flet (T2f fl e rl rc) fun out =>
  okStep (XT kb e rl rc) out (loT kb) (hiT kb) && (Nat.beq out NEG0 == Nat.beq fl NEG0)

/-- final environmental step on input `fl` (= `kt` tenths); `-0.0` exactly when the result is zero, the input
    negative and the collateral damage weight 0 -/
def okF (fl : Nat) (kt : Int) (cdp td : Nat) : Bool :=
  F64.flet (Ff fl cdp td) fun out =>
  okStep (XF kt cdp td) out (-2) 100 &&
  (Nat.beq out NEG0 == (decide (kt < 0) && decide (wCDP cdp = 0) && bitsOK out 0))

def allW (p : Nat → Nat → Nat → Bool) : Bool :=
  (List.range 5).all fun e => (List.range 5).all fun rl => (List.range 4).all fun rc => p e rl rc

/-- input number `j` of the two later phases: `j - 2` tenths, `j < 103` -/
def inK (j : Nat) : Int := Int.subNatNat j 2

def baseChunk : Bool :=
  (List.range 3).all fun c => (List.range 3).all fun i => (List.range 3).all fun a =>
  (List.range 3).all fun av => (List.range 3).all fun ac => (List.range 3).all fun au => okBase c i a av ac au
def rbChunk (c i a : Nat) : Bool :=
  (List.range 4).all fun cr => (List.range 4).all fun ir => (List.range 4).all fun ar =>
  (List.range 3).all fun av => (List.range 3).all fun ac => (List.range 3).all fun au => okRB c i a cr ir ar av ac au
/-- inputs `j0 ≤ j < j0 + n` -/
def t2Chunk (j0 n : Nat) : Bool :=
  (List.range n).all fun dj => iflet (inK (Nat.add j0 dj)) fun kb => F64.flet (tenthI kb) fun fl => allW (okT2 fl kb)
def t2Neg0 : Bool := allW (okT2 NEG0 0)
def fChunk (j0 n : Nat) : Bool :=
  (List.range n).all fun dj => iflet (inK (Nat.add j0 dj)) fun kt => F64.flet (tenthI kt) fun fl =>
  (List.range 6).all fun cdp => (List.range 5).all fun td => okF fl kt cdp td
def fNeg0 : Bool := (List.range 6).all fun cdp => (List.range 5).all fun td => okF NEG0 0 cdp td

/-! ## unrounded sub-scores -/

/-- the rational number denoted by a finite double -/
def toRat (x : Nat) : Rat :=
  (if x < F64.P63 then (1 : Rat) else -1) * ((F64.mant x (F64.ebits x) : Nat) : Rat) *
    (2 : Rat) ^ ((F64.exf (F64.ebits x) : Int) - 1075)

/-- `|toRat fl − x| ≤ 10⁻¹²` and `fl` is finite -/
def closeTo (fl : Nat) (x : Rat) : Bool :=
  F64.isFin fl && forceRat (toRat fl - x) fun d => decide (d ≤ 1 / 1000000000000) && decide (-d ≤ 1 / 1000000000000)
def subChunk : Bool :=
  (List.range 3).all fun p => (List.range 3).all fun q => (List.range 3).all fun r =>
    closeTo (GenV20.Impact_core p q r) (XI p q r) && closeTo (GenV20.Exploitability_core p q r) (XE p q r)


/-! ## the float weight of every code is the double nearest to the Spec weight of the code's value string -/

/-- `fl` is finite and within half a unit in the last place of `x` -/
def isNearest (fl : Nat) (x : Rat) : Bool :=
  F64.isFin fl && forceRat (toRat fl - x) fun d => forceRat ((2 : Rat) ^ ((F64.exf (F64.ebits fl) : Int) - 1076)) fun hu =>
    decide (d ≤ hu) && decide (-d ≤ hu)
def weightsChunk : Bool :=
  ((List.range 3).all fun r => isNearest (GenV20.accessVector r) (wAV r) && isNearest (GenV20.accessComplexity r) (wAC r) &&
    isNearest (GenV20.authentication r) (wAu r) && isNearest (GenV20.cia r) (wC r) && isNearest (GenV20.cia r) (wI r) &&
    isNearest (GenV20.cia r) (wA r)) &&
  ((List.range 5).all fun r => isNearest (GenV20.exploitability r) (wE r) && isNearest (GenV20.remediationLevel r) (wRL r) &&
    isNearest (GenV20.targetDistribution r) (wTD r)) &&
  ((List.range 4).all fun r => isNearest (GenV20.reportConfidence r) (wRC r) && isNearest (GenV20.ciar r) (wCR r) &&
    isNearest (GenV20.ciar r) (wIR r) && isNearest (GenV20.ciar r) (wAR r)) &&
  ((List.range 6).all fun r => isNearest (GenV20.collateralDamagePotential r) (wCDP r))

/-! ## monotonicity (C12) -/

/-- code `r'` is at least as severe as code `r` for metric `m` (through the Get-strings and `Spec.V2.sevLE`) -/
def sevC (m : String) (s : Nat → Bytes) (r r' : Nat) : Bool := sevLE (b m) (s r) (s r')

/-- raising any one Base metric of the tuple never lowers `BaseScore_core` -/
def monoBase (c i a av ac au : Nat) : Bool :=
  F64.flet (GenV20.BaseScore_core c i a av ac au) fun x =>
  (List.range 3).all fun r =>
    (!(sevC "C" sC c r) || F64.le x (GenV20.BaseScore_core r i a av ac au)) &&
    (!(sevC "I" sI i r) || F64.le x (GenV20.BaseScore_core c r a av ac au)) &&
    (!(sevC "A" sA a r) || F64.le x (GenV20.BaseScore_core c i r av ac au)) &&
    (!(sevC "AV" sAV av r) || F64.le x (GenV20.BaseScore_core c i a r ac au)) &&
    (!(sevC "AC" sAC ac r) || F64.le x (GenV20.BaseScore_core c i a av r au)) &&
    (!(sevC "Au" sAu au r) || F64.le x (GenV20.BaseScore_core c i a av ac r))
def monoBaseChunk : Bool :=
  (List.range 3).all fun c => (List.range 3).all fun i => (List.range 3).all fun a =>
  (List.range 3).all fun av => (List.range 3).all fun ac => (List.range 3).all fun au => monoBase c i a av ac au

/-- the possible BaseScore values: `j = 0` is `-0.0`, `j ≥ 1` is `(j-1)/10`; `j < 102` -/
def inB (j : Nat) : Nat := cond (Nat.beq j 0) NEG0 (F64.tenth (Nat.sub j 1))

/-- temporal step: monotone from one BaseScore value to the next, and in each weight code -/
def monoT2 (j e rl rc : Nat) : Bool :=
  F64.flet (inB j) fun x => F64.flet (T2f x e rl rc) fun y =>
  F64.le y (T2f (inB (Nat.succ j)) e rl rc) &&
  ((List.range 5).all fun r => !(sevC "E" sE e r) || F64.le y (T2f x r rl rc)) &&
  ((List.range 5).all fun r => !(sevC "RL" sRL rl r) || F64.le y (T2f x e r rc)) &&
  ((List.range 4).all fun r => !(sevC "RC" sRC rc r) || F64.le y (T2f x e rl r))
/-- all 102 BaseScore values (the last one, 10.0, is compared with 10.1, which is harmless) -/
def monoT2Chunk : Bool := (List.range 102).all fun j => allW (monoT2 j)
/-- `+0.0` and `-0.0` as input give results that are `≤` each other -/
def zeroT2Chunk : Bool := allW fun e rl rc => F64.le (T2f (inB 1) e rl rc) (T2f (inB 0) e rl rc)
/-- on BaseScore values, `F64.le` is the order of the indices (with `-0.0 = +0.0`) -/
def leBChunk : Bool :=
  (List.range 102).all fun i => F64.flet (inB i) fun x => (List.range 102).all fun i' =>
    (F64.le x (inB i') == (Nat.ble i i' || (Nat.ble i 1 && Nat.ble i' 1)))

/-- every possible score value is finite and `==` to itself -/
def eqChunk : Bool :=
  ((List.range 103).all fun j => iflet (inK j) fun k => F64.flet (tenthI k) fun x => F64.eq x x && F64.isFin x) &&
  F64.eq NEG0 (tenthI 0) && F64.isFin NEG0

end Proofs.Score2
