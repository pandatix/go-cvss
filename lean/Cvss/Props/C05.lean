import Cvss.Proofs.Score2Main
/-!
# C05 — v2.0 scores equal the guide equations

For every well-formed `CVSS20` object (all 139,968,000 metric assignments) the generated `BaseScore`,
`TemporalScore`, `EnvironmentalScore` return the value of the CVSS v2.0 guide equations (§3.2, `Spec/V2.lean`,
exact rational arithmetic) rounded to one decimal; `Impact` and `Exploitability` return the unrounded sub-scores
up to 10⁻¹². Where an exact value lies precisely half-way between two tenths, either neighbour conforms
(`Spec.V2.Near`); because the roundings are chained, Temporal and Environmental conformance are the relations
`TemporalOK`, `EnvOK` of the Spec.

Reading guide. `val := fun a => (c.get a).1` is the metric assignment of the object as value *strings* (what
`Get` returns). A score is identified by its number of tenths `k : Int`; `tenthI k` (`Proofs/Score2Defs.lean`) is
the double nearest `k/10` (`F64.tenth`, `F64.negTenth`), and `F64.eq` is IEEE `==`, so
`F64.eq score (tenthI k) = true` says "the result is the double nearest `k/10`, up to the sign of zero".
`baseOK/temporalOK/envOK` are the executable oracles of the Spec, `BaseOK/TemporalOK/EnvOK` the relations they
decide (`Proofs/Score2Near.lean`).

Proof: `Proofs/Score2*.lean` — kernel evaluation (`decide +kernel`) of the generated float code against the
exact equations over 729 base tuples, 46,656 recomputed-base tuples, 10,400 temporal-step and 3,120 final-step
inputs, plus unfolding lemmas tying the object methods to those phases. Of the later three only 5,292, 4,992 and
2,080 tuples are evaluated, the others being equal to one of these (`Proofs/Score2Nd.lean`): "Not Defined" weighs
like another value of its metric, a security requirement does not count where the impact metric is "None", and the
recomputed base is symmetric in (C, CR) and (I, IR).
-/
namespace Props.C05
open Model Spec.V2 Proofs.Score2

/-- BaseScore is a nearest tenth of the exact base equation -/
theorem base_conforms (c : O20) (h : c.wf = true) :
    ∃ k : Int, baseOK (fun a => (c.get a).1) k = true ∧ F64.eq c.baseScore (tenthI k) = true := by
  obtain ⟨k, n, bk, l, u⟩ := base_main c h
  exact ⟨k, (baseOK_iff _ _).2 n, (eq_tbl (by omega) u bk).1⟩

/-- … stated with the Spec relation -/
theorem base_conforms_rel (c : O20) (h : c.wf = true) :
    ∃ k : Int, BaseOK (fun a => (c.get a).1) k ∧ F64.eq c.baseScore (tenthI k) = true := by
  obtain ⟨k, hk, he⟩ := base_conforms c h
  exact ⟨k, (baseOK_iff _ _).1 hk, he⟩

/-- when the exact value is not a tie, BaseScore is *the* rounded value -/
theorem base_unique (c : O20) (h : c.wf = true) (k : Int) (hk : baseKs (fun a => (c.get a).1) = [k]) :
    F64.eq c.baseScore (tenthI k) = true := by
  obtain ⟨k', hk', he⟩ := base_conforms_rel c h
  have : k' ∈ baseKs (fun a => (c.get a).1) := (mem_baseKs _ _).2 hk'
  rw [hk] at this
  rw [← List.mem_singleton.1 this]; exact he

theorem temporal_conforms_rel (c : O20) (h : c.wf = true) :
    ∃ k : Int, TemporalOK (fun a => (c.get a).1) k ∧ F64.eq c.temporalScore (tenthI k) = true := by
  obtain ⟨kb, kt, n1, _, _, _, n2, b2, l2, u2⟩ := temporal_main c h
  exact ⟨kt, ⟨kb, n1, n2⟩, (eq_tbl (by omega) u2 b2).1⟩

/-- TemporalScore is a nearest tenth of the temporal equation applied to a conforming BaseScore -/
theorem temporal_conforms (c : O20) (h : c.wf = true) :
    ∃ k : Int, temporalOK (fun a => (c.get a).1) k = true ∧ F64.eq c.temporalScore (tenthI k) = true := by
  obtain ⟨k, hk, he⟩ := temporal_conforms_rel c h
  exact ⟨k, (temporalOK_iff _ _).2 hk, he⟩

/-- when no tie occurs anywhere in the chain, TemporalScore is *the* value -/
theorem temporal_unique (c : O20) (h : c.wf = true) (k : Int) (hk : temporalKs (fun a => (c.get a).1) = [k]) :
    F64.eq c.temporalScore (tenthI k) = true := by
  obtain ⟨k', hk', he⟩ := temporal_conforms_rel c h
  have : k' ∈ temporalKs (fun a => (c.get a).1) := (mem_temporalKs _ _).2 hk'
  rw [hk] at this
  rw [← List.mem_singleton.1 this]; exact he

theorem environmental_conforms_rel (c : O20) (h : c.wf = true) :
    ∃ k : Int, EnvOK (fun a => (c.get a).1) k ∧ F64.eq c.environmentalScore (tenthI k) = true := by
  obtain ⟨kb, kt, k, n1, n2, n3, b3, l3, u3, _⟩ := env_main c h
  exact ⟨k, ⟨kb, kt, n1, n2, n3⟩, (eq_tbl l3 u3 b3).1⟩

/-- EnvironmentalScore is a conforming result of the three chained roundings (it can be negative, down to -0.2) -/
theorem environmental_conforms (c : O20) (h : c.wf = true) :
    ∃ k : Int, envOK (fun a => (c.get a).1) k = true ∧ F64.eq c.environmentalScore (tenthI k) = true := by
  obtain ⟨k, hk, he⟩ := environmental_conforms_rel c h
  exact ⟨k, (envOK_iff _ _).2 hk, he⟩

/-- when no tie occurs anywhere in the chain, EnvironmentalScore is *the* value -/
theorem environmental_unique (c : O20) (h : c.wf = true) (k : Int) (hk : envKs (fun a => (c.get a).1) = [k]) :
    F64.eq c.environmentalScore (tenthI k) = true := by
  obtain ⟨k', hk', he⟩ := environmental_conforms_rel c h
  have : k' ∈ envKs (fun a => (c.get a).1) := (mem_envKs _ _).2 hk'
  rw [hk] at this
  rw [← List.mem_singleton.1 this]; exact he

/-! ## Impact and Exploitability: the unrounded sub-scores, within 10⁻¹² (`toRat` = the rational a double denotes) -/

theorem abs_le_of {d e : Rat} (h1 : d ≤ e) (h2 : -d ≤ e) : d.abs ≤ e := by
  unfold Rat.abs; split <;> assumption

theorem closeTo_elim {fl : Nat} {x : Rat} (h : closeTo fl x = true) :
    F64.isFin fl = true ∧ (toRat fl - x).abs ≤ 1 / 1000000000000 := by
  simp only [closeTo, forceRat_eq, Bool.and_eq_true, decide_eq_true_eq] at h
  exact ⟨h.1, abs_le_of h.2.1 h.2.2⟩

theorem impact_close (c : O20) (h : c.wf = true) :
    F64.isFin c.impact = true ∧ (toRat c.impact - impact (fun a => (c.get a).1)).abs ≤ 1 / 1000000000000 := by
  have r := wf_inRange c h
  have := sub_tbl r.hC r.hI r.hA
  rw [Bool.and_eq_true] at this
  exact closeTo_elim this.1

theorem exploitability_close (c : O20) (h : c.wf = true) :
    F64.isFin c.exploitability = true ∧
    (toRat c.exploitability - exploitability (fun a => (c.get a).1)).abs ≤ 1 / 1000000000000 := by
  have r := wf_inRange c h
  have := sub_tbl r.hAV r.hAC r.hAu
  rw [Bool.and_eq_true] at this
  exact closeTo_elim this.2

/-! ## the weights
Every weight function of the Go code (`accessVector`, `cia`, `ciar`, `exploitability`, …) returns, for every legal
code, the double nearest to the guide's numeric value of the *string* that `Get` prints for that code
(`isNearest`: finite and within half a unit in the last place; `weightsChunk` in `Proofs/Score2Ok.lean` lists all
55 (metric, code) pairs). -/
theorem weights_conform : weightsChunk = true := weights_chunk

/-! ## O1 — negative zero
The Go code returns `-0.0` (bit pattern `NEG0 = 0x8000000000000000`) for some vectors. This violates nothing above
(`F64.eq` is numeric equality) but is recorded so that nobody is surprised. -/

/-- BaseScore is `-0.0` exactly for the zero-impact vectors (C:N/I:N/A:N) with 0.4·Exploitability < 1.5 -/
theorem O1_base (c : O20) (h : c.wf = true) :
    c.baseScore = NEG0 ↔
      (impact (fun a => (c.get a).1) = 0 ∧ 0.4 * exploitability (fun a => (c.get a).1) < 1.5) :=
  base_neg0 c h

/-- TemporalScore is `-0.0` exactly when BaseScore is -/
theorem O1_temporal (c : O20) (h : c.wf = true) : c.temporalScore = NEG0 ↔ c.baseScore = NEG0 :=
  temporal_neg0 c h

/-- EnvironmentalScore can be `-0.0` only if the exact recomputed base is negative and the collateral damage
    weight is 0 (CDP:N or CDP:ND); in particular never for a zero-impact vector (for which BaseScore may be `-0.0`) -/
theorem O1_environmental (c : O20) (h : c.wf = true) (e : c.environmentalScore = NEG0) :
    recomputedBaseExact (fun a => (c.get a).1) < 0 ∧ w (fun a => (c.get a).1) "CDP" = 0 := by
  obtain ⟨kb, _, _, n1, _, _, _, _, _, hz⟩ := env_main c h
  obtain ⟨hk, hw⟩ := hz e
  refine ⟨?_, hw⟩
  have h2 : recomputedBaseExact (valOf c) ≤ (kb : Rat) / 10 + 1 / 20 := n1.2
  have h3 : (kb : Rat) ≤ ((-1 : Int) : Rat) := Rat.intCast_le_intCast.2 (by omega)
  have h4 : ((-1 : Int) : Rat) = -1 := by decide
  rw [h4] at h3
  show recomputedBaseExact (valOf c) < 0
  grind

/-! ## the hypotheses are satisfiable: a concrete object with all three groups set
`AV:N/AC:L/Au:N/C:P/I:P/A:P/E:F/RL:OF/RC:UR/CDP:LM/TD:M/CR:H/IR:L/AR:M` -/
def sample : O20 := ⟨137, 86, 102, 246⟩
example : sample.wf = true := by decide +kernel
example : sample.vector = Spec.b "AV:N/AC:L/Au:N/C:P/I:P/A:P/E:F/RL:OF/RC:UR/CDP:LM/TD:M/CR:H/IR:L/AR:M" := by decide +kernel
/-- a zero-impact object whose BaseScore is `-0.0`: `AV:L/AC:H/Au:M/C:N/I:N/A:N` -/
def sampleNeg0 : O20 := ⟨32, 0, 0, 0⟩
example : sampleNeg0.wf = true := by decide +kernel
example : sampleNeg0.baseScore = NEG0 := by decide +kernel
/-- an object whose EnvironmentalScore is `-0.0`: `AV:L/AC:H/Au:M/C:P/I:N/A:N/CDP:N/TD:N/CR:L/IR:ND/AR:ND` -/
def sampleEnvNeg0 : O20 := ⟨33, 0, 2, 80⟩
example : sampleEnvNeg0.wf = true := by decide +kernel
example : sampleEnvNeg0.environmentalScore = NEG0 := by decide +kernel

/-! Ties do occur, and the code picks either neighbour (both conform by the property's wording).
`AV:L/AC:M/Au:S/C:N/I:N/A:P/RC:UC`: BaseScore 1.5, exact temporal value 1.5·0.9 = 1.35 — the code returns 1.4;
`AV:L/AC:M/Au:S/C:N/I:P/A:P/RC:UR`: BaseScore 3.0, exact temporal value 3.0·0.95 = 2.85 — the code returns 2.8.
(Of the 72,900 Base×Temporal assignments 1,818 have a tie in the chain; the code takes the upper tenth in 1,692
and the lower one in 126 of them. No Base equation value is a tie.) -/
def sampleTieUp : O20 := ⟨20, 16, 16, 0⟩
def sampleTieDown : O20 := ⟨20, 80, 32, 0⟩
example : sampleTieUp.wf = true ∧ temporalKs (fun a => (sampleTieUp.get a).1) = [13, 14] ∧
    sampleTieUp.temporalScore = tenthI 14 := by decide +kernel
example : sampleTieDown.wf = true ∧ temporalKs (fun a => (sampleTieDown.get a).1) = [28, 29] ∧
    sampleTieDown.temporalScore = tenthI 28 := by decide +kernel
/-- the hypothesis of the `…_unique` corollaries holds for `sample`: 7.5 / 5.9 / 5.4 -/
example : baseKs (fun a => (sample.get a).1) = [75] ∧ temporalKs (fun a => (sample.get a).1) = [59] ∧
    envKs (fun a => (sample.get a).1) = [54] := by decide +kernel

end Props.C05
