import Cvss.Base.F64
import Cvss.Base.Go
import Cvss.Proofs.Range
/-!
# Small rewriting lemmas for the v4.0 score proof

The rewrite lemmas below are deliberately *not* `rfl`-lemmas, so that `simp only`/`rw` use them as proper
rewrites: `dsimp`-style steps make the kernel re-check definitional equalities by evaluating terms such as
`Nat.sub x 4149` (unfolding `Nat.sub` on the literal: deep recursion).
-/
namespace Proofs.Score4

theorem flet_eq {α : Sort u} (x : Nat) (k : Nat → α) : F64.flet x k = k x := by cases x <;> rfl
theorem condT {α : Type} (a b : α) : cond true a b = a := by cases h : true <;> first | rfl | cases h
theorem condF {α : Type} (a b : α) : cond false a b = b := by cases h : false <;> first | rfl | cases h

theorem not_and_of_beq {a b x y : Nat} (h : (Nat.beq a x && Nat.beq b y) = false) : ¬(a = x ∧ b = y) := by
  intro ⟨ea, eb⟩
  rw [ea, eb, Nat.beq_refl, Nat.beq_refl] at h
  cases h

theorem blt_true {a b : Nat} (h : a < b) : Nat.blt a b = true := Nat.ble_eq_true_of_le h
theorem blt_false {a b : Nat} (h : b ≤ a) : Nat.blt a b = false :=
  Bool.eq_false_iff.mpr (fun hb => absurd (Nat.le_of_ble_eq_true hb) (Nat.not_le.mpr (Nat.lt_succ_of_le h)))
theorem beq_false {a b : Nat} (h : a ≠ b) : Nat.beq a b = false :=
  Bool.eq_false_iff.mpr (fun hb => h (Nat.eq_of_beq_eq_true hb))
theorem beq_true {a b : Nat} (h : a = b) : Nat.beq a b = true := by subst h; exact Nat.beq_refl a

end Proofs.Score4
