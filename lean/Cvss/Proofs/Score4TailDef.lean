import Cvss.Proofs.Score4Shape
import Cvss.Proofs.Score4Basic
import Cvss.Proofs.F64Eval
import Cvss.Proofs.Mono4P
import Cvss.Spec.V4
/-!
# v4.0 `Score`: the float tail as a function of the MacroVector and the four severity distances,
and the Boolean check of one (MacroVector, distances) point

`tailF` is the generated tail (`pre` then `post`, the pieces of `GenV40.Score_core`) applied to integer
distances. `pointOk` checks one point: with `k` the Spec's exact half-up value in its primitive form
(`Mono4.scoreP`), the generated tail returns the bits of `F64.tenth k`, the readable Spec gives the same `k`,
and `k ≥ 1`. `tailChunk q1 q2 q5` is what the chunk theorems (`Score4Tail*.lean`) evaluate in the kernel.
-/
namespace Proofs.Score4
open GenV40

def tailF (eq1 eq2 eq3 eq4 eq5 eq6 d1 d2 d36 d4 : Nat) : Nat :=
  pre eq1 eq2 eq3 eq4 eq5 eq6 fun eqsv lower eq1msd eq2msd eq3eq6msd eq4msd eq5msd =>
    post eqsv lower eq1msd eq2msd eq3eq6msd eq4msd eq5msd eq1 eq2 eq3 eq4 eq5 eq6
      (F64.ofNat d1) (F64.ofNat d2) (F64.ofNat d36) (F64.ofNat d4) (0x0000000000000000 : Nat)

/-! `roundup` and `post` with `F64.divK` for `F64.div`: the division of the summed terms by `lower` has a different
dividend at almost every point, which is the case `F64.divK` is made for. -/

def roundupK (x : Nat) : Nat :=
  F64.divK (F64.round (F64.mul (F64.add x (0x3eb0c6f7a0b5ed8d : Nat)) (0x4024000000000000 : Nat))) (0x4024000000000000 : Nat)

def postK (eqsv lower m1 m2 m36 m4 m5 eq1 eq2 eq3 eq4 eq5 eq6 d1 d2 d36 d4 d5 : Nat) : Nat :=
  F64.flet (F64.mul m1 (F64.divK d1 (F64.add (getDepth 1 eq1) (0x3ff0000000000000 : Nat)))) fun t1 =>
  F64.flet (F64.mul m2 (F64.divK d2 (F64.add (getDepth 2 eq2) (0x3ff0000000000000 : Nat)))) fun t2 =>
  F64.flet (F64.mul m36 (F64.divK d36 (F64.add (getDepthEQ3EQ6 eq3 eq6) (0x3ff0000000000000 : Nat)))) fun t36 =>
  F64.flet (F64.mul m4 (F64.divK d4 (F64.add (getDepth 4 eq4) (0x3ff0000000000000 : Nat)))) fun t4 =>
  F64.flet (F64.mul m5 (F64.divK d5 (F64.add (getDepth 5 eq5) (0x3ff0000000000000 : Nat)))) fun t5 =>
  roundupK (F64.sub eqsv (cond (!(Nat.beq lower 0))
    (F64.divK (F64.add (F64.add (F64.add (F64.add t1 t2) t36) t4) t5) (F64.ofNat lower)) 0))

theorem postK_eq (eqsv lower m1 m2 m36 m4 m5 eq1 eq2 eq3 eq4 eq5 eq6 d1 d2 d36 d4 d5 : Nat) :
    postK eqsv lower m1 m2 m36 m4 m5 eq1 eq2 eq3 eq4 eq5 eq6 d1 d2 d36 d4 d5 =
      post eqsv lower m1 m2 m36 m4 m5 eq1 eq2 eq3 eq4 eq5 eq6 d1 d2 d36 d4 d5 := by
  unfold postK post roundupK roundup
  simp only [flet_eq, F64.divK_eq]

/-- what `pre` hands to its continuation does not depend on the continuation (the pairs it matches on are
    structures, so no case distinction is needed) -/
theorem pre_out (eq1 eq2 eq3 eq4 eq5 eq6 : Nat) : ∃ eqsv lower m1 m2 m36 m4 m5 : Nat,
    ∀ k, pre eq1 eq2 eq3 eq4 eq5 eq6 k = k eqsv lower m1 m2 m36 m4 m5 := by
  unfold pre
  simp only [flet_eq]
  exact ⟨_, _, _, _, _, _, _, fun k => rfl⟩

/-- a distance whose EQ has no next lower MacroVector does not enter the Spec's score: the check puts 0 in its
    place, and the kernel then finds the Spec's value of the point in its cache -/
def live (lower : Option Nat) (d : Nat) : Nat :=
  match lower with
  | none => 0
  | some _ => d

theorem term_live (value : Nat) (lower : Option Nat) (d depthP1 : Nat) :
    Spec.V4.term value lower (live lower d) depthP1 = Spec.V4.term value lower d depthP1 := by
  cases lower <;> rfl

def scoreLive (eq1 eq2 eq3 eq4 eq5 eq6 d1 d2 d36 d4 : Nat) : Nat :=
  F64.flet (live (Spec.V4.lower1 (eq1, eq2, eq3, eq4, eq5, eq6)) d1) fun e1 =>
  F64.flet (live (Spec.V4.lower2 (eq1, eq2, eq3, eq4, eq5, eq6)) d2) fun e2 =>
  F64.flet (live (Spec.V4.lower36 (eq1, eq2, eq3, eq4, eq5, eq6)) d36) fun e36 =>
  F64.flet (live (Spec.V4.lower4 (eq1, eq2, eq3, eq4, eq5, eq6)) d4) fun e4 =>
  Spec.V4.scoreOf (eq1, eq2, eq3, eq4, eq5, eq6) e1 e2 e36 e4 0

theorem scoreLive_eq (eq1 eq2 eq3 eq4 eq5 eq6 d1 d2 d36 d4 : Nat) :
    scoreLive eq1 eq2 eq3 eq4 eq5 eq6 d1 d2 d36 d4 = Spec.V4.scoreOf (eq1, eq2, eq3, eq4, eq5, eq6) d1 d2 d36 d4 0 := by
  simp only [scoreLive, flet_eq, Spec.V4.scoreOf, Spec.V4.exactOf, Spec.V4.meanOf, term_live]

/-- `scoreLive` for the primitive form, which tells from the levels whether an EQ has a next lower MacroVector -/
def scorePLive (eq1 eq2 eq3 eq4 eq5 eq6 d1 d2 d36 d4 : Nat) : Nat :=
  F64.flet (cond (Nat.blt eq1 2) d1 0) fun e1 =>
  F64.flet (cond (Nat.blt eq2 1) d2 0) fun e2 =>
  F64.flet (cond (Nat.beq eq3 2) 0 d36) fun e36 =>
  F64.flet (cond (Nat.blt eq4 2) d4 0) fun e4 =>
  Mono4.scoreP eq1 eq2 eq3 eq4 eq5 eq6 e1 e2 e36 e4

theorem scorePLive_eq (eq1 eq2 eq3 eq4 eq5 eq6 d1 d2 d36 d4 : Nat) :
    scorePLive eq1 eq2 eq3 eq4 eq5 eq6 d1 d2 d36 d4 = Mono4.scoreP eq1 eq2 eq3 eq4 eq5 eq6 d1 d2 d36 d4 := by
  have zmul (n : Nat) : Nat.mul 0 n = 0 := Nat.zero_mul n
  unfold scorePLive Mono4.scoreP
  simp only [flet_eq]
  cases Nat.blt eq1 2 <;> cases Nat.blt eq2 1 <;> cases Nat.beq eq3 2 <;> cases Nat.blt eq4 2 <;>
    simp only [condT, condF, zmul]

/-- one point, given what `pre` computed for its MacroVector -/
def pointOk (eqsv lower m1 m2 m36 m4 m5 eq1 eq2 eq3 eq4 eq5 eq6 d1 d2 d36 d4 : Nat) : Bool :=
  F64.flet (scorePLive eq1 eq2 eq3 eq4 eq5 eq6 d1 d2 d36 d4) fun k =>
    Nat.beq (postK eqsv lower m1 m2 m36 m4 m5 eq1 eq2 eq3 eq4 eq5 eq6
      (F64.ofNat d1) (F64.ofNat d2) (F64.ofNat d36) (F64.ofNat d4) (0x0000000000000000 : Nat)) (F64.tenthK k) &&
    Nat.beq (scoreLive eq1 eq2 eq3 eq4 eq5 eq6 d1 d2 d36 d4) k && Nat.ble 1 k

theorem pointOk_elim {eqsv lower m1 m2 m36 m4 m5 eq1 eq2 eq3 eq4 eq5 eq6 d1 d2 d36 d4 : Nat}
    (hk : ∀ k, pre eq1 eq2 eq3 eq4 eq5 eq6 k = k eqsv lower m1 m2 m36 m4 m5)
    (h : pointOk eqsv lower m1 m2 m36 m4 m5 eq1 eq2 eq3 eq4 eq5 eq6 d1 d2 d36 d4 = true) :
    tailF eq1 eq2 eq3 eq4 eq5 eq6 d1 d2 d36 d4 = F64.tenth (Spec.V4.scoreOf (eq1, eq2, eq3, eq4, eq5, eq6) d1 d2 d36 d4 0) ∧
    Spec.V4.scoreOf (eq1, eq2, eq3, eq4, eq5, eq6) d1 d2 d36 d4 0 = Mono4.scoreP eq1 eq2 eq3 eq4 eq5 eq6 d1 d2 d36 d4 ∧
    1 ≤ Mono4.scoreP eq1 eq2 eq3 eq4 eq5 eq6 d1 d2 d36 d4 := by
  unfold pointOk at h
  rw [flet_eq, scorePLive_eq, scoreLive_eq, Bool.and_eq_true, Bool.and_eq_true] at h
  obtain ⟨⟨ht, hs⟩, h1⟩ := h
  have hs := Nat.eq_of_beq_eq_true hs
  refine ⟨?_, hs, Nat.le_of_ble_eq_true h1⟩
  unfold tailF
  rw [hk, hs, ← postK_eq, ← F64.tenthK_eq]
  exact Nat.eq_of_beq_eq_true ht

/-- the same test for a single point (`Driver/Search.lean` runs it) -/
def tailOk (eq1 eq2 eq3 eq4 eq5 eq6 d1 d2 d36 d4 : Nat) : Bool :=
  Nat.beq (pre eq1 eq2 eq3 eq4 eq5 eq6 fun eqsv lower m1 m2 m36 m4 m5 =>
    cond (pointOk eqsv lower m1 m2 m36 m4 m5 eq1 eq2 eq3 eq4 eq5 eq6 d1 d2 d36 d4) 1 0) 1

/-- all distance tuples within the depths of one MacroVector, `pre` evaluated once: `pre` returns a number, so the
    verdict is passed through it as 1 or 0 -/
def tailOkMV (eq1 eq2 eq3 eq4 eq5 eq6 : Nat) : Bool :=
  Nat.beq (pre eq1 eq2 eq3 eq4 eq5 eq6 fun eqsv lower m1 m2 m36 m4 m5 =>
    cond ((List.range (Spec.V4.depth1P1 eq1)).all fun d1 =>
      (List.range (Spec.V4.depth2P1 eq2)).all fun d2 =>
      (List.range (Spec.V4.depth36P1 eq3 eq6)).all fun d36 =>
      (List.range (Spec.V4.depth4P1 eq4)).all fun d4 =>
        pointOk eqsv lower m1 m2 m36 m4 m5 eq1 eq2 eq3 eq4 eq5 eq6 d1 d2 d36 d4) 1 0) 1

/-- the 15 MacroVectors with the given EQ1, EQ2, EQ5 levels (EQ3 = 2 with EQ6 = 0 does not exist).
    Binders over ranges, not a list of tuples: the kernel would re-reduce every projection of a tuple at each use. -/
def tailChunk (eq1 eq2 eq5 : Nat) : Bool :=
  (List.range 3).all fun eq3 => (List.range 3).all fun eq4 => (List.range 2).all fun eq6 =>
    (Nat.beq eq3 2 && Nat.beq eq6 0) || tailOkMV eq1 eq2 eq3 eq4 eq5 eq6

theorem point_of_chunk {eq1 eq2 eq3 eq4 eq5 eq6 : Nat} (h : tailChunk eq1 eq2 eq5 = true)
    (h3 : eq3 < 3) (h4 : eq4 < 3) (h6 : eq6 < 2) (hn : ¬(eq3 = 2 ∧ eq6 = 0))
    {d1 d2 d36 d4 : Nat} (hd1 : d1 < Spec.V4.depth1P1 eq1) (hd2 : d2 < Spec.V4.depth2P1 eq2)
    (hd36 : d36 < Spec.V4.depth36P1 eq3 eq6) (hd4 : d4 < Spec.V4.depth4P1 eq4) :
    tailF eq1 eq2 eq3 eq4 eq5 eq6 d1 d2 d36 d4 = F64.tenth (Spec.V4.scoreOf (eq1, eq2, eq3, eq4, eq5, eq6) d1 d2 d36 d4 0) ∧
    Spec.V4.scoreOf (eq1, eq2, eq3, eq4, eq5, eq6) d1 d2 d36 d4 0 = Mono4.scoreP eq1 eq2 eq3 eq4 eq5 eq6 d1 d2 d36 d4 ∧
    1 ≤ Mono4.scoreP eq1 eq2 eq3 eq4 eq5 eq6 d1 d2 d36 d4 := by
  have at_ {n : Nat} {p : Nat → Bool} (h : (List.range n).all p = true) {a : Nat} (ha : a < n) : p a = true :=
    List.all_eq_true.mp h a (List.mem_range.mpr ha)
  unfold tailChunk at h
  have hmv := at_ (at_ (at_ h h3) h4) h6
  rw [Bool.or_eq_true, Bool.and_eq_true] at hmv
  rcases hmv with ⟨e3, e6⟩ | hmv
  · exact absurd ⟨Nat.eq_of_beq_eq_true e3, Nat.eq_of_beq_eq_true e6⟩ hn
  · obtain ⟨eqsv, lower, m1, m2, m36, m4, m5, hk⟩ := pre_out eq1 eq2 eq3 eq4 eq5 eq6
    unfold tailOkMV at hmv
    rw [hk] at hmv
    cases hall : (List.range (Spec.V4.depth1P1 eq1)).all fun d1 =>
      (List.range (Spec.V4.depth2P1 eq2)).all fun d2 =>
      (List.range (Spec.V4.depth36P1 eq3 eq6)).all fun d36 =>
      (List.range (Spec.V4.depth4P1 eq4)).all fun d4 =>
        pointOk eqsv lower m1 m2 m36 m4 m5 eq1 eq2 eq3 eq4 eq5 eq6 d1 d2 d36 d4
    · rw [hall] at hmv; cases hmv
    · exact pointOk_elim hk (at_ (at_ (at_ (at_ hall hd1) hd2) hd36) hd4)

end Proofs.Score4
