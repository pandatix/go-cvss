import Cvss.Proofs.Score3EnvEval
/-! C03, v3.0, environmental-inner enumeration (c): Modified attack vector code 0, Modified Scope changed;
    2 chunks of 4,374 tuples (for an unchanged scope the table is v3.1's: `okInner_unchanged`) -/
namespace Proofs.Score3.V30
theorem env_1_0_0 : chunkEnv 1 0 0 = true := by decide_inner
theorem env_1_0_1 : chunkEnv 1 0 1 = true := by decide_inner
end Proofs.Score3.V30
