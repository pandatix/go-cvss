import Cvss.Proofs.GenParseBase
import Cvss.Gen.P30
import Cvss.Gen.P31
/-!
# The regenerated v3.0 / v3.1 parsers equal the hand-written model

`GenP30.ParseVector` / `GenP31.ParseVector` (translated from `/repo/30|31/cvss3x.go` by `tools/gen`, parser mode)
are proved equal, on **every** byte string (any `List Nat`, no `< 256` assumption needed), to
`Model.parse30` / `Model.parse31`. The index scan of `splitCouple` computes `Model.cutColon`; the 22-field `kvm`
struct is `kvmOf seen` (one flag per `Model.kvmNames` entry) and `kvm.Set` is `Model.kvmSet`; the eight `if !kvm.x`
checks are `Model.firstMissing`. The invariant of the `for i := 0; i <= l; i++` scan (`loop_inv`): at position
`|pre|+|seg|` with `start = |pre|`, what remains to be done is `Model.loop3` on `splitSlash (seg ++ rest)`; the fuel
`l + 2` never runs out.

The loop part is generic in the loop body (hypothesis `BodySpec`), in the header and in the object's `Set`; the
body of v3.1 is shown to meet `BodySpec`, and the v3.0 texts are the v3.1 texts.
-/
namespace GenParse
open Model

theorem splitCouple31_scan (s rest : Bytes) : ∀ (pre : Bytes) (fuel i : Nat) (cnd : Nat → Bool) (post : Nat → Nat),
    s = pre ++ rest → i = pre.length → (∀ j, cnd j = Nat.blt j s.length) → (∀ j, post j = j + 1) → 58 ∉ pre →
    rest.length + 1 ≤ fuel →
    Go.forN fuel i cnd post (GenP31.splitCouple_for1 s)
    = if 58 ∈ rest then .ret (some (pre ++ (cutColon rest).1, (cutColon rest).2)) else .done s.length := by
  induction rest with
  | nil =>
    intro pre fuel i cnd post hs hi hcnd hpost _ hf
    obtain ⟨n, rfl⟩ : ∃ n, fuel = n + 1 := ⟨fuel - 1, by omega⟩
    rw [forN_stop]
    · simp [hs, hi]
    · simp [hcnd, hs, hi, blt_false]
  | cons c cs ih =>
    intro pre fuel i cnd post hs hi hcnd hpost hp hf
    obtain ⟨n, rfl⟩ : ∃ n, fuel = n + 1 := ⟨fuel - 1, by omega⟩
    have hc : cnd i = true := by rw [hcnd]; exact blt_true (by simp [hs, hi])
    have hix : s[i]? = some c := by simp [hs, hi]
    by_cases h : c = 58
    · subst h
      rw [forN_ret (r := some (pre, cs)) (h := hc)]
      · simp [cutColon, COLON]
      · simp only [GenP31.splitCouple_for1]
        rw [index_some hix]
        simp only [Nat.beq_refl, cond_true]
        rw [sliceTo_ok _ (by simp [hs, hi]), sliceFrom_ok _ (by simp [hs, hi])]
        simp [hs, hi]
    · rw [forN_next (s' := i) (h := hc)]
      · rw [ih (pre ++ [c]) n (post i) cnd post (by simp [hs]) (by simp [hpost, hi]) hcnd hpost
          (by simp [hp, Ne.symm h]) (by simp at hf; omega)]
        have h58 : ¬ 58 = c := fun e => h e.symm
        simp [cutColon, COLON, h, h58]
      · simp only [GenP31.splitCouple_for1]
        rw [index_some hix]
        simp [beq_false h]

/-- `splitCouple` never panics and is `Model.cutColon` -/
theorem splitCouple31 (s : Bytes) : GenP31.splitCouple s = some (cutColon s) := by
  unfold GenP31.splitCouple
  simp only []
  rw [splitCouple31_scan s s [] (i := 0)]
  · by_cases h : 58 ∈ s
    · simp [h]
    · simp [h, cutColon_no_colon s h]
  · simp
  · rfl
  · intro _; rfl
  · intro _; rfl
  · simp
  · simp only [Nat.add_eq]; omega

/-- the `kvm` struct as a function of the model's `seen` list: one flag per `kvmNames` entry -/
def kvmOf (seen : List Bytes) : List Bool := kvmNames.map fun n => seen.contains n

/-- `kvm.Set` as a recursion over the field names, `k` being the index of the first one's flag: the generated
    text is this chain written out for `kvmNames` -/
def kvmChain : List Bytes → Nat → List Bool → Bytes → Option (List Bool × Go.Err)
  | [], _, kvm, abv => some (kvm, Go.Err.mk 101 abv)
  | n :: ns, k, kvm, abv =>
    cond (Go.strEq abv n)
      (Go.load kvm (some k) none fun t => cond t (some (kvm, Go.Err.mk 102 abv))
        (Go.store kvm (some k) true none fun kvm => some (kvm, Go.errNil)))
      (kvmChain ns (k + 1) kvm abv)

theorem kvm_Set_eq (kvm : List Bool) (a : Bytes) : GenP31.kvm_Set kvm a = kvmChain kvmNames 0 kvm a := rfl

/-- the chain from field `|pre|` on, run on the struct with one flag per name in `pre ++ ns`. No name occurs twice,
    so raising the flag of `a` is adding `a` to `seen`. -/
theorem kvmChain_spec (seen : List Bytes) (a : Bytes) : ∀ (ns pre : List Bytes), (pre ++ ns).Nodup → a ∉ pre →
    kvmChain ns pre.length ((pre ++ ns).map seen.contains) a = some (
      if !ns.contains a then ((pre ++ ns).map seen.contains, eInvalidMetric a)
      else if seen.contains a then ((pre ++ ns).map seen.contains, eDefinedN a)
      else ((pre ++ ns).map (a :: seen).contains, Go.errNil)) := by
  intro ns
  induction ns with
  | nil => intro pre _ _; rfl
  | cons n ns ih =>
    intro pre hnd hpre
    by_cases han : a = n
    · subst han
      have hns : a ∉ ns := fun h => by simp [List.nodup_append, h] at hnd
      have hother : ∀ m, m ∈ pre ∨ m ∈ ns → (a :: seen).contains m = seen.contains m := by
        intro m hm
        have : m ≠ a := by rintro rfl; exact hm.elim hpre hns
        simp [this]
      have hmap : (pre ++ a :: ns).map (a :: seen).contains
          = ((pre ++ a :: ns).map seen.contains).set pre.length true := by
        simp only [List.map_append, List.map_cons]
        rw [List.map_congr_left fun m hm => hother m (.inl hm), List.map_congr_left fun m hm => hother m (.inr hm)]
        simp
      have hix : ((pre ++ a :: ns).map seen.contains)[pre.length]? = some (seen.contains a) := by simp
      simp only [kvmChain, strEq_eq, decide_true, cond_true, Go.load, Go.store, List.contains_cons, beq_self_eq_true,
        Bool.true_or, Bool.not_true, Bool.false_eq_true, if_false]
      rw [index_some hix, setIndex_ok _ _ (by simp), hmap]
      cases seen.contains a <;> rfl
    · have hc : (n :: ns).contains a = ns.contains a := by simp [han]
      have := ih (pre ++ [n]) (by simpa using hnd) (by simp [hpre, han])
      simp only [List.length_append, List.length_singleton, List.append_assoc, List.singleton_append] at this
      simp only [kvmChain, strEq_eq, decide_eq_false han, cond_false, hc]
      exact this

/-- `kvm.Set(abv)` on the struct `kvmOf seen`: never panics; the error and the new struct are those of
    `Model.kvmSet seen abv` -/
theorem kvm_Set31 (seen : List Bytes) (a : Bytes) :
    GenP31.kvm_Set (kvmOf seen) a = some (match kvmSet seen a with
      | .error e => (kvmOf seen, e)
      | .ok seen' => (kvmOf seen', Go.errNil)) := by
  have hnd : kvmNames.Nodup := by decide +kernel
  rw [kvm_Set_eq]
  refine (kvmChain_spec seen a kvmNames [] hnd List.not_mem_nil).trans ?_
  unfold kvmSet kvmOf
  cases kvmNames.contains a <;> cases seen.contains a <;> rfl

theorem kvmSet_error_ne_nil {seen : List Bytes} {a : Bytes} {e : Go.Err} (h : kvmSet seen a = .error e) :
    e ≠ Go.errNil := by
  unfold kvmSet at h
  split at h
  · cases h; simp [eInvalidMetric, Go.errNil]
  · split at h
    · cases h; simp [eDefinedN, Go.errNil]
    · cases h

/-- the checks as a recursion over the names checked, `k` being the index of the first one's flag and `r` what
    follows the last check; the generated text is this written out for `kvmMandatory` -/
def missChain {α : Type} (kvm : List Bool) (r : Go.Res α) : List Bytes → Nat → Go.Res α
  | [], _ => r
  | n :: ns, k => cond (!(Go.idx kvm k)) (.err (Go.Err.mk 103 n)) (missChain kvm r ns (k + 1))

theorem missChain_spec {α : Type} (seen : List Bytes) (r : Go.Res α) (post : List Bytes) : ∀ (ns pre : List Bytes),
    missChain ((pre ++ ns ++ post).map seen.contains) r ns pre.length =
      match ns.find? (fun a => !seen.contains a) with
      | some a => .err (eMissing a)
      | none => r := by
  intro ns
  induction ns with
  | nil => intro pre; rfl
  | cons n ns ih =>
    intro pre
    have hix : Go.idx ((pre ++ n :: ns ++ post).map seen.contains) pre.length = seen.contains n := by
      simp [Go.idx]
    rw [missChain, hix, List.find?_cons]
    cases seen.contains n
    · rfl
    · simpa using ih (pre ++ [n])

/-- the eight checks are `Model.firstMissing`: the mandatory metrics are the first eight fields of `kvm` -/
theorem missing_spec {α : Type} (seen : List Bytes) (r : Go.Res α) :
    missChain (kvmOf seen) r kvmMandatory 0 =
      match firstMissing seen with
      | some a => .err (eMissing a)
      | none => r :=
  missChain_spec seen r (kvmNames.drop 8) kvmMandatory []

abbrev T6 := Nat × Nat × Nat × Nat × Nat × Nat
abbrev St3 := Nat × List Bool × Nat × Nat × Nat × Nat × Nat × Nat × Nat
abbrev R3 := Go.Res T6

/-- the generated `Set` (six bytes in, six bytes and the error out) as a function on byte tuples -/
def setT (set6 : Nat → Nat → Nat → Nat → Nat → Nat → Bytes → Bytes → Nat × Nat × Nat × Nat × Nat × Nat × Go.Err) :
    T6 → Bytes → Bytes → T6 × Go.Err
  | (a, b, c, d, e, f), abv, v =>
    match set6 a b c d e f abv v with
    | (a', b', c', d', e', f', err) => ((a', b', c', d', e', f'), err)

/-- loop state `(i, kvm, u0 … u5, start)` -/
def st3 (i : Nat) (seen : List Bytes) (c : T6) (start : Nat) : St3 :=
  match c with
  | (a, b, c, d, e, f) => (i, kvmOf seen, a, b, c, d, e, f, start)

/-- what `ParseVector` does with the value of the scan: the checks for the mandatory metrics, then the object -/
def after3 : Go.Loop St3 R3 → R3
  | .ret r => r
  | .fuel => .panic
  | .done (_, kvm, u0, u1, u2, u3, u4, u5, _) => missChain kvm (.ok (u0, u1, u2, u3, u4, u5)) kvmMandatory 0

/-- what one element (`vector[start:i]`) does -/
def elem3 (set : T6 → Bytes → Bytes → T6 × Go.Err) (i : Nat) (c : T6) (seen : List Bytes) (el : Bytes) : Go.Ctl St3 R3 :=
  match kvmSet seen (cutColon el).1 with
  | .error e => .ret (.err e)
  | .ok seen' =>
    match set c (cutColon el).1 (cutColon el).2 with
    | (c', e) => cond (Go.Err.beq e Go.errNil) (.next (st3 i seen' c' (i + 1))) (.ret (.err e))

/-- the rest of the string from position `i` on: is `i == l || vector[i] == '/'`? -/
def atSep : Bytes → Bool
  | [] => true
  | x :: _ => Nat.beq x 47

/-- specification of one iteration of the scan over `v`, at position `|pre| + |seg|` with `start = |pre|` -/
def BodySpec (set : T6 → Bytes → Bytes → T6 × Go.Err) (v : Bytes) (body : St3 → Go.Ctl St3 R3) : Prop :=
  ∀ (pre seg rest : Bytes) (c : T6) (seen : List Bytes), v = pre ++ seg ++ rest → 47 ∉ seg →
    body (st3 (pre.length + seg.length) seen c pre.length) =
      cond (atSep rest)
        (elem3 set (pre.length + seg.length) c seen seg)
        (.next (st3 (pre.length + seg.length) seen c pre.length))

section Loop
/- `dec` packs the six bytes into the object the model's `setO` works on; `set` is the generated `Set` on tuples -/
variable {O : Type} (dec : T6 → O) (setO : O → Bytes → Bytes → O × Go.Err) (set : T6 → Bytes → Bytes → T6 × Go.Err)
  (hset : ∀ c a v, setO (dec c) a v = (dec (set c a v).1, (set c a v).2))
  (v : Bytes) (cnd : St3 → Bool) (post : St3 → St3) (body : St3 → Go.Ctl St3 R3)
  (hcnd : ∀ i seen c start, cnd (st3 i seen c start) = Nat.ble i v.length)
  (hpost : ∀ i seen c start, post (st3 i seen c start) = st3 (i + 1) seen c start)
  (hbody : BodySpec set v body)

include hset in
/-- one element: where the body does `elem3 … el`, the generated loop and `Model.loop3` on `el :: els` agree if
    they agree once the element is done -/
theorem elem_inv {n i : Nat} {st : St3} {c : T6} {seen : List Bytes} {el : Bytes} {els : List Bytes} (hc : cnd st = true)
    (hb : body st = elem3 set i c seen el)
    (ih : ∀ c' seen', ofGo dec (after3 (Go.forN n (post (st3 i seen' c' (i + 1))) cnd post body)) =
      loop3 setO els (dec c') seen') :
    ofGo dec (after3 (Go.forN (n + 1) st cnd post body)) = loop3 setO (el :: els) (dec c) seen := by
  simp only [elem3] at hb
  simp only [loop3, hset]
  cases hk : kvmSet seen (cutColon el).1 with
  | error e =>
    rw [hk] at hb
    rw [forN_ret (h := hc) (hb := hb)]
    rfl
  | ok seen' =>
    rw [hk] at hb
    cases hs : set c (cutColon el).1 (cutColon el).2 with
    | mk c' e =>
      rw [hs] at hb
      by_cases he : e = Go.errNil
      · simp only [errBeq_eq, he, decide_true, cond_true] at hb
        simp only [he, if_true]
        rw [forN_next (h := hc) (hb := hb)]
        exact ih c' seen'
      · simp only [errBeq_eq, he, decide_false, cond_false] at hb
        simp only [he, if_false]
        rw [forN_ret (h := hc) (hb := hb)]
        rfl

include hset hcnd hpost hbody

/-- **loop invariant** of `for i := 0; i <= l; i++`: at position `|pre| + |seg|` with `start = |pre|`, what is
    left to do is `Model.loop3` on the elements of `seg ++ rest`; the fuel `l + 2` does not run out -/
theorem loop_inv (rest : Bytes) : ∀ (seg pre : Bytes) (c : T6) (seen : List Bytes) (fuel : Nat),
    v = pre ++ seg ++ rest → 47 ∉ seg → rest.length + 2 ≤ fuel →
    ofGo dec (after3 (Go.forN fuel (st3 (pre.length + seg.length) seen c pre.length) cnd post body)) =
      loop3 setO (splitSlash (seg ++ rest)) (dec c) seen := by
  induction rest with
  | nil =>
    intro seg pre c seen fuel hv hseg hf
    obtain ⟨n, rfl⟩ : ∃ n, fuel = n + 2 := ⟨fuel - 2, by omega⟩
    have hl : v.length = pre.length + seg.length := by simp [hv]
    rw [List.append_nil, splitSlash_seg_nil seg hseg]
    refine elem_inv dec setO set hset cnd post body (by rw [hcnd]; exact ble_true (by omega))
      (hbody pre seg [] c seen hv hseg) fun c' seen' => ?_
    rw [hpost, forN_stop _ _ _ _ _ (by rw [hcnd]; exact ble_false (by omega))]
    obtain ⟨c0, c1, c2, c3, c4, c5⟩ := c'
    refine (congrArg (ofGo dec) (missing_spec seen' _)).trans ?_
    simp only [loop3]
    cases firstMissing seen' <;> rfl
  | cons x xs ih =>
    intro seg pre c seen fuel hv hseg hf
    obtain ⟨n, rfl⟩ : ∃ n, fuel = n + 1 := ⟨fuel - 1, by omega⟩
    have hl : pre.length + seg.length < v.length := by simp [hv]
    have hb := hbody pre seg (x :: xs) c seen hv hseg
    have hc : cnd (st3 (pre.length + seg.length) seen c pre.length) = true := by
      rw [hcnd]; exact ble_true (by omega)
    by_cases hx : x = 47
    · subst hx
      rw [splitSlash_seg_slash seg xs hseg]
      refine elem_inv dec setO set hset cnd post body hc hb fun c' seen' => ?_
      rw [hpost]
      have := ih [] (pre ++ seg ++ [47]) c' seen' n (by simp [hv]) (by simp) (by simp at hf; omega)
      simp only [List.length_append, List.length_singleton, List.length_nil, Nat.add_zero, List.nil_append] at this
      exact this
    · simp only [atSep, beq_false hx, cond_false] at hb
      rw [forN_next (h := hc) (hb := hb), hpost]
      simpa [Nat.add_assoc] using
        ih (seg ++ [x]) pre c seen n (by simp [hv]) (by simp [hseg, Ne.symm hx]) (by simp at hf; omega)

end Loop

theorem body31_spec (v : Bytes) : BodySpec (setT GenV31.Set) v (GenP31.ParseVector_for1 v v.length) := by
  intro pre seg rest c seen hv hseg
  obtain ⟨u0, u1, u2, u3, u4, u5⟩ := c
  -- the test `i == l || vector[i] == '/'`
  have hend : (cond (Nat.beq (pre.length + seg.length) v.length) (some true)
      (Go.index v (pre.length + seg.length) none fun t1 => some (Nat.beq t1 47)) : Option Bool) =
      some (atSep rest) := by
    cases rest with
    | nil =>
      have hl : pre.length + seg.length = v.length := by simp [hv]
      simp only [hl, Nat.beq_refl, cond_true, atSep]
    | cons x xs =>
      have hl : pre.length + seg.length ≠ v.length := by simp [hv]
      have hix : v[pre.length + seg.length]? = some x := by rw [hv]; exact getElem?_at pre seg x xs
      simp only [beq_false hl, cond_false]
      rw [index_some hix]
      rfl
  have hslice : ∀ (p : Go.Ctl St3 R3) (k : Bytes → Go.Ctl St3 R3),
      Go.slice v pre.length (pre.length + seg.length) p k = k seg := by
    intro p k
    rw [slice_ok v (by omega) (by simp [hv]), hv, take_drop_seg]
  simp only [st3, GenP31.ParseVector_for1, hend]
  congr 1
  -- the element `vector[start:i]`
  rw [hslice, splitCouple31]
  simp only [elem3, setT, kvm_Set31]
  generalize GenV31.Set u0 u1 u2 u3 u4 u5 (cutColon seg).1 (cutColon seg).2 = r
  obtain ⟨a0, a1, a2, a3, a4, a5, e⟩ := r
  cases hk : kvmSet seen (cutColon seg).1 with
  | error e' => simp only [errBeq_eq, kvmSet_error_ne_nil hk, decide_false, Bool.not_false, cond_true]
  | ok seen' => cases he : Go.Err.beq e Go.errNil <;> simp [st3, Go.Err.beq]

/-! ## v3.0

Up to the package name, `30/cvss30.go` and `31/cvss31.go` have the same `validate`, `Set`, `splitCouple`, `kvm.Set`
and the same loop body in `ParseVector`: the regenerated texts are equal by `rfl` (the two `ParseVector`s differ in the
header literal). Should one package be edited alone, the `rfl` concerned fails and v3.0 needs a `body30_spec` of its own. -/

theorem validate30_eq : GenV30.validate = GenV31.validate := rfl
theorem Set30_eq : GenV30.Set = GenV31.Set := by
  unfold GenV30.Set GenV31.Set
  rw [validate30_eq]
theorem splitCouple30_eq : GenP30.splitCouple = GenP31.splitCouple := rfl
theorem kvm_Set30_eq : GenP30.kvm_Set = GenP31.kvm_Set := rfl
theorem for1_30_eq : GenP30.ParseVector_for1 = GenP31.ParseVector_for1 := by
  unfold GenP30.ParseVector_for1 GenP31.ParseVector_for1
  rw [splitCouple30_eq, kvm_Set30_eq, Set30_eq]
  rfl

theorem body30_spec (v : Bytes) : BodySpec (setT GenV30.Set) v (GenP30.ParseVector_for1 v v.length) := by
  rw [for1_30_eq, Set30_eq]
  exact body31_spec v

/-- `ParseVector` behind the header test, on the rest `v` of the string; the two generated texts are this with
    their own loop body -/
def scan3 (for1 : Bytes → Nat → St3 → Go.Ctl St3 R3) (v : Bytes) : R3 :=
  after3 (Go.forN (v.length + 2) (st3 0 [] (0, 0, 0, 0, 0, 0) 0)
    (fun (i, _, _, _, _, _, _, _, _) => Nat.ble i v.length)
    (fun (i, kvm, u0, u1, u2, u3, u4, u5, start) => (i + 1, kvm, u0, u1, u2, u3, u4, u5, start))
    (for1 v v.length))

/-- six bytes as a `CVSS30` / `CVSS31` value -/
def dec30 : T6 → O30 | (a, b, c, d, e, f) => ⟨a, b, c, d, e, f⟩
def dec31 : T6 → O31 | (a, b, c, d, e, f) => ⟨a, b, c, d, e, f⟩

/-- a generated v3 parser (header test, then `scan3`) is `Model.parse3` with the same header and the object's `Set` -/
theorem parse3T {O : Type} (dec : T6 → O) (setO : O → Bytes → Bytes → O × Go.Err)
    (set : T6 → Bytes → Bytes → T6 × Go.Err) (hset : ∀ c a v, setO (dec c) a v = (dec (set c a v).1, (set c a v).2))
    (for1 : Bytes → Nat → St3 → Go.Ctl St3 R3) (hbody : ∀ v, BodySpec set v (for1 v v.length)) (hdr s : Bytes) :
    ofGo dec (cond (!Go.hasPrefix s hdr) (.err eHeader) (Go.sliceFrom s hdr.length .panic (scan3 for1))) =
      parse3 hdr (dec (0, 0, 0, 0, 0, 0)) setO s := by
  unfold parse3
  rw [← hasPrefix_eq]
  cases h : Go.hasPrefix s hdr
  · rfl
  · simp only [Bool.not_true, cond_false, if_true]
    rw [sliceFrom_ok _ (length_le_of_hasPrefix h)]
    refine loop_inv dec setO set hset (s.drop hdr.length) _ _ _ ?_ ?_ (hbody _) (s.drop hdr.length) [] [] _ [] _
      (by simp) (by simp) (Nat.le_refl _)
    · intro i seen c start; obtain ⟨c0, c1, c2, c3, c4, c5⟩ := c; rfl
    · intro i seen c start; obtain ⟨c0, c1, c2, c3, c4, c5⟩ := c; rfl

/-- **v3.1**: on every byte string the regenerated parser returns the same object / the same error as the
    hand-written model, and it does not panic where the model does not (the model never does) -/
theorem genParse31 (s : Bytes) : ofGo dec31 (GenP31.ParseVector s) = parse31 s :=
  parse3T dec31 O31.set (setT GenV31.Set) (by intro (_, _, _, _, _, _) a v; simp only [O31.set, setT, dec31])
    GenP31.ParseVector_for1 body31_spec GenV31.const_header s

/-- **v3.0** -/
theorem genParse30 (s : Bytes) : ofGo dec30 (GenP30.ParseVector s) = parse30 s :=
  parse3T dec30 O30.set (setT GenV30.Set) (by intro (_, _, _, _, _, _) a v; simp only [O30.set, setT, dec30])
    GenP30.ParseVector_for1 body30_spec GenV30.const_header s

end GenParse
