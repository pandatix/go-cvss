import Cvss.Proofs.Score3M31
/-!
# C03, v3.0: shape of the generated score functions and the enumeration predicates

As `Score3M31`, for the generated functions of the v3.0 package: `Inner` has v3.0's ModifiedImpact polynomial
(`pow15 (MISS − 0.02)`), the shape lemmas unfold v3.0's bodies. The functions the bodies call (`roundup`, the weight
tables, `cia`, `ciar`, `mod`) are v3.1's term for term (`leaf_eq`), so `T` and `okT` are v3.1's, and for an unchanged
Modified Scope so is `Inner` (`ModifiedImpact = 6.42·MISS` in both versions): that half of the inner table is v3.1's.
-/
namespace Proofs.Score3.V30
open Spec Spec.V3 GenV30

/-- `false` for v3.0 -/
abbrev ver : Bool := false

/-- last step of Temporal and Environmental: `roundup (((b·e)·rl)·rc)` -/
def T (b e rl rc : Nat) : Nat := roundup (F64.mul (F64.mul (F64.mul b e) rl) rc)

/-- the modified base score computed inside `EnvironmentalScore`, from the *effective* codes -/
def Inner (mav mac mpr mui ms mc mi ma cr ir ar : Nat) : Nat :=
  F64.flet (F64.min (F64.sub (0x3ff0000000000000 : Nat) (F64.mul (F64.mul (F64.sub (0x3ff0000000000000 : Nat) (F64.mul (ciar cr) (cia mc))) (F64.sub (0x3ff0000000000000 : Nat) (F64.mul (ciar ir) (cia mi)))) (F64.sub (0x3ff0000000000000 : Nat) (F64.mul (ciar ar) (cia ma))))) (0x3fed47ae147ae148 : Nat)) fun miss =>
  F64.flet (cond (Nat.beq ms (0 : Nat))
      (F64.mul (0x4019ae147ae147ae : Nat) miss)
      (F64.sub (F64.mul (0x401e147ae147ae14 : Nat) (F64.sub miss (0x3f9db22d0e560419 : Nat))) (F64.mul (0x400a000000000000 : Nat) (pow15 (F64.sub miss (0x3f947ae147ae147b : Nat)))))) fun modifiedImpact =>
  F64.flet (F64.mul (F64.mul (F64.mul (F64.mul (0x402070a3d70a3d71 : Nat) (attackVector mav)) (attackComplexity mac)) (privilegesRequired mpr ms)) (userInteraction mui)) fun modifiedExploitability =>
  cond (F64.le modifiedImpact (0x0000000000000000 : Nat))
    (0x0000000000000000 : Nat)
    (cond (Nat.beq ms (0 : Nat))
      (roundup (F64.min (F64.add modifiedImpact modifiedExploitability) (0x4024000000000000 : Nat)))
      (roundup (F64.min (F64.mul (0x3ff147ae147ae148 : Nat) (F64.add modifiedImpact modifiedExploitability)) (0x4024000000000000 : Nat))))

theorem env_shape (r0 r1 r2 r3 r4 r5 r6 r7 r8 r9 r10 r11 r12 r13 r14 r15 r16 r17 r18 r19 r20 r21 : Nat)
    (h19 : r19 < 5) (h20 : r20 < 5) (h21 : r21 < 4) :
    EnvironmentalScore_core r0 r1 r2 r3 r4 r5 r6 r7 r8 r9 r10 r11 r12 r13 r14 r15 r16 r17 r18 r19 r20 r21 =
    T (Inner (mod_ r0 r1) (mod_ r2 r3) (mod_ r4 r5) (mod_ r6 r7) (mod_ r8 r9) (mod_ r10 r11) (mod_ r12 r13) (mod_ r14 r15) r16 r17 r18)
      (exploitCodeMaturity r19) (remediationLevel r20) (reportConfidence r21) := by
  simp only [EnvironmentalScore_core, flet_eq, Inner]
  cases h1 : F64.le _ (0x0000000000000000 : Nat) with
  | true =>
    simp only [cond_true]
    exact (V31.T_zero r19 h19 r20 h20 r21 h21).symm
  | false =>
    simp only [cond_false]
    cases h2 : Nat.beq (mod_ r8 r9) 0 <;> simp only [cond_true, cond_false, T]

theorem temporal_shape (r0 r1 r2 r3 r4 r5 r6 r7 r8 r9 r10 r11 : Nat) :
    TemporalScore_core r0 r1 r2 r3 r4 r5 r6 r7 r8 r9 r10 r11 =
    T (BaseScore_core r3 r4 r5 r6 r7 r8 r9 r10 r11) (exploitCodeMaturity r0) (remediationLevel r1) (reportConfidence r2) := by
  simp only [TemporalScore_core, flet_eq, T]

/-- `ciar X = ciar M` -/
theorem ciar_nR : ∀ r, r < 4 → ciar r = ciar (nR r) := by decide
theorem Inner_nR (mav mac mpr mui ms mc mi ma cr ir ar : Nat) (hcr : cr < 4) (hir : ir < 4) (har : ar < 4) :
    Inner mav mac mpr mui ms mc mi ma cr ir ar = Inner mav mac mpr mui ms mc mi ma (nR cr) (nR ir) (nR ar) := by
  simp only [Inner, ← ciar_nR cr hcr, ← ciar_nR ir hir, ← ciar_nR ar har]

/-- the scope code in `BaseScore_core`/`Impact_core` is only tested for zero -/
theorem base_scope (c i a su av ac pr s ui : Nat) (h : Nat.beq su 0 = Nat.beq s 0) :
    BaseScore_core c i a su av ac pr s ui = BaseScore_core c i a s av ac pr s ui := by
  simp only [BaseScore_core, Impact_core, h]
theorem impact_scope (c i a su s : Nat) (h : Nat.beq su 0 = Nat.beq s 0) :
    Impact_core c i a su = Impact_core c i a s := by
  simp only [Impact_core, h]

/-! ## The predicates of this version -/

def okBase : Nat → Nat → Nat → Nat → Nat → Nat → Nat → Nat → Bool := okBaseOn BaseScore_core
def allBase : Bool := allBaseOn BaseScore_core
def okInner : Nat → Nat → Nat → Nat → Nat → Nat → Nat → Nat → Nat → Nat → Nat → Bool := okInnerOn ver Inner
def chunkEnv : Nat → Nat → Nat → Bool := chunkEnvOn ver Inner
/-- (b) the Temporal step on a tenth `k/10` -/
def okT (k e rl rc : Nat) : Bool :=
  isTenth (T (F64.tenth k) (exploitCodeMaturity e) (remediationLevel rl) (reportConfidence rc)) (specT (Int.ofNat k) e rl rc) &&
  agreeA (tenths (Int.ofNat k) * cE e * cRL rl * cRC rc)

/-! ## What the two v3 packages share -/

theorem leaf_eq : GenV30.cia = GenV31.cia ∧ GenV30.ciar = GenV31.ciar ∧ GenV30.attackVector = GenV31.attackVector ∧
    GenV30.attackComplexity = GenV31.attackComplexity ∧ GenV30.privilegesRequired = GenV31.privilegesRequired ∧
    GenV30.userInteraction = GenV31.userInteraction ∧ GenV30.roundup = GenV31.roundup :=
  ⟨rfl, rfl, rfl, rfl, rfl, rfl, rfl⟩

theorem Inner_unchanged (mav mac mpr mui mc mi ma cr ir ar : Nat) :
    Inner mav mac mpr mui 0 mc mi ma cr ir ar = V31.Inner mav mac mpr mui 0 mc mi ma cr ir ar := by
  simp only [Inner, V31.Inner, leaf_eq.1, leaf_eq.2.1, leaf_eq.2.2.1, leaf_eq.2.2.2.1, leaf_eq.2.2.2.2.1,
    leaf_eq.2.2.2.2.2.1, leaf_eq.2.2.2.2.2.2, Nat.beq_refl, cond_true]

theorem ModifiedImpact_unchanged (v : Bool) (m : Dec) : ModifiedImpact v false m = 6.42 * m := rfl

theorem okInner_unchanged (mav mac mpr mui mc mi ma cr ir ar : Nat) :
    okInner mav mac mpr mui 0 mc mi ma cr ir ar = V31.okInner mav mac mpr mui 0 mc mi ma cr ir ar := by
  simp only [okInner, V31.okInner, okInnerOn, Inner_unchanged, specInner, specMImpact, show Nat.beq 0 1 = false from rfl,
    ModifiedImpact_unchanged]

end Proofs.Score3.V30
