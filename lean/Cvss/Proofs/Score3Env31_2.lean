import Cvss.Proofs.Score3EnvEval
/-! C03, v3.1, environmental-inner enumeration (c): Modified attack vector code 2; 4 chunks of 4,374 tuples -/
namespace Proofs.Score3.V31
theorem env_0_2_0 : chunkEnv 0 2 0 = true := by decide_inner
theorem env_0_2_1 : chunkEnv 0 2 1 = true := by decide_inner
theorem env_1_2_0 : chunkEnv 1 2 0 = true := by decide_inner
theorem env_1_2_1 : chunkEnv 1 2 1 = true := by decide_inner
end Proofs.Score3.V31
