import Cvss.Proofs.F64Decode
/-!
# `F64.lt` / `F64.le` are the order of the exact values, and the constant 0.1

* `lt_eq_spec`, `le_eq_spec` (`lt_iff`, `le_iff`): on all 64-bit patterns (±0, subnormals, normals, ±Inf, NaN),
  `F64.lt x y` / `F64.le x y` decide `Spec.F64Val.lt/le` between the exact values denoted.
* `tenth_threshold`: the double written `0.1` is `0x3fb999999999999a`, slightly above 1/10, and its predecessor is
  below 1/10, so no double lies in `[1/10, fl(0.1))`; hence for every non-NaN `x`, `F64.le 0x3fb999999999999a x`
  iff the value of `x` is `≥ 1/10` as a real number (`den ≤ 10·num`).  `tenth_nearest`: it is also the double
  nearest 1/10.

No enumeration: both comparison functions are case distinctions on the sign bits followed by a comparison of
sign-less patterns, which is the comparison of magnitudes (`wp_lt_iff`).
-/
namespace F64Order
open Spec IEEE

/-- the order of the signed keys, as a case distinction on the sign bits (`−0 < +0` is the one exception to
    "negative below non-negative") -/
theorem sval_lt_iff (x y : Nat) (_hx : x < P64) (hy : y < P64) :
    sval x < sval y ↔
      if x < P63 then y < P63 ∧ x < y else if y < P63 then ¬(x = P63 ∧ y = 0) else y < x := by
  have a := wp_eq_zero_iff (x - P63)
  have b := wp_eq_zero_iff y
  have c := wp_lt_iff x y
  have d := wp_lt_iff (y - P63) (x - P63)
  have hP : P64 = 2 * P63 := rfl
  unfold sval
  split <;> split <;> omega

theorem ltF_iff (x y : Nat) (hx : x < P64) (hy : y < P64) :
    F64.ltF x y = true ↔ sval x < sval y := by
  rw [sval_lt_iff x y hx hy]
  unfold F64.ltF F64.mag
  rw [cond_blt, cond_blt, cond_blt, nmod, nmod, show F64.P63 = P63 from rfl]
  by_cases h1 : x < P63 <;> by_cases h2 : y < P63
  · rw [if_pos h1, if_pos h1, if_pos h2, Nat.blt_eq]; exact ⟨fun h => ⟨h2, h⟩, fun h => h.2⟩
  · rw [if_pos h1, if_pos h1, if_neg h2]; exact ⟨fun h => (by cases h), fun h => absurd h.1 h2⟩
  · rw [if_neg h1, if_neg h1, if_pos h2, if_pos h2, Bool.not_eq_true', ← Bool.not_eq_true, Bool.and_eq_true,
      nbeq, nbeq]
    simp only [P63, P64] at *; omega
  · rw [if_neg h1, if_neg h1, if_neg h2, if_neg h2, Nat.blt_eq]
    simp only [P63, P64] at *; omega

theorem sgn_lt (x : Nat) (h : x < P63) : FB.sgn x = 0 := by
  unfold FB.sgn; rw [nshr']; simp only [P63] at h; omega
theorem sgn_ge (x : Nat) (h : ¬ x < P63) (hx : x < P64) : FB.sgn x = 1 := by
  unfold FB.sgn; rw [nshr']; simp only [P63, P64] at *; omega

theorem ltFin_iff (x y : Nat) (hx : x < P64) (hy : y < P64) :
    FB.ltFin x y = true ↔ sval x < sval y := by
  rw [sval_lt_iff x y hx hy]
  -- two zeros are not ordered; otherwise the sign bits decide, or the patterns
  have key : ∀ b : Bool, (if (FB.isZero x && FB.isZero y) = true then false else b) = true ↔
      ¬(x % P63 = 0 ∧ y % P63 = 0) ∧ b = true := by
    intro b
    have hz : (FB.isZero x && FB.isZero y) = true ↔ x % P63 = 0 ∧ y % P63 = 0 := by
      unfold FB.isZero; rw [Bool.and_eq_true, beq_iff_eq, beq_iff_eq]; rfl
    rw [← hz]
    split
    · exact ⟨fun e => (by cases e), fun e => absurd ‹_› e.1⟩
    · exact ⟨fun e => ⟨‹_›, e⟩, fun e => e.2⟩
  unfold FB.ltFin
  by_cases h1 : x < P63 <;> by_cases h2 : y < P63
  · simp only [sgn_lt x h1, sgn_lt y h2, if_pos h1]
    rw [key, decide_eq_true_iff]
    show _ ∧ @LT.lt Nat _ x y ↔ _         -- the comparison is at type `FB.F64`, which `omega` does not unfold
    simp only [P63] at *; omega
  · simp only [sgn_lt x h1, sgn_ge y h2 hy, if_pos h1]
    rw [key]
    exact ⟨fun h => (by cases h.2), fun h => absurd h.1 h2⟩
  · simp only [sgn_ge x h1 hx, sgn_lt y h2, if_neg h1, if_pos h2]
    rw [key, eq_self, and_true]
    simp only [P63, P64] at *; omega
  · simp only [sgn_ge x h1 hx, sgn_ge y h2 hy, if_neg h1, if_neg h2]
    rw [key, decide_eq_true_iff]
    show _ ∧ @LT.lt Nat _ y x ↔ _
    simp only [P63, P64] at *; omega

theorem lt_eq (x y : Nat) (hx : x < P64) (hy : y < P64) :
    F64.lt x y = (!(F64.isNaN x) && !(F64.isNaN y) && decide (sval x < sval y)) := by
  unfold F64.lt
  rw [flet_eq, flet_eq]
  cases hf : F64.isFin2 x y
  · rw [cond_false]
    unfold FB.lt
    rw [fb_isNaN_eq, fb_isNaN_eq]
    congr 1
    rw [Bool.eq_iff_iff, decide_eq_true_iff]
    exact ltFin_iff x y hx hy
  · rw [cond_true]
    have ⟨a, b⟩ := isFin2_notNaN x y hf
    rw [a, b, Bool.not_false, Bool.true_and, Bool.true_and, Bool.eq_iff_iff, decide_eq_true_iff]
    exact ltF_iff x y hx hy

theorem le_eq_not_lt (x y : Nat) : F64.le x y = (!(F64.isNaN x) && !(F64.isNaN y) && !(F64.lt y x)) := by
  unfold F64.le F64.lt
  rw [flet_eq, flet_eq, flet_eq, flet_eq]
  have hc : F64.isFin2 y x = F64.isFin2 x y := Bool.and_comm _ _
  rw [hc]
  cases hf : F64.isFin2 x y
  · rw [cond_false, cond_false]
    unfold FB.le FB.lt
    rw [fb_isNaN_eq, fb_isNaN_eq]
    cases F64.isNaN x <;> cases F64.isNaN y <;> rfl
  · have ⟨a, b⟩ := isFin2_notNaN x y hf
    rw [cond_true, cond_true, a, b]; rfl

theorem B_pos : 0 < B := wp_strict (a := 0) (by decide)

theorem lt_eq_spec (x y : Nat) (hx : x < P64) (hy : y < P64) :
    F64.lt x y = decide (F64Val.lt (F64Val.ofBits x) (F64Val.ofBits y)) := by
  rw [lt_eq x y hx hy]
  have hB := B_pos
  cases hnx : F64.isNaN x
  · cases hny : F64.isNaN y
    · rw [Bool.not_false, Bool.true_and, Bool.true_and, Bool.eq_iff_iff, decide_eq_true_iff,
        decide_eq_true_iff]
      rcases ofBits_cases x hx hnx with ⟨a, a1, a2⟩ | ⟨a, a1⟩ | ⟨a, a1⟩ <;>
      rcases ofBits_cases y hy hny with ⟨b, b1, b2⟩ | ⟨b, b1⟩ | ⟨b, b1⟩ <;>
      rw [a, b] <;> simp only [F64Val.lt, iff_true, iff_false] <;> first | rfl | omega
    · rw [(ofBits_nan_iff y).mpr hny, Bool.not_true, Bool.and_false, Bool.false_and]
      cases F64Val.ofBits x <;> rfl
  · rw [(ofBits_nan_iff x).mpr hnx, Bool.not_true, Bool.false_and, Bool.false_and]
    cases F64Val.ofBits y <;> rfl

theorem val_le_iff (a b : F64Val) : F64Val.le a b ↔ a ≠ .nan ∧ b ≠ .nan ∧ ¬ F64Val.lt b a := by
  cases a <;> cases b <;> simp only [F64Val.le, F64Val.lt, ne_eq, not_true, not_false_iff, true_and, and_true,
    and_false, reduceCtorEq, Int.not_lt]

theorem le_eq_spec (x y : Nat) (hx : x < P64) (hy : y < P64) :
    F64.le x y = decide (F64Val.le (F64Val.ofBits x) (F64Val.ofBits y)) := by
  have nan : ∀ z, (!F64.isNaN z) = decide (F64Val.ofBits z ≠ .nan) := by
    intro z
    rw [Bool.eq_iff_iff, decide_eq_true_iff, ne_eq, ofBits_nan_iff, Bool.not_eq_true', Bool.not_eq_true]
  rw [le_eq_not_lt, lt_eq_spec y x hy hx, nan x, nan y, Bool.eq_iff_iff, decide_eq_true_iff, val_le_iff,
    Bool.and_eq_true, Bool.and_eq_true, decide_eq_true_iff, decide_eq_true_iff, Bool.not_eq_true',
    decide_eq_false_iff_not, and_assoc]

theorem lt_iff (x y : Nat) (hx : x < P64) (hy : y < P64) :
    F64.lt x y = true ↔ F64Val.lt (F64Val.ofBits x) (F64Val.ofBits y) := by
  rw [lt_eq_spec x y hx hy, decide_eq_true_iff]
theorem le_iff (x y : Nat) (hx : x < P64) (hy : y < P64) :
    F64.le x y = true ↔ F64Val.le (F64Val.ofBits x) (F64Val.ofBits y) := by
  rw [le_eq_spec x y hx hy, decide_eq_true_iff]

/-- bits of the double written `0.1` -/
def TENTH : Nat := 0x3fb999999999999a

/-- exponent field 1019 and significand 7205759403792794: `7205759403792794 · 2^-56` -/
theorem wp_tenth : wp TENTH = 7205759403792794 * 2^1019 := by
  rw [show TENTH = (1019 - 1) * P52 + 7205759403792794 by decide]
  exact wp_pack 1019 7205759403792794 (by decide) (by decide) (Or.inr (by decide))

theorem ofBits_tenth' : F64Val.ofBits TENTH = .fin (wp TENTH) := ofBits_pos TENTH (by decide)

/-- numerator of fl(0.1) over `den = 2^1075` -/
theorem ofBits_tenth : F64Val.ofBits TENTH = .fin (7205759403792794 * 2^1019) := by decide +kernel

/-- fl(0.1) is strictly above 1/10 … -/
theorem tenth_above : F64Val.den < 10 * wp TENTH := by decide +kernel
/-- … and its predecessor `0x3fb9999999999999` is strictly below 1/10 … -/
theorem tenth_pred_below : 10 * wp (TENTH - 1) < F64Val.den := by decide +kernel
/-- … and farther from 1/10 than fl(0.1) is: `1/10 − pred > fl(0.1) − 1/10` -/
theorem tenth_closer : 10 * wp TENTH - F64Val.den < F64Val.den - 10 * wp (TENTH - 1) := by
  decide +kernel

theorem den_pos : 0 < F64Val.den := by unfold F64Val.den; exact Nat.two_pow_pos 1075

/-- "at least one tenth" on the extended reals denoted, by cross-multiplication: `num/den ≥ 1/10` -/
def GeTenth : F64Val → Prop
  | .fin n => (F64Val.den : Int) ≤ 10 * n
  | .posInf => True
  | _ => False

instance (v : F64Val) : Decidable (GeTenth v) := by
  cases v <;> simp only [GeTenth] <;> infer_instance

theorem tenth_threshold_wp (a : Nat) : TENTH ≤ a ↔ F64Val.den ≤ 10 * wp a := by
  have h1 := tenth_above
  have h2 := tenth_pred_below
  constructor
  · intro h
    have := (wp_le_iff _ _).mp h
    omega
  · intro h
    apply Classical.byContradiction
    intro hn
    have hx : a ≤ TENTH - 1 := by simp only [TENTH] at *; omega
    have := (wp_le_iff _ _).mp hx
    omega

theorem tenth_threshold (x : Nat) (hx : x < P64) (hn : F64.isNaN x = false) :
    F64Val.le (F64Val.ofBits TENTH) (F64Val.ofBits x) ↔ GeTenth (F64Val.ofBits x) := by
  have hT := ofBits_tenth'
  have h1 := tenth_above
  have hB := B_pos
  have hd := den_pos
  have hTB : wp TENTH < B := wp_strict (by decide)
  rw [hT]
  rcases ofBits_cases x hx hn with ⟨a, a1, a2⟩ | ⟨a, a1⟩ | ⟨a, a1⟩
  · rw [a]
    simp only [F64Val.le, GeTenth]
    unfold sval
    by_cases h : x < P63
    · rw [if_pos h]
      have t := tenth_threshold_wp x
      have m := wp_le_iff TENTH x
      omega
    · rw [if_neg h]
      omega
  · rw [a]; simp only [F64Val.le, GeTenth]
  · rw [a]; simp only [F64Val.le, GeTenth]

theorem le_tenth_eq (x : Nat) (hx : x < P64) (hn : F64.isNaN x = false) :
    F64.le TENTH x = decide (GeTenth (F64Val.ofBits x)) := by
  rw [le_eq_spec TENTH x (by decide) hx, Bool.eq_iff_iff, decide_eq_true_iff, decide_eq_true_iff]
  exact tenth_threshold x hx hn

theorem tenth_nearest (x : Nat) (hx : x < P64) (n : Int) (h : F64Val.ofBits x = .fin n) :
    (10 * (wp TENTH : Int) - F64Val.den) ≤ (if (F64Val.den : Int) ≤ 10 * n then 10 * n - F64Val.den
                                             else F64Val.den - 10 * n) := by
  have h1 := tenth_above
  have h2 := tenth_pred_below
  have h3 := tenth_closer
  rw [← sval_of_fin x n hx h]
  unfold sval
  by_cases hh : x < P63
  · -- a non-negative pattern is at or above `TENTH`, or at or below its predecessor
    rw [if_pos hh]
    have t := tenth_threshold_wp x
    have m := wp_le_iff x (TENTH - 1)
    have m' := wp_le_iff TENTH x
    have : TENTH ≤ x ∨ x ≤ TENTH - 1 := by simp only [TENTH]; omega
    split <;> omega
  · rw [if_neg hh]
    split <;> omega

end F64Order
