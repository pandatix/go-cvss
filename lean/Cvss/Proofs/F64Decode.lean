import Cvss.Base.F64
import Cvss.Spec.Rating
/-!
# Decoding a binary64 bit pattern

`Spec.F64Val.ofBits` reads the sign bit, the exponent field and the fraction of a pattern.  The proofs look at a
pattern differently: as its sign bit and its sign-less part `x % 2^63`, because the magnitude `wp` of a sign-less
pattern is strictly monotone in the pattern (`wp_lt_iff`), infinity and the NaNs included.  `ofBits_eq` says what
`ofBits` is in these terms, for every `Nat`; what the accessors of the soft-float read (`part_fields`), what a
packed pattern denotes (`ofBits_pack`) and the signed key `sval` are read off it.
-/

namespace IEEE

def PINF : Nat := 0x7FF0000000000000

def sv (s : Nat) (v : Nat) : Int := if s = 0 then (v : Int) else -(v : Int)

theorem sv_flip (s v : Nat) (hs : s ≤ 1) : sv (1 - s) v = -sv s v := by
  unfold sv; split <;> split <;> omega

theorem sv_zero (s : Nat) : sv s 0 = 0 := by unfold sv; split <;> rfl
theorem sv_natAbs (s k : Nat) : (sv s k).natAbs = k := by unfold sv; split <;> omega
theorem sv_eq_zero (s k : Nat) : sv s k = 0 ↔ k = 0 := by unfold sv; split <;> omega
theorem sv_neg_iff (s k : Nat) : sv s k < 0 ↔ s ≠ 0 ∧ 0 < k := by unfold sv; split <;> omega
theorem sv_pos_iff (s k : Nat) : 0 < sv s k ↔ s = 0 ∧ 0 < k := by unfold sv; split <;> omega
theorem sv_nonneg (s k : Nat) (h : s = 0) : 0 ≤ sv s k := by unfold sv; rw [if_pos h]; omega
theorem sv_nonpos (s k : Nat) (h : s ≠ 0) : sv s k ≤ 0 := by unfold sv; rw [if_neg h]; omega

theorem le_sv_iff (K s a : Nat) (hK : 0 < K) : (K : Int) ≤ sv s a ↔ s = 0 ∧ K ≤ a := by
  unfold sv; split <;> omega
theorem sv_le_neg_iff (K s a : Nat) (hK : 0 < K) (hs : s ≤ 1) : sv s a ≤ -(K : Int) ↔ s = 1 ∧ K ≤ a := by
  unfold sv; split <;> omega

theorem sv_inj (s t a b : Nat) (hs : s ≤ 1) (ht : t ≤ 1) : sv s a = sv t b ↔ a = b ∧ (a = 0 ∨ s = t) := by
  unfold sv; split <;> split <;> omega

theorem sv_add (s a b : Nat) : sv s a + sv s b = sv s (a + b) := by unfold sv; split <;> omega

theorem sv_sub (s t a b : Nat) (hs : s ≤ 1) (ht : t ≤ 1) (hst : s ≠ t) (hba : b ≤ a) :
    sv s a + sv t b = sv s (a - b) := by
  unfold sv; split <;> split <;> omega

theorem sv_mul (s k D : Nat) : sv s (k * D) = sv s k * (D : Int) := by
  unfold sv; split
  · exact Int.natCast_mul k D
  · rw [Int.natCast_mul, Int.neg_mul]

theorem sv_mul_sv (s t a b : Nat) (hs : s ≤ 1) (ht : t ≤ 1) : sv s a * sv t b = sv ((s + t) % 2) (a * b) := by
  unfold sv
  rw [Int.natCast_mul]
  split <;> split <;> split <;> first | omega | simp only [Int.neg_mul, Int.mul_neg, Int.neg_neg]

end IEEE

namespace F64Order
open Spec IEEE

theorem flet_eq {α : Sort u} (x : Nat) (k : Nat → α) : F64.flet x k = k x := by
  cases x <;> rfl

theorem nmod (a b : Nat) : Nat.mod a b = a % b := rfl
theorem nshr (a b : Nat) : Nat.shiftRight a b = a / 2^b := Nat.shiftRight_eq_div_pow a b
theorem nshr' (a b : Nat) : a >>> b = a / 2^b := Nat.shiftRight_eq_div_pow a b
theorem nshl (a b : Nat) : Nat.shiftLeft a b = a * 2^b := Nat.shiftLeft_eq a b

theorem nbeq (a b : Nat) : (Nat.beq a b = true) = (a = b) :=
  propext ⟨Nat.eq_of_beq_eq_true, fun h => h ▸ Nat.beq_refl a⟩

theorem beq_nat (a b : Nat) : (a == b) = Nat.beq a b := by
  rw [Bool.eq_iff_iff, Nat.beq_eq_true_eq, nbeq]

theorem cond_of_iff {α : Sort u} {b : Bool} {p : Prop} [Decidable p] (h : b = true ↔ p) (x y : α) :
    cond b x y = if p then x else y := by
  cases b
  · rw [if_neg (fun hp => Bool.noConfusion (h.mpr hp))]; rfl
  · rw [if_pos (h.mp rfl)]; rfl

theorem cond_ble {α : Sort u} (a b : Nat) (x y : α) : cond (Nat.ble a b) x y = if a ≤ b then x else y :=
  cond_of_iff (by rw [Nat.ble_eq]) x y
theorem cond_blt {α : Sort u} (a b : Nat) (x y : α) : cond (Nat.blt a b) x y = if a < b then x else y :=
  cond_of_iff (by rw [Nat.blt_eq]) x y
theorem cond_beq {α : Sort u} (a b : Nat) (x y : α) : cond (Nat.beq a b) x y = if a = b then x else y :=
  cond_of_iff (by rw [nbeq]) x y

def P52 : Nat := 4503599627370496
def P63 : Nat := 9223372036854775808
def P64 : Nat := 18446744073709551616

theorem p52 : (2:Nat)^52 = P52 := rfl
theorem p53 : (2:Nat)^53 = 2 * P52 := rfl
theorem p63_pow : P63 = 2^63 := rfl

/-- `value · 2^1075` for exponent field `e` and fraction `f` (also used with `e = 2047`, as a bound) -/
def w (e f : Nat) : Nat := if e = 0 then f * 2 else (P52 + f) * 2^e

def wp (a : Nat) : Nat := w (a / P52) (a % P52)

theorem w_lt_next (e f : Nat) (hf : f < P52) : w e f < P52 * 2^(e+1) := by
  unfold w
  split
  · subst_vars
    simp only [P52] at *
    omega
  · have h1 : (P52 + f) < 2 * P52 := by omega
    have h2 : (P52 + f) * 2^e < (2 * P52) * 2^e := Nat.mul_lt_mul_of_pos_right h1 (Nat.two_pow_pos e)
    have h3 : (2 * P52) * 2^e = P52 * 2^(e+1) := by rw [Nat.pow_succ]; ac_rfl
    omega

theorem w_ge (e f : Nat) (he : 0 < e) : P52 * 2^e ≤ w e f := by
  unfold w
  have : e ≠ 0 := by omega
  simp only [this, if_false]
  exact Nat.mul_le_mul_right _ (Nat.le_add_right _ _)

theorem w_strict (e1 f1 e2 f2 : Nat) (hf1 : f1 < P52) (_hf2 : f2 < P52)
    (h : e1 < e2 ∨ (e1 = e2 ∧ f1 < f2)) : w e1 f1 < w e2 f2 := by
  rcases h with h | ⟨rfl, h⟩
  · have a := w_lt_next e1 f1 hf1
    have b := w_ge e2 f2 (by omega)
    have c : P52 * 2^(e1+1) ≤ P52 * 2^e2 :=
      Nat.mul_le_mul_left _ (Nat.pow_le_pow_right (by decide) (by omega))
    omega
  · unfold w
    split
    · omega
    · exact Nat.mul_lt_mul_of_pos_right (by omega) (Nat.two_pow_pos _)

theorem pat_lt_iff (a b : Nat) :
    a < b ↔ (a / P52 < b / P52 ∨ (a / P52 = b / P52 ∧ a % P52 < b % P52)) := by
  simp only [P52]; omega

theorem wp_strict {a b : Nat} (h : a < b) : wp a < wp b :=
  w_strict _ _ _ _ (Nat.mod_lt _ (by decide)) (Nat.mod_lt _ (by decide)) ((pat_lt_iff a b).mp h)

theorem wp_lt_iff (a b : Nat) : a < b ↔ wp a < wp b := by
  constructor
  · exact wp_strict
  · intro h
    apply Classical.byContradiction
    intro hn
    rcases Nat.lt_or_ge b a with h1 | h1
    · have := wp_strict h1; omega
    · have : a = b := by omega
      subst this; omega

theorem wp_le_iff (a b : Nat) : a ≤ b ↔ wp a ≤ wp b := by
  have := wp_lt_iff b a
  omega

theorem wp_zero : wp 0 = 0 := by decide

theorem wp_eq_zero_iff (a : Nat) : wp a = 0 ↔ a = 0 := by
  constructor
  · intro h
    apply Classical.byContradiction
    intro hn
    have := wp_strict (a := 0) (b := a) (by omega)
    rw [wp_zero] at this; omega
  · rintro rfl; exact wp_zero

/-- the value of the packed pattern `(E-1)·2^52 + q` is `q · 2^E`: subnormal (`E = 1`, `q < 2^52`), normal
    (`2^52 ≤ q < 2^53`) and the carry case `q = 2^53` alike; `E` is unbounded -/
theorem wp_pack (E q : Nat) (hE : 1 ≤ E) (hq : q ≤ 2 * P52) (h : E = 1 ∨ P52 ≤ q) :
    wp ((E - 1) * P52 + q) = q * 2^E := by
  have wp_of : ∀ a e f, a / P52 = e → a % P52 = f → wp a = w e f := by
    intro a e f h1 h2; subst h1; subst h2; rfl
  by_cases h1 : q < P52
  · have hE1 : E = 1 := by simp only [P52] at *; omega
    subst hE1
    rw [wp_of _ 0 q (by simp only [P52] at *; omega) (by simp only [P52] at *; omega)]
    unfold w; rw [if_pos rfl]
  · by_cases h2 : q = 2 * P52
    · subst h2
      rw [wp_of _ (E+1) 0 (by simp only [P52] at *; omega) (by simp only [P52] at *; omega)]
      unfold w; rw [if_neg (by omega), Nat.pow_succ]
      generalize 2^E = X
      simp only [P52]; omega
    · rw [wp_of _ E (q - P52) (by simp only [P52] at *; omega) (by simp only [P52] at *; omega)]
      unfold w; rw [if_neg (by omega)]
      have e : P52 + (q - P52) = q := by omega
      rw [e]

theorem signBit_le (x : Nat) : signBit x ≤ 1 := by unfold signBit; omega

theorem split (x : Nat) (hx : x < P64) : x = signBit x * P63 + x % P63 := by
  unfold signBit; simp only [P63, P64] at *; omega

theorem signBit_pack (s p : Nat) (hs : s ≤ 1) (hp : p < P63) : signBit (s * P63 + p) = s := by
  unfold signBit; simp only [P63] at *; omega

theorem mod_pack (s p : Nat) (hp : p < P63) : (s * P63 + p) % P63 = p := by
  simp only [P63] at *; omega

theorem expField_eq (x : Nat) : expField x = x % P63 / P52 := by
  unfold expField; simp only [P63, P52]; omega

theorem fracField_eq (x : Nat) : fracField x = x % P63 % P52 := by
  unfold fracField; simp only [P63, P52]; omega

theorem mod_eq_fields (x : Nat) : x % P63 = expField x * P52 + fracField x := by
  unfold expField fracField; simp only [P63, P52]; omega

theorem magnitude_eq (x : Nat) : magnitude x = wp (x % P63) := by
  unfold magnitude wp w
  rw [← expField_eq, ← fracField_eq, p52]

theorem ofBits_eq (x : Nat) :
    F64Val.ofBits x =
      if x % P63 < PINF then .fin (sv (signBit x) (wp (x % P63)))
      else if x % P63 = PINF then (if signBit x = 0 then .posInf else .negInf) else .nan := by
  have hp : x % P63 < P63 := Nat.mod_lt _ (by decide)
  unfold F64Val.ofBits
  rw [magnitude_eq, expField_eq, fracField_eq]
  generalize x % P63 = p at *
  by_cases h1 : p < PINF
  · rw [if_pos h1, if_neg (by simp only [P52, PINF] at *; omega)]; rfl
  · rw [if_neg h1, if_pos (by simp only [P52, P63, PINF] at *; omega)]
    by_cases h2 : p = PINF
    · rw [if_pos h2, if_pos (by simp only [P52, PINF] at *; omega)]
    · rw [if_neg h2, if_neg (by simp only [P52, P63, PINF] at *; omega)]

theorem ofBits_pack (s p : Nat) (hs : s ≤ 1) (hp : p < P63) :
    F64Val.ofBits (s * P63 + p) =
      if p < PINF then .fin (sv s (wp p))
      else if p = PINF then (if s = 0 then .posInf else .negInf) else .nan := by
  rw [ofBits_eq, signBit_pack s p hs hp, mod_pack s p hp]

theorem ofBits_pack_fin (s p : Nat) (hs : s ≤ 1) (hp : p < PINF) :
    F64Val.ofBits (s * P63 + p) = .fin (sv s (wp p)) := by
  rw [ofBits_pack s p hs (Nat.lt_trans hp (by decide)), if_pos hp]

theorem ofBits_pos (x : Nat) (h : x < PINF) : F64Val.ofBits x = .fin (wp x : Int) := by
  have := ofBits_pack_fin 0 x (by decide) h
  rwa [Nat.zero_mul, Nat.zero_add] at this

theorem ofBits_pack_inf (s : Nat) (hs : s ≤ 1) :
    F64Val.ofBits (s * P63 + PINF) = if s = 0 then .posInf else .negInf := by
  rw [ofBits_pack s PINF hs (by decide), if_neg (Nat.lt_irrefl _), if_pos rfl]

theorem ofBits_fin_iff (x : Nat) (m : Int) :
    F64Val.ofBits x = .fin m ↔ x % P63 < PINF ∧ m = sv (signBit x) (wp (x % P63)) := by
  rw [ofBits_eq]
  split
  · exact ⟨fun e => ⟨‹_›, (F64Val.fin.inj e).symm⟩, fun e => by rw [e.2]⟩
  · refine ⟨fun e => ?_, fun e => absurd e.1 ‹_›⟩
    split at e
    · split at e <;> cases e
    · cases e

theorem ofBits_posInf_iff (x : Nat) : F64Val.ofBits x = .posInf ↔ x % P63 = PINF ∧ signBit x = 0 := by
  rw [ofBits_eq]
  split
  · exact ⟨fun e => (by cases e), fun e => by omega⟩
  · split
    · split
      · exact ⟨fun _ => ⟨‹_›, ‹_›⟩, fun _ => rfl⟩
      · exact ⟨fun e => (by cases e), fun e => absurd e.2 ‹_›⟩
    · exact ⟨fun e => (by cases e), fun e => absurd e.1 ‹_›⟩

theorem ofBits_negInf_iff (x : Nat) : F64Val.ofBits x = .negInf ↔ x % P63 = PINF ∧ signBit x = 1 := by
  have := signBit_le x
  rw [ofBits_eq]
  split
  · exact ⟨fun e => (by cases e), fun e => by omega⟩
  · split
    · split
      · exact ⟨fun e => (by cases e), fun e => by omega⟩
      · exact ⟨fun _ => ⟨‹_›, by omega⟩, fun _ => rfl⟩
    · exact ⟨fun e => (by cases e), fun e => absurd e.1 ‹_›⟩

theorem ofBits_nan_iff_mod (x : Nat) : F64Val.ofBits x = .nan ↔ PINF < x % P63 := by
  rw [ofBits_eq]
  split
  · exact ⟨fun e => (by cases e), fun e => by omega⟩
  · split
    · exact ⟨fun e => (by split at e <;> cases e), fun e => by omega⟩
    · exact ⟨fun _ => by omega, fun _ => rfl⟩

theorem ebits_eq (x : Nat) : F64.ebits x = Spec.expField x := by
  unfold F64.ebits Spec.expField; rw [nmod, nshr]
theorem fb_ebits_eq (x : Nat) : FB.ebits x = Spec.expField x := by
  unfold FB.ebits Spec.expField; rw [nshr']
theorem frac_eq (x : Nat) : Nat.mod x F64.P52 = Spec.fracField x := rfl
theorem fb_frac_eq (x : Nat) : FB.frac x = Spec.fracField x := rfl

theorem ebits_lt_iff (x : Nat) : F64.ebits x < 2047 ↔ x % P63 < PINF := by
  rw [ebits_eq, expField_eq]
  have : x % P63 < P63 := Nat.mod_lt _ (by decide)
  simp only [P52, P63, PINF] at *; omega

theorem isNaN_iff (x : Nat) : F64.isNaN x = true ↔ PINF < x % P63 := by
  unfold F64.isNaN
  rw [flet_eq, ebits_eq, frac_eq, Bool.and_eq_true, nbeq, Bool.not_eq_true', ← Bool.not_eq_true, nbeq,
    expField_eq, fracField_eq]
  have : x % P63 < P63 := Nat.mod_lt _ (by decide)
  simp only [P52, P63, PINF] at *; omega

theorem fb_isNaN_eq (x : Nat) : FB.isNaN x = F64.isNaN x := by
  unfold FB.isNaN F64.isNaN
  rw [flet_eq, ebits_eq, frac_eq, fb_ebits_eq, fb_frac_eq, bne, beq_nat, beq_nat]

theorem ofBits_nan_iff (x : Nat) : F64Val.ofBits x = .nan ↔ F64.isNaN x = true := by
  rw [isNaN_iff, ofBits_nan_iff_mod]

theorem notNaN_of_fin {x : Nat} {m : Int} (h : F64Val.ofBits x = .fin m) : F64.isNaN x = false := by
  cases hh : F64.isNaN x
  · rfl
  · rw [(ofBits_nan_iff x).mpr hh] at h; cases h

/-- both operands finite: the test that selects the fast path of the binary operations -/
theorem fin2_true (x y : Nat) (hx : F64.ebits x < 2047) (hy : F64.ebits y < 2047) :
    (Nat.blt (F64.ebits x) 2047 && Nat.blt (F64.ebits y) 2047) = true := by
  rw [Bool.and_eq_true, Nat.blt_eq, Nat.blt_eq]; exact ⟨hx, hy⟩

theorem isFin2_notNaN (x y : Nat) (h : F64.isFin2 x y = true) :
    F64.isNaN x = false ∧ F64.isNaN y = false := by
  unfold F64.isFin2 at h
  rw [Bool.and_eq_true, Nat.blt_eq, Nat.blt_eq, ebits_lt_iff, ebits_lt_iff] at h
  have nan : ∀ z, z % P63 < PINF → F64.isNaN z = false := by
    intro z hz
    cases hh : F64.isNaN z
    · rfl
    · have := (isNaN_iff z).mp hh; omega
  exact ⟨nan x h.1, nan y h.2⟩

/-- the sign-less part is the packing of the exponent and the integer significand that the soft-float reads off
    (`E = max 1 field`), which is normalised unless `E = 1` -/
theorem part_fields (x : Nat) :
    x % P63 = (F64.exf (F64.ebits x) - 1) * P52 + F64.mant x (F64.ebits x) ∧
    (F64.exf (F64.ebits x) = 1 ∨ P52 ≤ F64.mant x (F64.ebits x)) ∧ F64.mant x (F64.ebits x) < 2 * P52 ∧
    1 ≤ F64.exf (F64.ebits x) ∧ F64.exf (F64.ebits x) ≤ max 1 (F64.ebits x) := by
  unfold F64.mant F64.exf
  rw [cond_beq, cond_beq, nmod]
  unfold F64.ebits
  rw [nmod, nshr]
  simp only [Nat.add_eq, F64.P52, P52, P63]
  split <;> omega

/-- signed scaled value; the infinities get `± wp 0x7FF0000000000000`, beyond every finite value -/
def sval (x : Nat) : Int := if x < P63 then (wp x : Int) else - (wp (x - P63) : Int)

def B : Nat := wp 0x7FF0000000000000

theorem sval_eq (x : Nat) (hx : x < P64) : sval x = sv (signBit x) (wp (x % P63)) := by
  unfold sval signBit sv
  by_cases h : x < P63
  · rw [if_pos h, if_pos (by simp only [P63] at *; omega), Nat.mod_eq_of_lt h]
  · have e : x % P63 = x - P63 := by simp only [P63, P64] at *; omega
    rw [if_neg h, if_neg (by simp only [P63, P64] at *; omega), e]

theorem sval_of_fin (x : Nat) (m : Int) (hx : x < P64) (h : F64Val.ofBits x = .fin m) : sval x = m := by
  rw [sval_eq x hx, ((ofBits_fin_iff x m).mp h).2]

theorem ofBits_cases (x : Nat) (hx : x < P64) (hn : F64.isNaN x = false) :
    (F64Val.ofBits x = .fin (sval x) ∧ -(B : Int) < sval x ∧ sval x < B) ∨
    (F64Val.ofBits x = .posInf ∧ sval x = B) ∨
    (F64Val.ofBits x = .negInf ∧ sval x = -(B : Int)) := by
  have hnan : ¬ PINF < x % P63 := fun h => by rw [(isNaN_iff x).mpr h] at hn; cases hn
  have hs := signBit_le x
  rw [ofBits_eq, sval_eq x hx]
  by_cases h1 : x % P63 < PINF
  · have : wp (x % P63) < B := wp_strict h1
    rw [if_pos h1]
    refine Or.inl ⟨rfl, ?_, ?_⟩ <;> unfold sv <;> split <;> omega
  · have h2 : x % P63 = PINF := by omega
    rw [if_neg h1, if_pos h2, h2]
    unfold sv
    split
    · exact Or.inr (Or.inl ⟨rfl, rfl⟩)
    · exact Or.inr (Or.inr ⟨rfl, rfl⟩)

end F64Order
