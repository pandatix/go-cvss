import Cvss.Proofs.IEEE.Special
import Cvss.Proofs.IEEE.RintUnique
/-!
# IEEE: the soft-float `Cvss/Base/F64.lean` implements IEEE-754 binary64 round-to-nearest-even arithmetic

Every number in the scoring code is a 64-bit pattern (`Nat`); `Spec.F64Val.ofBits` (in `Spec/Rating.lean`)
says which extended real a pattern denotes: `fin num` is the real number `num / den`, `den = 2^1075`.

`IsRNE n d r` (`Proofs/IEEE/Spec.lean`) says "`r` is the rational `n/d` rounded to nearest, ties to even, overflow
to ±∞ from `2^1024 − 2^970`", by integer cross-multiplication over all finite doubles; it determines its result, holds
of every double for its own value, and depends on the fraction only (`rne_unique`, `rne_representable`, `rne_congr`).
For all finite operands (exponent field `< 2047`: ±0, subnormals, normals) and their exact values, by structural
proofs without enumeration: `F64.rnd` (round-and-pack, the heart of all operations), `mul`, `div`, `add`, `sub`,
`ofNat` return the `IsRNE` image of the exact result, subnormal results, the carry to the next binade and overflow
included, with the IEEE sign of zero results; the shortcuts of `F64.add` (zero operand; exponent gap ≥ 56) are
covered.  `neg`, `abs` are exact on all patterns; `round/roundToEven/floor/ceil/trunc` return the exactly
represented integer that Go's `math.Round/RoundToEven/Floor/Ceil/Trunc` prescribe, with the operand's sign bit;
`min/max/eq` are Go's `math.Min/Max` and `==`; `lt/le` are the order of the values on all 64-bit patterns
(`Proofs/F64Order.lean`); NaN operands give NaN for `mul/add/sub/div`.

## What remains trusted

* The decoding `Spec.F64Val.ofBits` is IEEE-754-2019 §3.4 (binary64 interchange format): read it, 15 lines.
* NaN payloads and the signalling/quiet distinction are not modelled (every NaN decodes to `F64Val.nan`;
  the soft-float produces the single pattern `0x7FF8000000000001` = Go's `math.NaN()`).
* The reference implementation `FB.*` on NaN/±∞ operands (`∞·0`, `∞−∞`, `x/∞`, comparisons and `min/max`
  with infinities beyond `lt/le`, …) apart from the statements above: validated by differential testing
  against the hardware only. The v2.0/v3.x scoring code never produces such operands (all its intermediate values are
  finite, see the `Score*` proofs); v4.0 `Score` does compute with NaN — `math.NaN()` marks a missing next-lower
  MacroVector, then `abs(NaN − x)` and `math.IsNaN` — and uses exactly the NaN facts proved here (`sub_nan_correct`,
  `abs_correct`, `isNaN_correct`); it never produces an infinity.
* That Go's compiler/hardware implement IEEE-754 binary64 for `* / + −`, and that `math.Round` etc. behave as
  documented (this is the link between the Go program and this model, not a statement about the model).
-/
namespace IEEE
open Spec F64Order

/-- the correctly rounded result is unique (value always; bit pattern unless the exact value is 0) -/
theorem rne_unique {n : Int} {d r r' : Nat} (hd : 0 < d) (h : IsRNE n d r) (h' : IsRNE n d r') :
    F64Val.ofBits r = F64Val.ofBits r' ∧ (n ≠ 0 → r = r') ∧ r % 2^63 = r' % 2^63 :=
  IsRNE.unique hd h h'

/-- a finite double is the correctly rounded image of its own value (bit pattern included) -/
theorem rne_representable (x : Nat) (vx : Int) (hx : x < 2^64) (hvx : F64Val.ofBits x = .fin vx) :
    IsRNE vx den x :=
  isRNE_self (decode x vx hx hvx).2

/-- the predicate depends on the rational `n/d` only -/
theorem rne_congr {n n' : Int} {d d' r : Nat} (hd : 0 < d) (hd' : 0 < d') (he : n * d' = n' * d)
    (h : IsRNE n d r) : IsRNE n' d' r :=
  IsRNE.congr hd hd' he h

/-- **`F64.rnd sbit m e`** (`sbit = s·2^63`, `m > 0`, any `e`) is `± m · 2^e / (2^4096 · 2^1075)` rounded to
    nearest even, with sign bit `s`: subnormals, carry and overflow included -/
theorem rnd_correct (s m e : Nat) (hs : s ≤ 1) (hm : 0 < m) :
    IsRNE (sv s (m * 2^e)) (2^4096 * den) (F64.rnd (s * 2^63) m e) ∧
    signBit (F64.rnd (s * 2^63) m e) = s := by
  have hd : 0 < 2^4096 * den := Nat.mul_pos (Nat.two_pow_pos _) den_pos
  have hrep : Rep (m * 2^e) (2^4096 * den) m e := by
    unfold Rep; left
    generalize (2:Nat)^4096 = P; generalize den = D
    ac_rfl
  rw [← F64Order.p63_pow]
  exact rnd_isRNE s m e _ _ hs hd (Or.inr ⟨hm, hrep⟩)

theorem rnd_zero_correct (sbit e : Nat) : F64.rnd sbit 0 e = sbit := rnd_zero sbit e

/-- **multiplication**: for finite `x`, `y` (values `vx/den`, `vy/den`), `F64.mul x y` is the
    round-to-nearest-even image of the exact product `vx·vy / den²`, and its sign bit is the xor of the
    operands' sign bits (also for zero results). -/
theorem mul_correct (x y : Nat) (vx vy : Int) (hx : x < 2^64) (hy : y < 2^64)
    (hvx : F64Val.ofBits x = .fin vx) (hvy : F64Val.ofBits y = .fin vy) :
    IsRNE (vx * vy) (den * den) (F64.mul x y) ∧
    signBit (F64.mul x y) = (signBit x + signBit y) % 2 := by
  obtain ⟨hex, dx⟩ := decode x vx hx hvx
  obtain ⟨hey, dy⟩ := decode y vy hy hvy
  rw [← sgn_eq_signBit x hx, ← sgn_eq_signBit y hy, dx.sv_eq, dy.sv_eq, sv_mul_sv _ _ _ _ dx.s_le dy.s_le]
  unfold F64.mul
  simp only [flet_eq]
  rw [fin2_true x y hex hey, cond_true]
  unfold F64.mulF
  simp only [Nat.add_eq, Nat.mul_eq, nmod]
  apply rnd_isRNE _ _ _ _ _ (by omega) (Nat.mul_pos den_pos den_pos)
  generalize F64.exf (F64.ebits x) = Ex
  generalize F64.exf (F64.ebits y) = Ey
  generalize F64.mant x (F64.ebits x) = mx
  generalize F64.mant y (F64.ebits y) = my
  by_cases hm0 : mx * my = 0
  · refine Or.inl ⟨hm0, ?_⟩
    rw [Nat.mul_mul_mul_comm, hm0, Nat.zero_mul]
  · have hrep : Rep (mx * 2^Ex * (my * 2^Ey)) (den * den) (mx * my) (Ex + Ey + 3021) := by
      apply rep_exact
      rw [Nat.pow_add, Nat.pow_add]
      generalize den = D
      generalize (2:Nat)^3021 = Q
      ac_rfl
    exact Or.inr ⟨by omega, hrep⟩

theorem div_correct (x y : Nat) (vx vy : Int) (hx : x < 2^64) (hy : y < 2^64)
    (hvx : F64Val.ofBits x = .fin vx) (hvy : F64Val.ofBits y = .fin vy) (hy0 : vy ≠ 0) :
    IsRNE (if vy < 0 then -vx else vx) vy.natAbs (F64.div x y) ∧
    signBit (F64.div x y) = (signBit x + signBit y) % 2 :=
  div_rne x y vx vy hx hy hvx hvy hy0

/-- `x / 0` for a finite non-zero `x` is `±∞`, the sign being the xor of the sign bits -/
theorem div_by_zero_correct (x y : Nat) (vx : Int) (hx : x < 2^64) (hy : y < 2^64)
    (hvx : F64Val.ofBits x = .fin vx) (hvy : F64Val.ofBits y = .fin 0) (hx0 : vx ≠ 0) :
    F64Val.ofBits (F64.div x y) = if (signBit x + signBit y) % 2 = 0 then .posInf else .negInf := by
  obtain ⟨hex, dx⟩ := decode x vx hx hvx
  obtain ⟨hey, dy⟩ := decode y 0 hy hvy
  rw [div_unfold x y hex hey, divF_eq, if_pos (dy.zero_iff.mp rfl),
    if_neg (fun h => hx0 (dx.zero_iff.mpr h)), ← sgn_eq_signBit x hx, ← sgn_eq_signBit y hy]
  have := dx.s_le; have := dy.s_le
  exact ofBits_pack_inf _ (by omega)

theorem div_zero_zero_correct (x y : Nat) (hx : x < 2^64) (hy : y < 2^64)
    (hvx : F64Val.ofBits x = .fin 0) (hvy : F64Val.ofBits y = .fin 0) :
    F64Val.ofBits (F64.div x y) = .nan :=
  (div_zero_zero x y hx hy hvx hvy).2

theorem add_correct (x y : Nat) (vx vy : Int) (hx : x < 2^64) (hy : y < 2^64)
    (hvx : F64Val.ofBits x = .fin vx) (hvy : F64Val.ofBits y = .fin vy) :
    IsRNE (vx + vy) den (F64.add x y) ∧
    (vx + vy = 0 → F64.add x y = if signBit x = 1 ∧ signBit y = 1 then 2^63 else 0) :=
  add_rne x y vx vy hx hy hvx hvy

/-- **subtraction**: for finite `x`, `y`, `F64.sub x y` is the round-to-nearest-even image of the exact
    difference; an exact zero difference is `+0`, except `(−0) − (+0) = −0`. -/
theorem sub_correct (x y : Nat) (vx vy : Int) (hx : x < 2^64) (hy : y < 2^64)
    (hvx : F64Val.ofBits x = .fin vx) (hvy : F64Val.ofBits y = .fin vy) :
    IsRNE (vx - vy) den (F64.sub x y) ∧
    (vx - vy = 0 → F64.sub x y = if signBit x = 1 ∧ signBit y = 0 then 2^63 else 0) := by
  obtain ⟨hn, hs, _, _⟩ := neg_fields y hy
  have := add_rne x (F64.neg y) vx (-vy) hx hn hvx (neg_fin y vy hy hvy)
  rw [hs, ← Int.sub_eq_add_neg] at this
  unfold F64.sub
  have hsb : signBit y = 0 ∨ signBit y = 1 := by unfold signBit; omega
  refine ⟨this.1, fun h => ?_⟩
  rw [this.2 h]
  rcases hsb with h | h <;> rw [h] <;> simp

/-- **conversion from naturals**: `F64.ofNat n` is the round-to-nearest-even image of `n` (as `n/1`), with
    sign bit 0; in particular `ofNat 0 = +0`, and `n ≥ 2^1024 − 2^970` gives `+∞`. -/
theorem ofNat_correct (n : Nat) : IsRNE (n : Int) 1 (F64.ofNat n) ∧ signBit (F64.ofNat n) = 0 := by
  have := rnd_isRNE 0 n (4096 + 1075) n 1 (by decide) (by decide)
    (by rcases Nat.eq_zero_or_pos n with h | h
        · exact Or.inl ⟨h, h⟩
        · exact Or.inr ⟨h, rep_int n⟩)
  rw [Nat.zero_mul] at this
  exact this

theorem ofNat_exact_correct (k : Nat) (hk : k ≤ 2^53) :
    F64Val.ofBits (F64.ofNat k) = .fin ((k : Int) * den) :=
  (ofNat_exact k hk).1

/-- **`F64.tenth k` is the double nearest to `k/10`** (ties to even), for `k ≤ 2^53`: the decimal constants
    `0.1 … 10.0` of the scoring code, built by one correctly rounded division of two exact integers -/
theorem tenth_correct (k : Nat) (hk : k ≤ 2^53) : IsRNE (k : Int) 10 (F64.tenth k) := by
  obtain ⟨h1, h1'⟩ := ofNat_exact k hk
  obtain ⟨h2, h2'⟩ := ofNat_exact 10 (by decide)
  have hD := den_pos
  have := (div_rne (F64.ofNat k) (F64.ofNat 10) _ _ h1' h2' h1 h2 (by simp; omega)).1
  unfold F64.tenth
  have hpos : ¬ ((10 : Nat) : Int) * (den : Int) < 0 := by omega
  rw [if_neg hpos] at this
  refine this.congr (by simp; omega) (by decide) ?_
  rw [Int.natAbs_mul]
  simp
  generalize (den : Int) = D
  rw [Int.mul_assoc, Int.mul_comm D 10]

theorem neg_correct (x : Nat) (hx : x < 2^64) :
    F64Val.ofBits (F64.neg x) = negV (F64Val.ofBits x) ∧ signBit (F64.neg x) = 1 - signBit x ∧
    expField (F64.neg x) = expField x ∧ fracField (F64.neg x) = fracField x ∧ F64.neg x < 2^64 :=
  ⟨neg_val x hx, (neg_fields x hx).2.1, (neg_fields x hx).2.2.1, (neg_fields x hx).2.2.2, (neg_fields x hx).1⟩

theorem abs_correct (x : Nat) :
    F64Val.ofBits (F64.abs x) = absV (F64Val.ofBits x) ∧ signBit (F64.abs x) = 0 ∧
    expField (F64.abs x) = expField x ∧ fracField (F64.abs x) = fracField x ∧ F64.abs x < 2^63 :=
  ⟨abs_val x, (abs_fields x).2.1, (abs_fields x).2.2.1, (abs_fields x).2.2.2, (abs_fields x).1⟩

/-- **`math.Round`**: nearest integer, halfway cases away from zero, sign bit preserved -/
theorem round_correct (x : Nat) (vx : Int) (hx : x < 2^64) (hvx : F64Val.ofBits x = .fin vx) :
    ∃ K : Int, F64Val.ofBits (F64.round x) = .fin (K * den) ∧ IsRoundAway vx K ∧
      signBit (F64.round x) = signBit x ∧ F64.round x < 2^64 := by
  obtain ⟨hex, dx⟩ := decode x vx hx hvx
  exact rint_rel IsRoundAway x vx hx hvx _ (rintK 1) (rintK_pick 1) (rint_eq 1 x hex dx.s_le)
    (fun K => (int_all K).2.2.2.1) (fun s q rem half G hs hG hD hρ => (frac_all s q rem half G hs hG hD hρ).2.1)
/-- **`math.RoundToEven`**: the result is the exactly represented integer nearest to the operand, halfway
    cases to even, with the operand's sign bit (so `−0.3 ↦ −0`) -/
theorem roundToEven_correct (x : Nat) (vx : Int) (hx : x < 2^64) (hvx : F64Val.ofBits x = .fin vx) :
    ∃ K : Int, F64Val.ofBits (F64.roundToEven x) = .fin (K * den) ∧ IsRoundEven vx K ∧
      signBit (F64.roundToEven x) = signBit x ∧ F64.roundToEven x < 2^64 := by
  obtain ⟨hex, dx⟩ := decode x vx hx hvx
  exact rint_rel IsRoundEven x vx hx hvx _ (rintK 0) (rintK_pick 0) (rint_eq 0 x hex dx.s_le)
    (fun K => (int_all K).2.2.2.2) (fun s q rem half G hs hG hD hρ => (frac_all s q rem half G hs hG hD hρ).1)
/-- **`math.Floor`**: the greatest integer `≤` the operand, sign bit preserved (`Floor(−0) = −0`) -/
theorem floor_correct (x : Nat) (vx : Int) (hx : x < 2^64) (hvx : F64Val.ofBits x = .fin vx) :
    ∃ K : Int, F64Val.ofBits (F64.floor x) = .fin (K * den) ∧ IsFloor vx K ∧
      signBit (F64.floor x) = signBit x ∧ F64.floor x < 2^64 := by
  obtain ⟨hex, dx⟩ := decode x vx hx hvx
  exact rint_rel IsFloor x vx hx hvx _ (rintK 2) (rintK_pick 2) (rint_eq 2 x hex dx.s_le)
    (fun K => (int_all K).1) (fun s q rem half G hs hG hD hρ => (frac_all s q rem half G hs hG hD hρ).2.2.1)
/-- **`math.Ceil`**: the least integer `≥` the operand, sign bit preserved (`Ceil(−0.3) = −0`) -/
theorem ceil_correct (x : Nat) (vx : Int) (hx : x < 2^64) (hvx : F64Val.ofBits x = .fin vx) :
    ∃ K : Int, F64Val.ofBits (F64.ceil x) = .fin (K * den) ∧ IsCeil vx K ∧
      signBit (F64.ceil x) = signBit x ∧ F64.ceil x < 2^64 := by
  obtain ⟨hex, dx⟩ := decode x vx hx hvx
  exact rint_rel IsCeil x vx hx hvx _ (fun s q rem _ => rintK2 3 s q rem) (fun s q rem _ => rintK2_pick 3 s q rem)
    (rint2_eq 3 x hex dx.s_le) (fun K => (int_all K).2.1)
    (fun s q rem half G hs hG hD hρ => (frac_all s q rem half G hs hG hD hρ).2.2.2.1)
/-- **`math.Trunc`**: the operand rounded toward zero, sign bit preserved -/
theorem trunc_correct (x : Nat) (vx : Int) (hx : x < 2^64) (hvx : F64Val.ofBits x = .fin vx) :
    ∃ K : Int, F64Val.ofBits (F64.trunc x) = .fin (K * den) ∧ IsTrunc vx K ∧
      signBit (F64.trunc x) = signBit x ∧ F64.trunc x < 2^64 := by
  obtain ⟨hex, dx⟩ := decode x vx hx hvx
  exact rint_rel IsTrunc x vx hx hvx _ (fun s q rem _ => rintK2 4 s q rem) (fun s q rem _ => rintK2_pick 4 s q rem)
    (rint2_eq 4 x hex dx.s_le) (fun K => (int_all K).2.2.1)
    (fun s q rem half G hs hG hD hρ => (frac_all s q rem half G hs hG hD hρ).2.2.2.2)
/-- **`F64.truncAbs x = ⌊|v|/den⌋`**, the magnitude of the operand truncated to a natural number -/
theorem truncAbs_correct (x : Nat) (vx : Int) (hx : x < 2^64) (hvx : F64Val.ofBits x = .fin vx) :
    F64.truncAbs x = vx.natAbs / den := by
  obtain ⟨hex, dx⟩ := decode x vx hx hvx
  unfold F64.truncAbs
  rw [flet_eq, flet_eq, cond_ble, nshl, nshr, Nat.sub_eq, Nat.sub_eq, dx.sv_eq, sv_natAbs]
  generalize F64.exf (F64.ebits x) = E
  generalize F64.mant x (F64.ebits x) = m
  by_cases h : 1075 ≤ E
  · rw [if_pos h]
    have : m * 2^E = m * 2^(E - 1075) * den := by
      rw [den_pow, Nat.mul_assoc, ← Nat.pow_add]; congr 2; omega
    rw [this, Nat.mul_div_cancel _ den_pos]
  · rw [if_neg h]
    have : den = 2^(1075 - E) * 2^E := by rw [den_pow, ← Nat.pow_add]; congr 1; omega
    rw [this, Nat.mul_div_mul_right _ _ (Nat.two_pow_pos E)]

/-- the five relations are functional; `IsFloor v K` is `K = ⌊v/den⌋` etc. -/
theorem floor_unique {v K K' : Int} (h : IsFloor v K) (h' : IsFloor v K') : K = K' := h.unique h'
theorem ceil_unique {v K K' : Int} (h : IsCeil v K) (h' : IsCeil v K') : K = K' := h.unique h'
theorem trunc_unique {v K K' : Int} (h : IsTrunc v K) (h' : IsTrunc v K') : K = K' := h.unique h'
theorem round_unique {v K K' : Int} (h : IsRoundAway v K) (h' : IsRoundAway v K') : K = K' := h.unique h'
theorem roundToEven_unique {v K K' : Int} (h : IsRoundEven v K) (h' : IsRoundEven v K') : K = K' := h.unique h'

theorem eq_correct (x y : Nat) (vx vy : Int) (hx : x < 2^64) (hy : y < 2^64)
    (hvx : F64Val.ofBits x = .fin vx) (hvy : F64Val.ofBits y = .fin vy) :
    F64.eq x y = decide (vx = vy) := eq_spec x y vx vy hx hy hvx hvy

theorem min_correct (x y : Nat) (vx vy : Int) (hx : x < 2^64) (hy : y < 2^64)
    (hvx : F64Val.ofBits x = .fin vx) (hvy : F64Val.ofBits y = .fin vy) :
    F64.min x y = if vx < vy then x else if vy < vx then y else if signBit x = 1 then x else y :=
  min_spec x y vx vy hx hy hvx hvy

/-- **`F64.max` is Go's `math.Max`** on finite operands: the larger value; of two zeros, `+0` if there is one -/
theorem max_correct (x y : Nat) (vx vy : Int) (hx : x < 2^64) (hy : y < 2^64)
    (hvx : F64Val.ofBits x = .fin vx) (hvy : F64Val.ofBits y = .fin vy) :
    F64.max x y = if vy < vx then x else if vx < vy then y else if signBit x = 0 then x else y := by
  obtain ⟨hnx, hsx, _, _⟩ := neg_fields x hx
  obtain ⟨hny, _, _, _⟩ := neg_fields y hy
  unfold F64.max
  rw [min_spec (F64.neg x) (F64.neg y) (-vx) (-vy) hnx hny (neg_fin x vx hx hvx) (neg_fin y vy hy hvy), hsx]
  have := signBit_le x
  by_cases h1 : vy < vx
  · rw [if_pos (by omega), if_pos h1, neg_neg x hx]
  · rw [if_neg (by omega), if_neg h1]
    by_cases h2 : vx < vy
    · rw [if_pos (by omega), if_pos h2, neg_neg y hy]
    · rw [if_neg (by omega), if_neg h2]
      by_cases h3 : signBit x = 0
      · rw [if_pos (by omega), if_pos h3, neg_neg x hx]
      · rw [if_neg (by omega), if_neg h3, neg_neg y hy]

/-- `F64.lt` / `F64.le` are the order of the exact values, on all 64-bit patterns (`Proofs/F64Order.lean`) -/
theorem lt_correct (x y : Nat) (hx : x < 2^64) (hy : y < 2^64) :
    F64.lt x y = true ↔ F64Val.lt (F64Val.ofBits x) (F64Val.ofBits y) :=
  F64Order.lt_iff x y hx hy
theorem le_correct (x y : Nat) (hx : x < 2^64) (hy : y < 2^64) :
    F64.le x y = true ↔ F64Val.le (F64Val.ofBits x) (F64Val.ofBits y) :=
  F64Order.le_iff x y hx hy

theorem isNaN_correct (x : Nat) : F64.isNaN x = true ↔ F64Val.ofBits x = .nan :=
  (F64Order.ofBits_nan_iff x).symm

theorem mul_nan_correct (x y : Nat) (h : F64Val.ofBits x = .nan ∨ F64Val.ofBits y = .nan) :
    F64Val.ofBits (F64.mul x y) = .nan := by
  rw [ofBits_nan_iff, ofBits_nan_iff] at h
  unfold F64.mul
  simp only [flet_eq]
  rw [not_fin2_of_nan x y h, cond_false]
  unfold FB.mul
  rw [if_pos (fb_nan_or x y h)]
  exact ofBits_NAN
theorem add_nan_correct (x y : Nat) (h : F64Val.ofBits x = .nan ∨ F64Val.ofBits y = .nan) :
    F64Val.ofBits (F64.add x y) = .nan := add_nan x y h
theorem sub_nan_correct (x y : Nat) (hy : y < 2^64) (h : F64Val.ofBits x = .nan ∨ F64Val.ofBits y = .nan) :
    F64Val.ofBits (F64.sub x y) = .nan := by
  unfold F64.sub
  apply add_nan
  rcases h with h | h
  · exact Or.inl h
  · right; rw [neg_val y hy, h]; rfl
theorem div_nan_correct (x y : Nat) (h : F64Val.ofBits x = .nan ∨ F64Val.ofBits y = .nan) :
    F64Val.ofBits (F64.div x y) = .nan := by
  rw [ofBits_nan_iff, ofBits_nan_iff] at h
  unfold F64.div
  simp only [flet_eq]
  rw [not_fin2_of_nan x y h, cond_false]
  unfold FB.div
  rw [if_pos (fb_nan_or x y h)]
  exact ofBits_NAN

/-! ## the hypotheses are satisfiable; concrete instances -/

-- 0.1 = 0x3FB999999999999A is the rounding of 1/10
example : IsRNE 1 10 0x3FB999999999999A := by
  have h := tenth_correct 1 (by decide)
  rwa [show F64.tenth 1 = 0x3FB999999999999A by decide +kernel] at h

-- 0.1 · 3.0 = 0.30000000000000004 = 0x3FD3333333333334 is the rounding of the exact product
example : IsRNE ((7205759403792794 * 2^1019) * (3 * den)) (den * den) 0x3FD3333333333334 := by
  have h := (mul_correct 0x3FB999999999999A 0x4008000000000000 (7205759403792794 * 2^1019) (3 * den)
    (by decide) (by decide) (by decide +kernel) (by rw [den_eq]; decide +kernel)).1
  rwa [show F64.mul 0x3FB999999999999A 0x4008000000000000 = 0x3FD3333333333334 by decide +kernel] at h

-- the smallest subnormal times 0.5 is a tie between 0 and 2^-1074: it rounds to (even) +0
example : F64.mul 1 0x3FE0000000000000 = 0 := by decide +kernel
-- the largest finite double times 2 overflows to +∞; 1/3 and −0 + −0
example : F64.mul 0x7FEFFFFFFFFFFFFF 0x4000000000000000 = 0x7FF0000000000000 := by decide +kernel
example : F64.div 0x3FF0000000000000 0x4008000000000000 = 0x3FD5555555555555 := by decide +kernel
example : F64.add 0x8000000000000000 0x8000000000000000 = 0x8000000000000000 := by decide +kernel

end IEEE
