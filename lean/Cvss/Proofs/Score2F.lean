import Cvss.Proofs.Score2Nd
import Cvss.Proofs.F64Eval
/-! C05 table: final environmental step, inputs -2..100 tenths and -0.0 × 20 weight codes -/
namespace Proofs.Score2

theorem f_table : fTable = true := by
  simp only [fTable, fCodes, okF, Ff, GenV20.roundTo1Decimal, ← F64.divK_eq]
  decide +kernel

theorem f_neg0 : fCodes NEG0 0 = true := by decide +kernel

end Proofs.Score2
