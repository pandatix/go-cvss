import Cvss.Props.ParseTie
import Cvss.Props.C02
import Cvss.Props.C06
import Cvss.Props.C08
import Cvss.Props.C13b
import Cvss.Props.C18
/-!
# The parser-level properties restated for the REGENERATED parsers

`Props/ParseTie.lean` proves `resXX (GenPxx.ParseVector s) = Model.parseXX s` for every byte string (v2: for every 14-slot pool
buffer). The property theorems C02, C06, C08, C13 and C18 (v2 part) are stated on the readable models `Model.parseXX`; here
they are restated — by rewriting with the tie — for the functions the translator regenerates from `/repo` on every run
(C01 and C18 v3/v4 are restated in `Props/ParseTieTransfer.lean`). `resXX` only repacks the byte tuple into `Model.Oxx`
and maps ok/err/panic one to one.
-/
namespace GenParsers
open Model ParseTie

/-! C02 — serialise then parse returns the same object -/
theorem C02_v20 (buf : List Bytes) (hb : buf.length = 14) (c : O20) (h : c.wf = true) :
    res20 (GenP20.ParseVector buf c.vector) = .ok c := (ParseTie.v20 buf hb _).trans (C02.v20 c h)
theorem C02_v30 (c : O30) (h : c.wf = true) : res30 (GenP30.ParseVector c.vector) = .ok c :=
  (ParseTie.v30 _).trans (C02.v30 c h)
theorem C02_v31 (c : O31) (h : c.wf = true) : res31 (GenP31.ParseVector c.vector) = .ok c :=
  (ParseTie.v31 _).trans (C02.v31 c h)
theorem C02_v40 (c : O40) (h : c.wf = true) : res40 (GenP40.ParseVector c.vector) = .ok c :=
  (ParseTie.v40 _).trans (C02.v40 c h)

/-! C06 — a parsed vector means what it says -/
theorem C06_v20 (buf : List Bytes) (hb : buf.length = 14) {s : Bytes} {c : O20} (h : res20 (GenP20.ParseVector buf s) = .ok c) :
    c.wf = true ∧ ∀ w, Spec.V2.Witness s w → ∀ m ∈ Spec.V2.metrics, c.get m.abv = (Spec.valueOf Spec.V2.metrics w m.abv, Go.errNil) :=
  C06.v20 ((ParseTie.v20 buf hb s).symm.trans h)
theorem C06_v30 (s : Bytes) (c : O30) (h : res30 (GenP30.ParseVector s) = .ok c) :
    ∀ w, Spec.V3.Witness Spec.V3.header30 s w → ∀ m ∈ Spec.V3.metrics, c.get m.abv = (Spec.valueOf Spec.V3.metrics w m.abv, Go.errNil) :=
  C06.v30 s c ((ParseTie.v30 s).symm.trans h)
theorem C06_v31 (s : Bytes) (c : O31) (h : res31 (GenP31.ParseVector s) = .ok c) :
    ∀ w, Spec.V3.Witness Spec.V3.header31 s w → ∀ m ∈ Spec.V3.metrics, c.get m.abv = (Spec.valueOf Spec.V3.metrics w m.abv, Go.errNil) :=
  C06.v31 s c ((ParseTie.v31 s).symm.trans h)
theorem C06_v40 {s : Bytes} {c : O40} (h : res40 (GenP40.ParseVector s) = .ok c) :
    (∀ w, Spec.V4.Witness s w → ∀ m ∈ Spec.V4.metrics, c.get m.abv = (Spec.valueOf Spec.V4.metrics w m.abv, Go.errNil)) ∧ c.wf = true :=
  C06.v40 ((ParseTie.v40 s).symm.trans h)

/-! C08 — parse then serialise gives the canonical spelling -/
theorem C08_v20 (buf : List Bytes) (hb : buf.length = 14) {s : Bytes} {c : O20} (h : res20 (GenP20.ParseVector buf s) = .ok c) :
    ∀ w, Spec.V2.Witness s w → c.vector = Spec.V2.canonical w :=
  C08.v20 ((ParseTie.v20 buf hb s).symm.trans h)
theorem C08_v30 (s : Bytes) (c : O30) (h : res30 (GenP30.ParseVector s) = .ok c) :
    ∀ w, Spec.V3.Witness Spec.V3.header30 s w → c.vector = Spec.V3.canonical Spec.V3.header30 w :=
  C08.v30 s c ((ParseTie.v30 s).symm.trans h)
theorem C08_v31 (s : Bytes) (c : O31) (h : res31 (GenP31.ParseVector s) = .ok c) :
    ∀ w, Spec.V3.Witness Spec.V3.header31 s w → c.vector = Spec.V3.canonical Spec.V3.header31 w :=
  C08.v31 s c ((ParseTie.v31 s).symm.trans h)
theorem C08_v40 {s : Bytes} {c : O40} (h : res40 (GenP40.ParseVector s) = .ok c) :
    ∀ w, Spec.V4.Witness s w → c.vector = Spec.V4.canonical w :=
  C08.v40 ((ParseTie.v40 s).symm.trans h)

/-! C13 — at most one generated parser accepts a string -/
theorem C13_exclusive (buf : List Bytes) (hb : buf.length = 14) (s : Bytes) :
    ¬ ((res20 (GenP20.ParseVector buf s)).isOk = true ∧ (res30 (GenP30.ParseVector s)).isOk = true) ∧
    ¬ ((res20 (GenP20.ParseVector buf s)).isOk = true ∧ (res31 (GenP31.ParseVector s)).isOk = true) ∧
    ¬ ((res20 (GenP20.ParseVector buf s)).isOk = true ∧ (res40 (GenP40.ParseVector s)).isOk = true) ∧
    ¬ ((res30 (GenP30.ParseVector s)).isOk = true ∧ (res31 (GenP31.ParseVector s)).isOk = true) ∧
    ¬ ((res30 (GenP30.ParseVector s)).isOk = true ∧ (res40 (GenP40.ParseVector s)).isOk = true) ∧
    ¬ ((res31 (GenP31.ParseVector s)).isOk = true ∧ (res40 (GenP40.ParseVector s)).isOk = true) := by
  rw [ParseTie.v20 buf hb, ParseTie.v30, ParseTie.v31, ParseTie.v40]; exact C13.exclusive s

/-! C18, v2.0 part (every defect except an insertion after a complete environmental group, known finding F3) -/
theorem C18_v20_partial (buf : List Bytes) (hb : buf.length = 14) (w : List Spec.Pair) (d : Spec.Defect) (s : Bytes) (e : Spec.ErrVal)
    (hw : ∃ s0, Spec.V2.Witness s0 w) (hd : d.apply .v20 w = some (s, e)) (hna : C18.V2.afterEnv w d = false) :
    res20 (GenP20.ParseVector buf s) = .err ⟨e.1, e.2⟩ :=
  (ParseTie.v20 buf hb s).trans (C18.v20_partial w d s e hw hd hna)

/-! every object a generated parser returns is reachable through `Set` from the zero value (so "reachable" needs no
    separate constructor for `ParseVector`) -/
theorem parsed_reachable20 (buf : List Bytes) (hb : buf.length = 14) {s : Bytes} {c : O20}
    (h : res20 (GenP20.ParseVector buf s) = .ok c) : O20.Reachable c := (C09.V20.reachable_iff_wf c).mpr (C06_v20 buf hb h).1
theorem parsed_reachable30 (s : Bytes) (c : O30) (h : res30 (GenP30.ParseVector s) = .ok c) : O30.Reachable c :=
  (C09.V30.reachable_iff_wf c).mpr (C06.wf30 s c ((ParseTie.v30 s).symm.trans h))
theorem parsed_reachable31 (s : Bytes) (c : O31) (h : res31 (GenP31.ParseVector s) = .ok c) : O31.Reachable c :=
  (C09.V31.reachable_iff_wf c).mpr (C06.wf31 s c ((ParseTie.v31 s).symm.trans h))
theorem parsed_reachable40 {s : Bytes} {c : O40} (h : res40 (GenP40.ParseVector s) = .ok c) : O40.Reachable c :=
  (Proofs.B40.reachable_iff_wf c).mpr (C06_v40 h).2

end GenParsers
