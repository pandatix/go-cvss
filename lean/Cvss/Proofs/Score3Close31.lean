import Cvss.Proofs.Score3CloseDef
import Cvss.Proofs.Score3Codes31
import Cvss.Proofs.Score3M31
/-!
# C03: `Impact` and `Exploitability` (unrounded) are within 10⁻¹² of the exact Spec value

Kernel enumeration of the generated `Impact_core` (54 code tuples) and `Exploitability_core` (96 code tuples).
`Exploitability_core` is the same term in both packages; `Impact_core` is not (`pow15`), so the step from its table to
a code vector is given for any `impact`. Then v3.1.
-/
namespace Proofs.Score3
open Spec Spec.V3 GenV31 V31

def okImpOn (impact : Nat → Nat → Nat → Nat → Nat) (s c i a : Nat) : Bool :=
  within12 (impact c i a s) ((specImpact s c i a).num, (specImpact s c i a).exp)
def allImpOn (impact : Nat → Nat → Nat → Nat → Nat) : Bool :=
  (List.range 2).all fun s => (List.range 3).all fun c => (List.range 3).all fun i => (List.range 3).all fun a =>
    okImpOn impact s c i a
def okExp (av ac pr ui s : Nat) : Bool :=
  within12 (Exploitability_core av ac pr s ui) ((specExpl av ac pr ui s).num, (specExpl av ac pr ui s).exp)
def allExp : Bool :=
  (List.range 4).all fun av => (List.range 2).all fun ac => (List.range 3).all fun pr => (List.range 2).all fun ui =>
  (List.range 2).all fun s => okExp av ac pr ui s

theorem exp_all : allExp = true := by decide +kernel

section
variable {r : Nat → Nat} (R : InRange r)
include R

theorem impact_codes {impact : Nat → Nat → Nat → Nat → Nat} (tab : allImpOn impact = true)
    (scope : ∀ c i a su s, Nat.beq su 0 = Nat.beq s 0 → impact c i a su = impact c i a s)
    {kS : Nat} (hS : Nat.beq kS 0 = Nat.beq (r 4) 0) :
    within12 (impact (r 5) (r 6) (r 7) kS) (Spec.V3.impact (vec r)) = true := by
  rw [scope _ _ _ _ _ hS]
  show within12 _ ((impactD _).num, (impactD _).exp) = true
  rw [spec_impact R.h4 R.h5 R.h6 R.h7]
  exact all_range (all_range (all_range (all_range tab R.h4) R.h5) R.h6) R.h7

theorem exploitability_codes :
    within12 (Exploitability_core (r 0) (r 1) (r 2) (r 4) (r 3)) (Spec.V3.exploitability (vec r)) = true := by
  show within12 _ ((exploitabilityD _).num, (exploitabilityD _).exp) = true
  rw [spec_expl R.h0 R.h1 R.h2 R.h3 R.h4]
  exact all_range (all_range (all_range (all_range (all_range exp_all R.h0) R.h1) R.h2) R.h3) R.h4
end

namespace V31

theorem imp_all : allImpOn Impact_core = true := by decide +kernel

theorem impact_obj (c : Model.O31) (h : c.wf = true) : within12 c.impact (Spec.V3.impact (val c)) = true := by
  rw [impact_eq, val_eq]
  exact impact_codes (inRange_of_wf c h) imp_all impact_scope (scope_beq c.u0)

theorem exploitability_obj (c : Model.O31) (h : c.wf = true) :
    within12 c.exploitability (Spec.V3.exploitability (val c)) = true := by
  rw [exploitability_eq, val_eq]
  exact exploitability_codes (inRange_of_wf c h)

end V31
end Proofs.Score3
