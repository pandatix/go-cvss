import Cvss.Proofs.F64Lg
/-!
# `F64.div` in a form whose kernel evaluation is linear in the number of divisions

The kernel caches weak head normal forms under the term that was reduced, and hashes a `Nat` literal by its
low-order bits. `F64.divF` binds with the forcing `flet` the shifted dividend `mx·2^k` and, when the division is
exact, quotients that end in sixty and more zero bits; `F64.rnd` binds its significand argument the same way. Every
term the continuations build from such a literal hashes alike, so a table with `n` different divisions walks cache
chains of length `n`, and checking it is quadratic in `n`.

`divK` is the same computation with these values passed on as terms (whose leaves `mx`, `my`, `k` are literals
with ordinary low bits): the cost of a division is the same whatever the divisor and however many there are.
-/
namespace F64

/-- `rnd`, the significand not forced -/
def rndK (sbit m e : Nat) : Nat :=
  flet e fun e => cond (Nat.beq m 0) sbit (flet (Nat.succ (lg m)) (rndB sbit e m))

/-- twice the quotient `n / my`, plus a sticky bit for a non-zero remainder -/
def quotK (n my : Nat) : Nat :=
  cond (Nat.beq (Nat.sub n (Nat.mul (Nat.div n my) my)) 0) (Nat.mul 2 (Nat.div n my)) (Nat.succ (Nat.mul 2 (Nat.div n my)))

def divFK (x y ex ey : Nat) : Nat :=
  flet (mant x ex) fun mx => flet (mant y ey) fun my =>
  flet (Nat.mul (Nat.mod (Nat.add (Nat.shiftRight x 63) (Nat.shiftRight y 63)) 2) P63) fun sbit =>
  cond (Nat.beq my 0) (cond (Nat.beq mx 0) FB.NAN (Nat.add sbit PINF)) <|
  cond (Nat.beq mx 0) sbit <|
  flet (Nat.add 65 (lg my)) fun k =>
  rndK sbit (quotK (Nat.shiftLeft mx k) my)
    (Nat.sub (Nat.sub (Nat.add (Nat.add (exf ex) 4096) 1075) (exf ey)) (Nat.succ k))

def divK (x y : Nat) : Nat :=
  flet x fun x => flet y fun y =>
  flet (ebits x) fun ex => flet (ebits y) fun ey =>
  cond (Nat.blt ex 2047 && Nat.blt ey 2047) (divFK x y ex ey) (FB.div x y)

theorem divK_eq (x y : Nat) : divK x y = div x y := by
  unfold divK div divFK divF quotK rndK rnd
  simp only [flet_eq']

def tenthK (k : Nat) : Nat := divK (ofNat k) (ofNat 10)

theorem tenthK_eq (k : Nat) : tenthK k = tenth k := divK_eq _ _

end F64
