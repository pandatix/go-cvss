import Cvss.Proofs.Parse2Core
import Cvss.Proofs.DefectMove
/-!
# v2.0 parser proofs: the error contract (C18)

`fail_at` locates the first part the walk refuses; the per-defect lemmas combine it with the closed
facts `F_*` of `Parse2Table`. The finding F3 (anything after a complete environmental group is
`ErrInvalidMetricValue`) is characterised exactly by `afterEnv`.
-/
namespace Proofs.Parse2
open Model (Bytes Res cutColon splitN eValue eOrder eTooShort)
open Spec (joinSlash render Pair abvs legal isMetric Metric allLegal Defect insertAt)
open Spec.V2 (metrics shapes Witness)

/-- the defect puts an element after a complete environmental group: `w` ends with the environmental
    group and the inserted element lands at position `w.length` — or it is the copy of the last
    element inserted just before it (the same string as inserting the original after the copy) -/
def afterEnv (w : List Pair) : Defect → Bool
  | .repeated i j _ => afterEnvPos (w.map (·.1)) i j
  | .unknown j _ _ => endsEnv (w.map (·.1)) && j == w.length
  | _ => false

theorem names_getD {w : List Pair} {i : Nat} {p : Pair} (h : w[i]? = some p) :
    (w.map (·.1)).getD i [] = p.1 := by
  rw [List.getD_eq_getElem?_getD, List.getElem?_map, h]; rfl

section contract
variable (K : Contract Model.O20 metrics)

/-- the walk over `pre` (legal pairs) succeeds and reaches `st`; then the part starting with `z` decides -/
theorem fail_at (pre : List Pair) (z : Pair) (post : List Pair)
    (hclean : ∀ x ∈ pre ++ z :: post, CleanPair x) (hlegal : ∀ q ∈ pre, legal metrics q.1 q.2 = true)
    (hp : pre.length ≤ 13) (st : Nat × Nat) (hrun : nrun tbl (pre.map (·.1)) 0 0 = .ok st) :
    (∀ e, nstep tbl st.1 st.2 z.1 = .err e →
      parseK K (joinSlash ((pre ++ z :: post).map render)) = .err e) ∧
    (∀ st', nstep tbl st.1 st.2 z.1 = .ok st' → isMetric metrics z.1 = true →
      (legal metrics z.1 z.2 = false ∨ (pre.length = 13 ∧ post ≠ [])) →
      parseK K (joinSlash ((pre ++ z :: post).map render)) = .err eValue) := by
  have hx : ∀ x ∈ pre.map render ++ render z :: post.map render, 47 ∉ x := by
    intro x hx
    rw [← List.map_cons, ← List.map_append] at hx
    obtain ⟨q, hq, rfl⟩ := List.mem_map.mp hx
    exact (hclean q hq).render_noslash
  obtain ⟨y, rest, hsplit, hy⟩ := splitN_join_decomp 13 (pre.map render) (render z) (post.map render) hx
    (by simpa using hp)
  have hz := hclean z (by simp)
  have hname : (cutColon y).1 = z.1 := by
    rcases hy with ⟨rfl, _⟩ | ⟨more, rfl⟩
    · rw [Lex.cutColon_render hz.colon]
    · rw [cutColon_render_more z hz.colon]
  have hloop : parseK K (joinSlash ((pre ++ z :: post).map render)) =
      loop2With tbl K.set (y :: rest) st.1 st.2 (setAll K.set K.zero pre) := by
    unfold parseK parse20With
    rw [List.map_append, List.map_cons, hsplit,
      loop_prefix tbl K.set pre (y :: rest) 0 0 K.zero (fun q hq => (hclean q (by simp [hq])).colon)
        (fun q hq c => K.set_ok c q.1 q.2 (hlegal q hq)), hrun]
  rw [hloop]
  constructor
  · intro e he
    exact loop_head_nerr tbl K.set y rest st.1 st.2 _ e (by rw [hname]; exact he)
  · intro st' hok hmet hbad
    have hill : legal metrics (cutColon y).1 (cutColon y).2 = false := by
      rcases hy with ⟨rfl, hlast⟩ | ⟨more, rfl⟩
      · rw [Lex.cutColon_render hz.colon]
        rcases hbad with h | ⟨h1, h2⟩
        · exact h
        · have := hlast (by simpa using h1)
          exact absurd (by simpa using this) h2
      · rw [cutColon_render_more z hz.colon]
        exact illegal_of_slash _ _ _
    have hset := K.set_illegal (setAll K.set K.zero pre) (cutColon y).1 (cutColon y).2 (by rw [hname]; exact hmet) hill
    have := loop_head_seterr tbl K.set y rest st.1 st.2 (setAll K.set K.zero pre) st'
      (by rw [hname]; exact hok) (by rw [hset]; simp [eValue, Go.errNil])
    rw [this, hset]

theorem fail_nfail (xs : List Pair) (hl : ∀ x ∈ xs, legal metrics x.1 x.2 = true) (p : Nat) (e : Go.Err)
    (h : nfail tbl (xs.map (·.1)) 0 0 = some (p, e)) (hp : p ≤ 13) :
    parseK K (joinSlash (xs.map render)) = .err e := by
  obtain ⟨hlt, st, hrun, hstep⟩ := nfail_spec tbl _ 0 0 p e h
  have hlt' : p < xs.length := by simpa using hlt
  have hdec : xs = xs.take p ++ xs[p] :: xs.drop (p + 1) := by
    rw [← List.drop_eq_getElem_cons hlt', List.take_append_drop]
  rw [hdec]
  apply (fail_at K (xs.take p) xs[p] (xs.drop (p + 1)) ?_ ?_ ?_ st ?_).1 e
  · simpa using hstep
  · intro x hx
    rw [← hdec] at hx
    exact legal_clean (hl x hx)
  · intro q hq
    exact hl q (List.mem_of_mem_take hq)
  · rw [List.length_take]; omega
  · rw [List.map_take]; exact hrun

/-- a legal proper prefix that stops inside a group -/
theorem fail_short (xs : List Pair) (hl : ∀ x ∈ xs, legal metrics x.1 x.2 = true) (hne : xs ≠ [])
    (hlen : xs.length ≤ 14) (st : Nat × Nat) (hrun : nrun tbl (xs.map (·.1)) 0 0 = .ok st) (hi : st.2 ≠ 0) :
    parseK K (joinSlash (xs.map render)) = .err eTooShort := by
  unfold parseK parse20With
  rw [splitN_join_le 13 _ (render_noslash_of_legal hl) (by simpa using hne) (by simpa using hlen)]
  have := loop_prefix tbl K.set xs [] 0 0 K.zero (fun p hp => (legal_clean (hl p hp)).colon)
    (fun p hp c => K.set_ok c p.1 p.2 (hl p hp))
  rw [List.append_nil] at this
  rw [this, hrun]
  simp only [loop2With, hi, ne_eq, not_false_eq_true, if_true]

/-- F3: anything after a complete vector that ends with the environmental group -/
theorem fail_after_full (u : List Pair) (x : Pair) (hl : allLegal metrics u) (hsh : u.map (·.1) ∈ shapes)
    (henv : endsEnv (u.map (·.1)) = true) (hx : CleanPair x) :
    parseK K (joinSlash ((u ++ [x]).map render)) = .err eValue := by
  obtain ⟨hg, hlen⟩ := F_env _ hsh henv
  have hcl : ∀ q ∈ u ++ [x], CleanPair q := by
    intro q hq
    rcases List.mem_append.mp hq with hq | hq
    · exact legal_clean (hl q hq)
    · simp only [List.mem_singleton] at hq; exact hq ▸ hx
  rcases hlen with hlen | hlen
  · -- 11 elements: the twelfth part meets the `default:` arm
    have hrun := F_run _ hsh (u.map (·.1)).length (Nat.lt_succ_self _)
    rw [List.take_length] at hrun
    refine (fail_at K u x [] hcl hl (by simp at hlen; omega) _ hrun).1 eValue ?_
    exact nstep_ge3 tbl _ _ _ (by omega)
  · -- 14 elements: the fourteenth part keeps `/…`
    rcases List.eq_nil_or_concat u with hu | ⟨u', z, hu⟩
    · subst hu; simp at hlen
    · rw [List.concat_eq_append] at hu
      subst hu
      have hlen' : u'.length = 13 := by simpa using hlen
      have hnames : (u' ++ [z]).map (·.1) = u'.map (·.1) ++ [z.1] := by simp
      have htake : ((u' ++ [z]).map (·.1)).take 13 = u'.map (·.1) := by
        rw [hnames]; exact List.take_left' (by simpa using hlen')
      have hrun := F_run _ hsh 13 (by rw [hlen]; omega)
      rw [htake] at hrun
      have hm := F_match _ hsh 13 (by rw [hlen]; omega)
      rw [htake] at hm
      have hz : ((u' ++ [z]).map (·.1)).getD 13 [] = z.1 := by
        rw [hnames, List.getD_eq_getElem?_getD, List.getElem?_append_right (by simp [hlen'])]
        simp [hlen']
      rw [hz] at hm
      have hzl : legal metrics z.1 z.2 = true := hl z (by simp)
      rw [List.append_assoc]
      cases hst : nstep tbl (after (u'.map (·.1))).1 (after (u'.map (·.1))).2 z.1 with
      | ok st' =>
        refine (fail_at K u' z [x] ?_ (fun q hq => hl q (by simp [hq])) (by omega) _ hrun).2 st' hst
          (Table.isMetric_of_legal hzl) (Or.inr ⟨hlen', by simp⟩)
        intro q hq
        exact hcl q (by simpa [List.append_assoc] using hq)
      | err e => rw [hst] at hm; cases hm
      | panic => rw [hst] at hm; cases hm

theorem witness_facts {w : List Pair} (hw : ∃ s0, Witness s0 w) :
    w.map (·.1) ∈ shapes ∧ allLegal metrics w ∧ w ≠ [] ∧ w.length ≤ 14 := by
  obtain ⟨s0, _, hsh, hl⟩ := hw
  exact ⟨hsh, hl, (witness_len hsh).1, (witness_len hsh).2⟩

theorem err_illegalValue {w : List Pair} (hw : ∃ s0, Witness s0 w) {i : Nat} {a u v : Bytes}
    (hwi : w[i]? = some (a, u)) (hill : legal metrics a v = false) (hvs : 47 ∉ v) :
    parseK K (joinSlash ((w.set i (a, v)).map render)) = .err eValue := by
  obtain ⟨hsh, hl, _, hlen⟩ := witness_facts hw
  have hilt := (List.getElem?_eq_some_iff.mp hwi).1
  have hmet := Table.isMetric_of_legal (hl _ (List.mem_of_getElem? hwi))
  rw [List.set_eq_take_append_cons_drop, if_pos hilt]
  have hrun := F_run _ hsh i (by simp; omega)
  rw [← List.map_take] at hrun
  have hm := F_match _ hsh i (by simpa using hilt)
  rw [← List.map_take, names_getD hwi] at hm
  cases hst : nstep tbl (after ((w.take i).map (·.1))).1 (after ((w.take i).map (·.1))).2 a with
  | ok st' =>
    refine (fail_at K (w.take i) (a, v) (w.drop (i + 1)) ?_ (fun q hq => hl q (List.mem_of_mem_take hq))
      (by rw [List.length_take]; omega) _ hrun).2 st' hst hmet (Or.inl hill)
    intro q hq
    rcases List.mem_append.mp hq with hq | hq
    · exact legal_clean (hl q (List.mem_of_mem_take hq))
    · rcases List.mem_cons.mp hq with rfl | hq
      · exact ⟨(good.name_clean hmet).1, (good.name_clean hmet).2, hvs⟩
      · exact legal_clean (hl q (List.mem_of_mem_drop hq))
  | err e => rw [hst] at hm; cases hm
  | panic => rw [hst] at hm; cases hm

/-- "misplaced", in general: element `i` taken out and put back at position `j ≠ i`. No exception of the
    F3 kind: the result has the length of `w`, so the first element the automaton refuses is always among
    the first 14 parts and never after a complete environmental group. -/
theorem err_move {w : List Pair} (hw : ∃ s0, Witness s0 w) {i j : Nat} {p : Pair} (hwi : w[i]? = some p)
    (hji : j ≠ i) (hj : j < w.length) :
    parseK K (joinSlash ((insertAt (w.eraseIdx i) j p).map render)) = .err eOrder := by
  obtain ⟨hsh, hl, _, hlen⟩ := witness_facts hw
  have hgood := F_move _ hsh i (by simpa using (List.getElem?_eq_some_iff.mp hwi).1) j (by simpa using hj) hji
  rw [names_getD hwi] at hgood
  obtain ⟨p', hp', hnf⟩ := good3_spec hgood
  refine fail_nfail K _ ?_ p' eOrder (by rw [Move.map_insertAt, Move.map_eraseIdx]; exact hnf) hp'
  exact fun x hx => hl x (Move.mem_moved hwi hx)

theorem err_swap {w : List Pair} (hw : ∃ s0, Witness s0 w) {i : Nat} {p q : Pair} (hp : w[i]? = some p)
    (hq : w[i + 1]? = some q) :
    parseK K (joinSlash (((w.set i q).set (i + 1) p).map render)) = .err eOrder := by
  rw [Move.swap_eq_move hp hq]
  exact err_move K hw hp (by omega) (List.getElem?_eq_some_iff.mp hq).1

/-- the exact form of "cut short inside a started group": any proper non-empty prefix whose abbreviations
    are not themselves a complete vector (covers `n = 9` of base+environmental and `n = 11` of
    base+temporal+environmental, which `Defect.truncate` leaves out) -/
theorem err_truncate_exact {w : List Pair} (hw : ∃ s0, Witness s0 w) (n : Nat) (h1 : 1 ≤ n) (h2 : n < w.length)
    (h3 : (w.take n).map (·.1) ∉ shapes) :
    parseK K (joinSlash ((w.take n).map render)) = .err eTooShort := by
  obtain ⟨hsh, hl, _, hlen⟩ := witness_facts hw
  have hrun := F_run _ hsh n (by simp; omega)
  rw [← List.map_take] at hrun
  have hi := F_trunc_exact _ hsh n (by simpa using h2) h1 (by rw [← List.map_take]; exact h3)
  rw [← List.map_take] at hi
  refine fail_short K (w.take n) (fun x hx => hl x (List.mem_of_mem_take hx)) ?_ ?_ _ hrun hi
  · intro h0
    have : (w.take n).length = 0 := by rw [h0]; rfl
    rw [List.length_take] at this
    omega
  · rw [List.length_take]; omega

/-- a cut at a length at which no vector is complete is such a prefix -/
theorem err_truncate {w : List Pair} (hw : ∃ s0, Witness s0 w) {n : Nat} (h1 : 1 ≤ n) (h2 : n < w.length)
    (h3 : n ∉ Spec.V2.completeLengths) :
    parseK K (joinSlash ((w.take n).map render)) = .err eTooShort :=
  err_truncate_exact K hw n h1 h2 fun hsh => h3 (by
    have := shapes_lengths _ hsh
    rwa [List.length_map, List.length_take, Nat.min_eq_left (Nat.le_of_lt h2)] at this)

theorem insertAt_end (w : List Pair) (x : Pair) : insertAt w w.length x = w ++ [x] := by
  unfold insertAt
  rw [List.take_length, List.drop_length]

theorem err_repeated {w : List Pair} (hw : ∃ s0, Witness s0 w) {i j : Nat} {a u v : Bytes}
    (hwi : w[i]? = some (a, u)) (hlv : legal metrics a v = true) (hj : j ≤ w.length)
    (hna : afterEnvPos (w.map (·.1)) i j = false) :
    parseK K (joinSlash ((insertAt w j (a, v)).map render)) = .err eOrder := by
  obtain ⟨hsh, hl, _, hlen⟩ := witness_facts hw
  have hgood := F_rep _ hsh i (by simpa using (List.getElem?_eq_some_iff.mp hwi).1) j (by simp; omega) hna
  rw [names_getD hwi] at hgood
  obtain ⟨p', hp', hnf⟩ := good3_spec hgood
  refine fail_nfail K _ ?_ p' eOrder (by rw [Move.map_insertAt]; exact hnf) hp'
  intro x hx
  rcases Move.mem_insertAt hx with hx | rfl
  · exact hl x hx
  · exact hlv

theorem err_unknown {w : List Pair} (hw : ∃ s0, Witness s0 w) {j : Nat} {a v : Bytes}
    (hnm : isMetric metrics a = false) (hcl : CleanPair (a, v)) (hj : j ≤ w.length)
    (hna : (endsEnv (w.map (·.1)) && j == w.length) = false) :
    parseK K (joinSlash ((insertAt w j (a, v)).map render)) = .err eOrder := by
  obtain ⟨hsh, hl, _, hlen⟩ := witness_facts hw
  obtain ⟨hj13, hstep⟩ := F_unk _ hsh j (by simp; omega) (by simpa using hna)
  have hrun := F_run _ hsh j (by simp; omega)
  rw [← List.map_take] at hrun hstep
  have ha : a ∉ tbl.flatten := by
    show a ∉ GenV20.tbl_order.flatten
    rw [tbl_flatten]; exact fun h => by rw [Table.isMetric_iff.mpr h] at hnm; cases hnm
  have hnil : ([] : Bytes) ∉ tbl.flatten := by
    show [] ∉ GenV20.tbl_order.flatten
    rw [tbl_flatten]; exact empty_not_metric
  unfold insertAt
  refine (fail_at K (w.take j) (a, v) (w.drop j) ?_ (fun q hq => hl q (List.mem_of_mem_take hq))
    (by rw [List.length_take]; omega) _ hrun).1 eOrder ?_
  · intro q hq
    rcases List.mem_append.mp hq with hq | hq
    · exact legal_clean (hl q (List.mem_of_mem_take hq))
    · rcases List.mem_cons.mp hq with rfl | hq
      · exact hcl
      · exact legal_clean (hl q (List.mem_of_mem_drop hq))
  · show nstep tbl _ _ a = _
    rw [nstep_unknown _ _ ha hnil]; exact hstep

theorem cleanPair_of_unknown {a v : Bytes} (hc : Spec.clean a = true) (hv : Spec.SLASH ∉ v) : CleanPair (a, v) :=
  ⟨(Defect.clean_iff.mp hc).2, (Defect.clean_iff.mp hc).1, hv⟩

/-- F3, characterised: under `afterEnv` the documented code 3 is promised and code 4 is returned -/
theorem err_afterEnv {w : List Pair} (hw : ∃ s0, Witness s0 w) (d : Defect) (s : Bytes)
    (e : Spec.ErrVal) (h : d.apply .v20 w = some (s, e)) (ha : afterEnv w d = true) :
    parseK K s = .err ⟨4, []⟩ ∧ e = (3, []) := by
  obtain ⟨hsh, hl, hne, hlen⟩ := witness_facts hw
  cases d with
  | repeated i j v =>
    obtain ⟨a, u, hwi, hlv, hj, rfl, rfl⟩ := Defect.repeated_eq_some h
    refine ⟨?_, rfl⟩
    show parseK K (joinSlash ((insertAt w j (a, v)).map render)) = .err eValue
    simp only [afterEnv, afterEnvPos, Bool.and_eq_true, Bool.or_eq_true, beq_iff_eq, List.length_map] at ha
    obtain ⟨henv, hpos⟩ := ha
    rcases hpos with rfl | ⟨hi, hj'⟩
    · rw [insertAt_end]
      exact fail_after_full K w (a, v) hl hsh henv (legal_clean hlv)
    · -- the copy is inserted just before the last element
      have hij : i = j := by omega
      subst hij
      have hilt := (List.getElem?_eq_some_iff.mp hwi).1
      have hdrop : w.drop i = [(a, u)] := by
        rw [List.drop_eq_getElem_cons hilt, (List.getElem?_eq_some_iff.mp hwi).2,
          List.drop_eq_nil_of_le (by omega)]
      have hxs : insertAt w i (a, v) = (w.take i ++ [(a, v)]) ++ [(a, u)] := by
        unfold insertAt; rw [hdrop]; simp
      rw [hxs]
      have hnames : (w.take i ++ [(a, v)]).map (·.1) = w.map (·.1) := by
        have hlast := F_env_last _ hsh henv
        rw [List.length_map, show w.length - 1 = i by omega, names_getD hwi] at hlast
        rw [List.map_append, List.map_take]
        exact hlast
      refine fail_after_full K _ (a, u) ?_ (by rw [hnames]; exact hsh) (by rw [hnames]; exact henv)
        (legal_clean (hl _ (List.mem_of_getElem? hwi)))
      intro q hq
      rcases List.mem_append.mp hq with hq | hq
      · exact hl q (List.mem_of_mem_take hq)
      · simp only [List.mem_singleton] at hq; subst hq; exact hlv
  | unknown j a v =>
    obtain ⟨hnm, hc, hv, hj, rfl, rfl⟩ := Defect.unknown_eq_some h
    refine ⟨?_, rfl⟩
    show parseK K (joinSlash ((insertAt w j (a, v)).map render)) = .err eValue
    simp only [afterEnv, Bool.and_eq_true, beq_iff_eq] at ha
    obtain ⟨henv, rfl⟩ := ha
    rw [insertAt_end]
    exact fail_after_full K w (a, v) hl hsh henv (cleanPair_of_unknown hc hv)
  | header p => simp [afterEnv] at ha
  | illegalValue i v => simp [afterEnv] at ha
  | removeMandatory i => simp [afterEnv] at ha
  | swap i => simp [afterEnv] at ha
  | truncate n => simp [afterEnv] at ha
  | move i j => simp [afterEnv] at ha

/-- the error contract for every defect that does not put an element after a complete environmental group -/
theorem err_partial {w : List Pair} (hw : ∃ s0, Witness s0 w) (d : Defect) (s : Bytes)
    (e : Spec.ErrVal) (h : d.apply .v20 w = some (s, e)) (hna : afterEnv w d = false) :
    parseK K s = .err ⟨e.1, e.2⟩ := by
  cases d with
  | repeated i j v =>
    obtain ⟨a, u, hwi, hlv, hj, rfl, rfl⟩ := Defect.repeated_eq_some h
    exact err_repeated K hw hwi hlv hj hna
  | unknown j a v =>
    obtain ⟨hnm, hc, hv, hj, rfl, rfl⟩ := Defect.unknown_eq_some h
    exact err_unknown K hw hnm (cleanPair_of_unknown hc hv) hj hna
  | header p => exact absurd rfl (Defect.header_eq_some h).1
  | illegalValue i v =>
    obtain ⟨a, x, hi, hl, hs, rfl, rfl⟩ := Defect.illegalValue_eq_some h
    exact err_illegalValue K hw hi hl hs
  | removeMandatory i => rcases (Defect.removeMandatory_eq_some h).1 with h | h <;> cases h
  | swap i =>
    obtain ⟨_, p, q, hp, hq, rfl, rfl⟩ := Defect.swap_eq_some h
    exact err_swap K hw hp hq
  | truncate n =>
    obtain ⟨rfl, rfl, ⟨_, h1, h2, h3⟩ | ⟨hv, _⟩⟩ := Defect.truncate_eq_some h
    · exact err_truncate K hw h1 h2 h3
    · cases hv
  | move i j =>
    obtain ⟨_, p, hp, hji, hj, rfl, rfl⟩ := Defect.move_eq_some h
    exact err_move K hw hp hji hj

end contract
end Proofs.Parse2
