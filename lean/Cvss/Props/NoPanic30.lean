import Cvss.Gen.V30
import Cvss.Proofs.NoPanic30
/-!
# No panic, package 30 (CVSS v3.0): the scoring methods return normally on every well-formed object

`Gen/K30.lean` is regenerated from the Go source on every check (`tools/okgen` + `tools/gen`): for every function `f` of the
package that can panic — in this package the only panic sources are the `default: panic(...)` branches of the weight helpers
`cia`, `ciar`, `attackVector`, `attackComplexity`, `privilegesRequired`, `userInteraction`, `exploitCodeMaturity`,
`remediationLevel`, `reportConfidence`, and whoever calls them — it contains a twin `f_ok` that returns `true` exactly when `f`
returns normally. The theorems below say: on a well-formed object (`c.wf = true`, i.e. every field holds the code of one of its
metric's values; equivalent to "reachable through the API", `Bits30.reachable_iff_wf`) every twin of a scoring method
returns `true`. The proofs do not enumerate objects: `wf` puts every field code in its value range
(`Proofs.Score3.V30.inRange_of_wf`), each twin on codes is exactly the conjunction of the range tests of the codes it reads
(`Proofs.NoPanic30.*_core_eq`), and the effective code `mod base modified` of a Modified metric stays in the Base metric's range.
-/
namespace Props.NoPanic30
open Model Proofs.NoPanic3 Proofs.Score3.V30 Proofs.NoPanic30

/-! ## 1. The twins of the API methods return `true` on well-formed objects -/

theorem impact_ok (c : O30) (h : c.wf = true) : GenK30.Impact_ok c.u0 c.u1 c.u2 c.u3 c.u4 c.u5 = true := by
  have R := inRange_of_wf c h
  exact (impact_core_eq ..).trans (rngImpact_true R.h5 R.h6 R.h7)

theorem exploitability_ok (c : O30) (h : c.wf = true) : GenK30.Exploitability_ok c.u0 c.u1 c.u2 c.u3 c.u4 c.u5 = true := by
  have R := inRange_of_wf c h
  exact (exploitability_core_eq ..).trans (rngExpl_true R.h0 R.h1 R.h2 R.h3)

theorem baseScore_ok (c : O30) (h : c.wf = true) : GenK30.BaseScore_ok c.u0 c.u1 c.u2 c.u3 c.u4 c.u5 = true := by
  have R := inRange_of_wf c h
  exact (baseScore_core_eq ..).trans
    (Bool.and_eq_true_iff.mpr ⟨rngImpact_true R.h5 R.h6 R.h7, rngExpl_true R.h0 R.h1 R.h2 R.h3⟩)

theorem temporalScore_ok (c : O30) (h : c.wf = true) : GenK30.TemporalScore_ok c.u0 c.u1 c.u2 c.u3 c.u4 c.u5 = true := by
  have R := inRange_of_wf c h
  exact (temporalScore_core_eq ..).trans (Bool.and_eq_true_iff.mpr ⟨rngTemporal_true R.h8 R.h9 R.h10,
    Bool.and_eq_true_iff.mpr ⟨rngImpact_true R.h5 R.h6 R.h7, rngExpl_true R.h0 R.h1 R.h2 R.h3⟩⟩)

theorem environmentalScore_ok (c : O30) (h : c.wf = true) :
    GenK30.EnvironmentalScore_ok c.u0 c.u1 c.u2 c.u3 c.u4 c.u5 = true := by
  have R := inRange_of_wf c h
  exact (environmentalScore_core_eq ..).trans (rngEnv_true mod_isMod R.h11 R.h12 R.h13 R.h8 R.h9 R.h10 R.h5 R.h19 R.h6 R.h20
    R.h7 R.h21 R.h0 R.h14 R.h1 R.h15 R.h2 R.h16 R.h3 R.h17)

/-- all five at once -/
theorem scoring_ok (c : O30) (h : c.wf = true) :
    GenK30.BaseScore_ok c.u0 c.u1 c.u2 c.u3 c.u4 c.u5 = true ∧
    GenK30.TemporalScore_ok c.u0 c.u1 c.u2 c.u3 c.u4 c.u5 = true ∧
    GenK30.EnvironmentalScore_ok c.u0 c.u1 c.u2 c.u3 c.u4 c.u5 = true ∧
    GenK30.Impact_ok c.u0 c.u1 c.u2 c.u3 c.u4 c.u5 = true ∧
    GenK30.Exploitability_ok c.u0 c.u1 c.u2 c.u3 c.u4 c.u5 = true :=
  ⟨baseScore_ok c h, temporalScore_ok c h, environmentalScore_ok c h, impact_ok c h, exploitability_ok c h⟩

/-- the hypothesis is satisfiable by a non-trivial object
    (`CVSS:3.0/AV:A/AC:H/PR:L/UI:R/S:C/C:L/I:L/A:N/E:U/RL:O/RC:U/CR:L/IR:M/AR:H/MAV:P/MAC:H/MPR:H/MUI:R/MS:C/MC:N/MI:L/MA:H`)
    and by the zero value -/
example : (⟨0x6E, 0xB4, 0x9F, 0x32, 0xEB, 0x90⟩ : O30).wf = true := by decide
example : O30.zero.wf = true := by decide

/-! ## 2. The functions that cannot panic at all -/

/-- The functions of the package without any panic source (no `panic`, no index expression, no call of a function that has
    one), as `okgen` computes the set from the source; they get no twin. Hence **`CVSS30.Get`, `CVSS30.Set`, `CVSS30.Vector`
    and the package function `Rating` are panic-free by construction on every object, well formed or not**, as are the
    internal `get`, `lenVec`, `validate`, `mandatory`, `notMandatory`, `mod`, `pow15`, `roundup` and the `Error`
    methods of the error types. Every other function of the package that `okgen` handles has a twin in `GenK30`
    (`BaseScore`, `TemporalScore`, `EnvironmentalScore`, `Impact`, `Exploitability` and the nine weight helpers).
    (`ParseVector` is not handled by `okgen`; it is modelled by the parser-mode translator, `Gen/P30.lean`.) -/
theorem panic_free : GenK30.tbl_okPanicFree =
    [Spec.b "CVSS30.Get", Spec.b "CVSS30.Set", Spec.b "CVSS30.Vector", Spec.b "CVSS30.get", Spec.b "ErrDefinedN.Error",
     Spec.b "ErrInvalidMetric.Error", Spec.b "ErrMissing.Error", Spec.b "Rating", Spec.b "lenVec", Spec.b "mandatory",
     Spec.b "mod", Spec.b "notMandatory", Spec.b "pow15", Spec.b "roundup", Spec.b "validate"] := by decide

/-! ## 3. Not vacuous: the twins return `false` on byte states that are not well formed -/

/-- `C` holds the code 3 (no such value): not well formed, and `Impact`, `BaseScore`, `TemporalScore` panic in `cia` -/
example : (⟨1, 128, 0, 0, 0, 0⟩ : O30).wf = false := by decide
example : GenK30.Impact_ok 1 128 0 0 0 0 = false := by decide
example : GenK30.BaseScore_ok 1 128 0 0 0 0 = false := by decide
example : GenK30.TemporalScore_ok 1 128 0 0 0 0 = false := by decide
/-- `PR` holds the code 3: `Exploitability` panics in `privilegesRequired` -/
example : (⟨24, 0, 0, 0, 0, 0⟩ : O30).wf = false := by decide
example : GenK30.Exploitability_ok 24 0 0 0 0 0 = false := by decide
/-- `E` holds the code 7: `TemporalScore` panics in `exploitCodeMaturity` (while `BaseScore` does not panic) -/
example : (⟨0, 7, 0, 0, 0, 0⟩ : O30).wf = false := by decide
example : GenK30.TemporalScore_ok 0 7 0 0 0 0 = false ∧ GenK30.BaseScore_ok 0 7 0 0 0 0 = true := by decide
/-- `MAV` holds the code 7, effective code 6: `EnvironmentalScore` panics in `attackVector` -/
example : (⟨0, 0, 0, 28, 0, 0⟩ : O30).wf = false := by decide
example : GenK30.EnvironmentalScore_ok 0 0 0 28 0 0 = false := by decide
/-- the helper twins are exactly range tests, e.g. `cia_ok v = (v < 3)` -/
example : ∀ v, GenK30.cia_ok v = Nat.blt v 3 := cia_rng
/-- … and so is every method twin on codes, e.g. `Impact` returns normally exactly when `C`, `I`, `A` hold codes below 3 -/
example (r0 r1 r2 r3 : Nat) : GenK30.Impact_ok_core r0 r1 r2 r3 = (Nat.blt r0 3 && Nat.blt r1 3 && Nat.blt r2 3) :=
  impact_core_eq r0 r1 r2 r3

/-! ## 4. The K copies of the ordinary functions are the V ones -/
theorem k_eq_v :
    GenK30.cia = GenV30.cia ∧ GenK30.ciar = GenV30.ciar ∧ GenK30.attackVector = GenV30.attackVector ∧
    GenK30.attackComplexity = GenV30.attackComplexity ∧ GenK30.privilegesRequired = GenV30.privilegesRequired ∧
    GenK30.userInteraction = GenV30.userInteraction ∧ GenK30.exploitCodeMaturity = GenV30.exploitCodeMaturity ∧
    GenK30.remediationLevel = GenV30.remediationLevel ∧ GenK30.reportConfidence = GenV30.reportConfidence ∧
    GenK30.mod_ = GenV30.mod_ ∧ GenK30.pow15 = GenV30.pow15 ∧
    GenK30.Impact_core = GenV30.Impact_core ∧ GenK30.Impact = GenV30.Impact ∧
    GenK30.Exploitability_core = GenV30.Exploitability_core ∧ GenK30.Exploitability = GenV30.Exploitability :=
  ⟨rfl, rfl, rfl, rfl, rfl, rfl, rfl, rfl, rfl, rfl, rfl, rfl, rfl, rfl, rfl⟩

end Props.NoPanic30
