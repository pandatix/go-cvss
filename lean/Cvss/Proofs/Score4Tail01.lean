import Cvss.Proofs.Score4TailDef
/-! The v4.0 float tail and the primitive form of the Spec's score, checked by the kernel on the six chunks with
EQ5 = 1: 90 MacroVectors, 17,550 (MacroVector, distances) points. `tail_abc` is EQ1 = a, EQ2 = b, EQ5 = c. -/
namespace Proofs.Score4
theorem tail_001 : tailChunk 0 0 1 = true := by decide +kernel
theorem tail_011 : tailChunk 0 1 1 = true := by decide +kernel
theorem tail_101 : tailChunk 1 0 1 = true := by decide +kernel
theorem tail_111 : tailChunk 1 1 1 = true := by decide +kernel
theorem tail_201 : tailChunk 2 0 1 = true := by decide +kernel
theorem tail_211 : tailChunk 2 1 1 = true := by decide +kernel
end Proofs.Score4
