import Cvss.Spec.V4
/-!
# Self-consistency of the v4.0 scoring specification (independent of the code)

For each EQ group (EQ1, EQ2, EQ3+EQ6 jointly, EQ4, EQ5), over **all** vectors of legal effective values:

* `dominated`   — every vector is dominated by at least one highest severity vector of its level;
* `sameSum`     — all highest severity vectors of the level that dominate a vector are at the same severity
                  distance from it (so "the first valid one" of the specification and "the last valid one" of
                  an implementation that keeps iterating give the same distance);
* `maxesInLevel`— the highest severity vectors belong to the level they are listed for;
* `depthOk`     — the depth (+1) table is the maximal severity distance in the level (+1);
* `pareto`      — the listed highest severity vectors are exactly the Pareto maxima of the level (vectors of
                  the level that no other vector of the level dominates).

Also: the lookup table has 270 distinct keys, is monotone (a next-lower MacroVector never scores higher),
the next-lower MacroVectors exist exactly as the level ranges say (all by kernel evaluation), and the mean never
exceeds the value (each term is `(value − low)·dist/depthP1 ≤ value` because `dist < depthP1`).
-/
namespace Spec.V4

structure Group where
  /-- all vectors of the group (all combinations of legal effective values) -/
  all : List Vec
  /-- level of a vector (EQ3/EQ6 jointly: `2·EQ3 + EQ6`) -/
  lvl : Vec → Nat
  levels : List Nat
  maxes : Nat → List Vec
  depthP1 : Nat → Nat

def valuesOf (a : String) : List Bytes := orderOf (b a)

def group1 : Group where
  all := (valuesOf "AV").flatMap fun av => (valuesOf "PR").flatMap fun pr => (valuesOf "UI").map fun ui => vec1 av pr ui
  lvl v := eq1 (v.get (b "AV")) (v.get (b "PR")) (v.get (b "UI"))
  levels := [0, 1, 2]
  maxes := maxes1
  depthP1 := depth1P1

def group2 : Group where
  all := (valuesOf "AC").flatMap fun ac => (valuesOf "AT").map fun at_ => vec2 ac at_
  lvl v := eq2 (v.get (b "AC")) (v.get (b "AT"))
  levels := [0, 1]
  maxes := maxes2
  depthP1 := depth2P1

def group36 : Group where
  all := (valuesOf "VC").flatMap fun vc => (valuesOf "VI").flatMap fun vi => (valuesOf "VA").flatMap fun va =>
         (valuesOf "CR").flatMap fun cr => (valuesOf "IR").flatMap fun ir => (valuesOf "AR").map fun ar =>
           vec36 vc vi va cr ir ar
  lvl v := 2 * eq3 (v.get (b "VC")) (v.get (b "VI")) (v.get (b "VA")) +
           eq6 (v.get (b "VC")) (v.get (b "VI")) (v.get (b "VA")) (v.get (b "CR")) (v.get (b "IR")) (v.get (b "AR"))
  levels := [0, 1, 2, 3, 5]
  maxes l := maxes36 (l / 2) (l % 2)
  depthP1 l := depth36P1 (l / 2) (l % 2)

def group4 : Group where
  all := (valuesOf "SC").flatMap fun sc => (valuesOf "SI").flatMap fun si => (valuesOf "SA").map fun sa => vec4 sc si sa
  lvl v := eq4 (v.get (b "SC")) (v.get (b "SI")) (v.get (b "SA"))
  levels := [0, 1, 2]
  maxes := maxes4
  depthP1 := depth4P1

def group5 : Group where
  all := (valuesOf "E").map fun e => vec5 e
  lvl v := eq5 (v.get (b "E"))
  levels := [0, 1, 2]
  maxes := maxes5
  depthP1 := depth5P1

namespace Group

def dominated (g : Group) : Bool := g.all.all fun v => (g.maxes (g.lvl v)).any (dominates · v)

def sameSum (g : Group) : Bool :=
  g.all.all fun v => ((g.maxes (g.lvl v)).filter (dominates · v)).all fun m =>
    distance m v == distTo (g.maxes (g.lvl v)) v

def maxesInLevel (g : Group) : Bool :=
  g.levels.all fun l => (g.maxes l).all fun m => g.all.contains m && g.lvl m == l

def levelsCover (g : Group) : Bool := g.all.all fun v => g.levels.contains (g.lvl v)

def depthOk (g : Group) : Bool :=
  g.levels.all fun l =>
    (((g.all.filter (g.lvl · == l)).map (distTo (g.maxes l))).foldl max 0) + 1 == g.depthP1 l

/-- `w` strictly dominates `v`: at least as severe everywhere and different -/
def strictlyAbove (w v : Vec) : Bool := w != v && dominates w v

def pareto (g : Group) : Bool :=
  g.levels.all fun l =>
    let vs := g.all.filter (g.lvl · == l)
    vs.all fun v => (!(vs.any (strictlyAbove · v))) == (g.maxes l).contains v

def ok (g : Group) : Bool :=
  g.dominated && g.sameSum && g.maxesInLevel && g.levelsCover && g.depthOk && g.pareto

end Group

theorem group1_ok : group1.ok = true := by decide +kernel
theorem group2_ok : group2.ok = true := by decide +kernel
theorem group4_ok : group4.ok = true := by decide +kernel
theorem group5_ok : group5.ok = true := by decide +kernel
theorem group36_ok : group36.ok = true := by decide +kernel

theorem group_sizes : group1.all.length = 36 ∧ group2.all.length = 4 ∧ group36.all.length = 729 ∧
    group4.all.length = 48 ∧ group5.all.length = 3 := by decide +kernel

theorem dist5_zero : (valuesOf "E").all (fun e => dist5 e == 0) = true := by decide +kernel

/-- the MacroVectors the level ranges allow: EQ3 = 2 with EQ6 = 0 is impossible -/
def allMV : List MV :=
  (List.range 3).flatMap fun q1 => (List.range 2).flatMap fun q2 => (List.range 3).flatMap fun q3 =>
  (List.range 3).flatMap fun q4 => (List.range 3).flatMap fun q5 => (List.range 2).filterMap fun q6 =>
    if q3 == 2 && q6 == 0 then none else some (q1, q2, q3, q4, q5, q6)

/-- the table has exactly the 270 possible MacroVectors, each once -/
theorem table_keys : table.length = 270 ∧ allMV.length = 270 ∧
    (allMV.all fun mv => (table.filter (·.1 == key mv)).length == 1) = true := by decide +kernel

/-- a next-lower MacroVector exists exactly when the level is not the last one of its EQ, and never scores higher -/
def lowerOk (mv : MV) : Bool :=
  match mv with
  | (q1, q2, q3, q4, q5, _) =>
    let v := (lookup mv).getD 0
    let chk (o : Option Nat) (ex : Bool) : Bool := o.isSome == ex && (o.getD 0) ≤ v
    chk (lower1 mv) (q1 < 2) && chk (lower2 mv) (q2 < 1) && chk (lower4 mv) (q4 < 2) && chk (lower5 mv) (q5 < 2) &&
    chk (lower36 mv) (!(q3 == 2))

theorem lower_ok : allMV.all lowerOk = true := by decide +kernel

/-- within the depths of a MacroVector the mean never exceeds the MacroVector's value (and its denominator is
    positive), so `exactOf`'s natural-number subtraction is exact -/
def meanOk (mv : MV) : Bool :=
  match mv with
  | (q1, q2, q3, q4, _, q6) =>
    (List.range (depth1P1 q1)).all fun d1 => (List.range (depth2P1 q2)).all fun d2 =>
    (List.range (depth36P1 q3 q6)).all fun d36 => (List.range (depth4P1 q4)).all fun d4 =>
      let m := meanOf mv d1 d2 d36 d4 0
      0 < m.den && m.num ≤ (lookup mv).getD 0 * m.den

/-- `x` has a positive denominator and value at most `n · v` -/
def Frac.Below (n v : Nat) (x : Frac) : Prop := 0 < x.den ∧ x.num ≤ n * v * x.den

theorem Frac.Below.add {n v : Nat} {x y : Frac} (hx : x.Below n v) (hy : y.Below 1 v) : (x.add y).Below (n + 1) v := by
  refine ⟨Nat.mul_pos hx.1 hy.1, ?_⟩
  show x.num * y.den + y.num * x.den ≤ (n + 1) * v * (x.den * y.den)
  have e : (n + 1) * v * (x.den * y.den) = n * v * x.den * y.den + 1 * v * y.den * x.den := by
    rw [Nat.add_mul, Nat.add_mul]; ac_rfl
  rw [e]
  exact Nat.add_le_add (Nat.mul_le_mul_right y.den hx.2) (Nat.mul_le_mul_right x.den hy.2)

theorem foldl_below {v : Nat} : ∀ (xs : List Frac) {n : Nat} {acc : Frac}, acc.Below n v → (∀ x ∈ xs, x.Below 1 v) →
    (xs.foldl Frac.add acc).Below (n + xs.length) v
  | [], _, _, ha, _ => ha
  | x :: xs, n, _, ha, h => by
    have := foldl_below xs (ha.add (h x (List.mem_cons_self ..))) fun y hy => h y (List.mem_cons_of_mem _ hy)
    rwa [List.length_cons, Nat.add_comm xs.length, ← Nat.add_assoc]

theorem mean_below {v : Nat} {ts : List (Option Frac)} (h : ∀ t, some t ∈ ts → t.Below 1 v) : (mean ts).Below 1 v := by
  have hs := foldl_below (v := v) ts.reduceOption (n := 0) (acc := ⟨0, 1⟩) ⟨Nat.one_pos, Nat.zero_le _⟩ fun x hx => by
    obtain ⟨o, ho, e⟩ := List.mem_filterMap.mp hx
    exact h x (e ▸ ho)
  unfold mean
  simp only []
  split
  · exact ⟨Nat.one_pos, Nat.zero_le _⟩
  · next hl =>
    refine ⟨Nat.mul_pos hs.1 (Nat.pos_of_ne_zero hl), Nat.le_trans hs.2 (Nat.le_of_eq ?_)⟩
    show (0 + _) * v * _ = 1 * v * (_ * _)
    rw [Nat.zero_add, Nat.one_mul]; ac_rfl

theorem term_below {value dist depthP1 : Nat} (hd : dist < depthP1) (lower : Option Nat) {t : Frac}
    (h : some t = term value lower dist depthP1) : t.Below 1 value := by
  obtain ⟨low, _, rfl⟩ := Option.map_eq_some_iff.mp h.symm
  refine ⟨Nat.zero_lt_of_lt hd, ?_⟩
  show (value - low) * dist ≤ 1 * value * depthP1
  rw [Nat.one_mul]
  exact Nat.mul_le_mul (Nat.sub_le ..) (Nat.le_of_lt hd)

theorem meanOk_true (mv : MV) : meanOk mv = true := by
  obtain ⟨q1, q2, q3, q4, q5, q6⟩ := mv
  simp only [meanOk, List.all_eq_true, List.mem_range, Bool.and_eq_true, decide_eq_true_eq]
  intro d1 h1 d2 h2 d36 h36 d4 h4
  have hm : (meanOf (q1, q2, q3, q4, q5, q6) d1 d2 d36 d4 0).Below 1 ((lookup (q1, q2, q3, q4, q5, q6)).getD 0) := by
    refine mean_below fun t ht => ?_
    simp only [List.mem_cons, List.not_mem_nil, or_false] at ht
    rcases ht with e | e | e | e | e
    · exact term_below h1 _ e
    · exact term_below h2 _ e
    · exact term_below h36 _ e
    · exact term_below h4 _ e
    · exact term_below Nat.one_pos _ e
  rwa [Frac.Below, Nat.one_mul] at hm

theorem mean_le_value : allMV.all meanOk = true := List.all_eq_true.mpr fun mv _ => meanOk_true mv

end Spec.V4
