import Cvss.Proofs.Score4Nest
/-!
# The loops of v4.0 `Score` in separable form

The body of the innermost loop (`body`, a piece of the generated `Score_core`) rejects a combination of
highest severity vectors when one of 14 severity distances is negative; the 14 tests fall into four groups,
one per loop variable, and the payload is a tuple with one component per loop variable. `loops_eq` is
`nest_eq` instantiated on it.
-/
namespace Proofs.Score4
open GenV40

/-- decimal digit extraction as the generated code does it: `uint8((x % m) / d)` -/
def dig (x m d : Nat) : Nat := Nat.mod (Nat.div (Nat.mod x m) d) 256

def Z : Nat := (0x0000000000000000 : Nat)

/-! EQ1: AV (metric 0), PR (3), UI (4) -/
def bad1 (av pr ui x : Nat) : Bool :=
  ((F64.lt (severityDistance 0 av (dig x 1000 100)) Z) || (F64.lt (severityDistance 3 pr (dig x 100 10)) Z)) ||
    (F64.lt (severityDistance 4 ui (dig x 10 1)) Z)
def pay1 (av pr ui x : Nat) : Nat :=
  F64.add (F64.add (severityDistance 0 av (dig x 1000 100)) (severityDistance 3 pr (dig x 100 10)))
    (severityDistance 4 ui (dig x 10 1))

/-! EQ2: AC (1), AT (2) -/
def bad2 (ac at_ x : Nat) : Bool :=
  (F64.lt (severityDistance 1 ac (dig x 100 10)) Z) || (F64.lt (severityDistance 2 at_ (dig x 10 1)) Z)
def pay2 (ac at_ x : Nat) : Nat :=
  F64.add (severityDistance 1 ac (dig x 100 10)) (severityDistance 2 at_ (dig x 10 1))

/-! EQ3+EQ6: VC (5), VI (6), VA (7), CR (12), IR (13), AR (14) -/
def bad36 (vc vi va cr ir ar x : Nat) : Bool :=
  (((((F64.lt (severityDistance 5 vc (dig x 1000000 100000)) Z) || (F64.lt (severityDistance 6 vi (dig x 100000 10000)) Z)) ||
    (F64.lt (severityDistance 7 va (dig x 10000 1000)) Z)) || (F64.lt (severityDistance 12 cr (dig x 1000 100)) Z)) ||
    (F64.lt (severityDistance 13 ir (dig x 100 10)) Z)) || (F64.lt (severityDistance 14 ar (dig x 10 1)) Z)
def pay36 (vc vi va cr ir ar x : Nat) : Nat :=
  F64.add (F64.add (F64.add (F64.add (F64.add (severityDistance 5 vc (dig x 1000000 100000))
    (severityDistance 6 vi (dig x 100000 10000))) (severityDistance 7 va (dig x 10000 1000)))
    (severityDistance 12 cr (dig x 1000 100))) (severityDistance 13 ir (dig x 100 10)))
    (severityDistance 14 ar (dig x 10 1))

/-! EQ4: SC (8), SI (9), SA (10) -/
def bad4 (sc si sa x : Nat) : Bool :=
  ((F64.lt (severityDistance 8 sc (dig x 1000 100)) Z) || (F64.lt (severityDistance 9 si (dig x 100 10)) Z)) ||
    (F64.lt (severityDistance 10 sa (dig x 10 1)) Z)
def pay4 (sc si sa x : Nat) : Nat :=
  F64.add (F64.add (severityDistance 8 sc (dig x 1000 100)) (severityDistance 9 si (dig x 100 10)))
    (severityDistance 10 sa (dig x 10 1))

/-- regrouping the 14 tests by loop variable -/
theorem or14 (av pr ui ac at_ vc vi va sc si sa cr ir ar : Bool) :
    (((((((((((((av || pr) || ui) || ac) || at_) || vc) || vi) || va) || sc) || si) || sa) || cr) || ir) || ar) =
    (((((av || pr) || ui) || (ac || at_)) || ((((((vc || vi) || va) || cr) || ir) || ar))) || ((sc || si) || sa)) := by
  cases av <;> cases pr <;> cases ui <;> cases ac <;> cases at_ <;> simp <;>
  cases vc <;> cases vi <;> cases va <;> simp <;> cases sc <;> cases si <;> cases sa <;> simp

theorem body_eq (av ac at_ pr ui vc vi va sc si sa cr ir ar : Nat) (x1 x2 x3 x4 : Nat) (st : S) :
    body av ac at_ pr ui vc vi va sc si sa cr ir ar x1 x2 x3 x4 st =
      cond (bad1 av pr ui x1 || bad2 ac at_ x2 || bad36 vc vi va cr ir ar x3 || bad4 sc si sa x4)
        (Go.Ctl.next st)
        (Go.Ctl.brk (pay1 av pr ui x1, pay2 ac at_ x2, pay36 vc vi va cr ir ar x3, pay4 sc si sa x4, Z)) := by
  obtain ⟨a, b, c, d, e⟩ := st
  unfold body
  simp only [flet_eq]
  rw [or14]
  rfl

/-- **the loops of `Score`**: last good highest severity vector of EQ1, EQ2, EQ3+EQ6, first good one of EQ4 -/
theorem loops_eq (av ac at_ pr ui vc vi va sc si sa cr ir ar : Nat) (eq1 eq2 eq3 eq4 eq6 : Nat)
    (x1 x2 x3 x4 : Nat)
    (h1 : lastSat (fun x => !bad1 av pr ui x) (Go.idx (Go.idx tbl_highestSeverityVectors 1) eq1) = some x1)
    (h2 : lastSat (fun x => !bad2 ac at_ x) (Go.idx (Go.idx tbl_highestSeverityVectors 2) eq2) = some x2)
    (h3 : lastSat (fun x => !bad36 vc vi va cr ir ar x) (Go.idx (Go.idx tbl_highestSeverityVectorsEQ3EQ6 eq3) eq6) = some x3)
    (h4 : (Go.idx (Go.idx tbl_highestSeverityVectors 4) eq4).find? (fun x => !bad4 sc si sa x) = some x4) :
    loops av ac at_ pr ui vc vi va sc si sa cr ir ar eq1 eq2 eq3 eq4 eq6 =
      Go.Ctl.next (pay1 av pr ui x1, pay2 ac at_ x2, pay36 vc vi va cr ir ar x3, pay4 sc si sa x4, Z) := by
  unfold loops
  exact nest_eq _ (bad1 av pr ui) (bad2 ac at_) (bad36 vc vi va cr ir ar) (bad4 sc si sa)
    (fun x1 x2 x3 x4 => (pay1 av pr ui x1, pay2 ac at_ x2, pay36 vc vi va cr ir ar x3, pay4 sc si sa x4, Z))
    (body_eq av ac at_ pr ui vc vi va sc si sa cr ir ar) _ _ _ _ x1 x2 x3 x4 h1 h2 h3 h4 _

end Proofs.Score4
