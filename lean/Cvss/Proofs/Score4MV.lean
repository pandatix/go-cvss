import Cvss.Proofs.Score4Basic
import Cvss.Gen.V40
/-!
# v4.0 `macroVector`: one function per EQ, read off the generated `macroVector_core`

`eq1c av pr ui` etc. are **defined as components of the generated `macroVector_core`** evaluated on
canonical arguments (base code := the effective code, Modified code := 0 "not defined"), so nothing is
copied by hand. `mvc_eq` shows, by unfolding the generated definition, that `macroVector_core` on arbitrary
raw codes is the tuple of these components on the effective codes `mod_ base modified` (EQ4 additionally
reads the raw MSI/MSA codes, so its component keeps the raw SI/SA pairs).
-/
namespace Proofs.Score4
open GenV40

theorem mod_zero (e : Nat) : mod_ e 0 = e := rfl

def eq1c (av pr ui : Nat) : Nat := (macroVector_core av 0 0 0 0 0 pr 0 ui 0 0 0 0 0 0 0 0 0 0 0 0 0 0 0 0 0).1
def eq2c (ac at_ : Nat) : Nat := (macroVector_core 0 0 ac 0 at_ 0 0 0 0 0 0 0 0 0 0 0 0 0 0 0 0 0 0 0 0 0).2.1
def eq3c (vc vi va : Nat) : Nat := (macroVector_core 0 0 0 0 0 0 0 0 0 0 vc 0 0 0 vi 0 0 0 va 0 0 0 0 0 0 0).2.2.1
/-- `sc`: effective SC code; `msi`, `si`: raw MSI and SI codes; `msa`, `sa`: raw MSA and SA codes -/
def eq4r (sc msi si msa sa : Nat) : Nat :=
  (macroVector_core 0 0 0 0 0 0 0 0 0 0 0 0 sc 0 0 0 msi si 0 0 msa sa 0 0 0 0).2.2.2.1
def eq5c (e : Nat) : Nat := (macroVector_core 0 0 0 0 0 0 0 0 0 0 0 0 0 0 0 0 0 0 0 0 0 0 e 0 0 0).2.2.2.2.1
def eq6c (vc vi va cr ir ar : Nat) : Nat :=
  (macroVector_core 0 0 0 0 0 0 0 0 0 0 vc 0 0 0 vi 0 0 0 va 0 0 0 0 cr ir ar).2.2.2.2.2

theorem mvc_eq (m0 m1 m2 m3 m4 m5 m6 m7 m8 m9 m10 m11 m12 m13 m14 m15 m16 m17 m18 m19 m20 m21 m22 m23 m24 m25 : Nat) :
    macroVector_core m0 m1 m2 m3 m4 m5 m6 m7 m8 m9 m10 m11 m12 m13 m14 m15 m16 m17 m18 m19 m20 m21 m22 m23 m24 m25 =
      (eq1c (mod_ m0 m1) (mod_ m6 m7) (mod_ m8 m9), eq2c (mod_ m2 m3) (mod_ m4 m5),
       eq3c (mod_ m10 m11) (mod_ m14 m15) (mod_ m18 m19), eq4r (mod_ m12 m13) m16 m17 m20 m21, eq5c m22,
       eq6c (mod_ m10 m11) (mod_ m14 m15) (mod_ m18 m19) m23 m24 m25) := by
  simp only [macroVector_core, eq1c, eq2c, eq3c, eq4r, eq5c, eq6c, flet_eq, mod_zero]

end Proofs.Score4
